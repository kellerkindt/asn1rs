import Asn1Verif.Uper.SeqLemmas
import Asn1Verif.Uper.SeqReadLemmas
import Asn1Verif.Uper.RejTotalLemmas
/-
  C03 — OPTIONAL / DEFAULT / extension presence semantics for every SEQUENCE / SET shape.

  Property theorems only.  Models: `Uper/Impl.lean` (`enc`, `encFields`, `SeqAcc.step`; `dec`,
  `decFields` — the compositional mirror of `src/rw/uper.rs`, SET = SEQUENCE there), universe
  `Uper/Types.lean`.  Lemmas: `Uper/SeqPrimLemmas.lean`, `Uper/SeqLemmas.lean` (writer),
  `Uper/SeqReadLemmas.lean` (reader), `Uper/RejTotalLemmas.lean` (the writer never panics); the L1
  facts come from `Per/PrimLemmas*.lean` (C10).

  Every statement is about an arbitrary field list `fields : Fields` (any number of components, any
  mix of mandatory / OPTIONAL / DEFAULT, any component types, with or without extension marker)
  and an arbitrary value list `vs : Vals`.

  Vocabulary (defined in `Uper/SeqLemmas.lean` by plain recursion over (fields, values) —
  independent of the accumulator and the extension state machine of the mirror):
    `presentOf k v`            is the component present? (`m` ↦ yes; `o`: `none` ↦ no, `some _` ↦ yes;
                               `d dv`: `v ≠ dv`; `Option.none` = the value does not fit the kind)
    `contentOf k v`            the value the component's own encoder runs on
    `rootPresence fields vs n` one bit per OPTIONAL/DEFAULT component among the first `n`, in order
    `additionPresence fields vs n`  one bit per component behind the first `n`
    `Layout fields vs n rb ab` `rb`/`ab` hold one bit string per root component / per addition:
                               `[]` for an absent one, its own encoding for a present root component
                               (`RootBody`), its encoding as open type for a present addition
                               (`AddBody`); exactly one value per component
    `CompFails`, `Shaped`, `PrefixFine`   see `refusal_iff`, `refusal_converse`

  Hypotheses that remain (and why):
    * `seq_layout_ext`: `fields.length - (k+1) - 1 ≤ U64_MAX` — the number of additions minus one is
      written as a `u64` (`write_normally_small_non_negative_whole_number`); for a field list
      with more than 2^64 additions the mirror's `natBits 64` truncates, the Rust `usize` cannot
      hold such a count.  No bound like "≤ 64 additions" is needed: `Per.wSmall_ok` (C10) covers both
      forms of X.691 11.6.
    * a mandatory extension addition whose type is a CHOICE or SEQUENCE OF is NOT wrapped as an open
      type by the code (`Ty.buffersOnWrite`); `AddBody` says so explicitly (X.691 19.9 wants every
      addition as open type — that deviation belongs to C02; the converter wraps every extension
      addition in `Option<..>`, so generated types only have OPTIONAL/DEFAULT additions, for which
      the wrapper is always there).  Note: the *reader* unwraps a mandatory SEQUENCE OF addition
      (`Ty.buffersOnRead`), so such a hand-written type would not round-trip.
    * `add_body_open_type`: the wrapper equals `X691.openType` unless the padded component encoding
      is longer than `i64::MAX` octets (then `write_octetstring(None, None, …)` refuses it).
  The bit-level round trip (`dec (enc v) = v`) is property C01; here are the facts on both sides
  that do not need it.
-/
namespace Asn1Verif.Props.C03
open Asn1Verif Asn1Verif.Uper Asn1Verif.Per Outcome

/-! ### writer: layout of a successfully encoded SEQUENCE / SET -/

/-- Not extensible: the encoding is the preamble — exactly one presence bit per OPTIONAL/DEFAULT
    component, in order — followed by the encodings of the present components, in order; absent
    components contribute nothing. -/
theorem seq_layout_nonext (so fc : Nat) (fields : Fields) (vs : Vals) (bits : Bits)
    (h : enc (.seq so fc none fields) (.seq vs) = ok bits) :
    ∃ bodies : List Bits, Layout fields vs fields.length bodies [] ∧
      bits = rootPresence fields vs fields.length ++ bodies.flatten ∧
      (rootPresence fields vs fields.length).length = fields.optCount fields.length := by
  rw [enc_seq, rootCountOf_none] at h
  obtain ⟨acc, ha, hb⟩ := bind_eq_ok.1 h
  obtain ⟨rb, ab, hl, h1, h2, _⟩ := encFields_init ha
  cases List.eq_nil_of_length_eq_zero (hl.lengths.2.2.trans (Nat.sub_self _))
  exact ⟨rb, hl, by rw [← ok.inj hb, h1, h2], hl.presence_lengths.1⟩

/-- … spelled out per component: component `i` has a value `v`; its entry in `bodies` is `[]` when
    it is absent and the result of its own encoder (on `v`, resp. on the `x` of `some x`) when it
    is present. -/
theorem seq_layout_nonext_component (so fc : Nat) (fields : Fields) (vs : Vals) (bits : Bits)
    (h : enc (.seq so fc none fields) (.seq vs) = ok bits) :
    ∃ bodies : List Bits, bits = rootPresence fields vs fields.length ++ bodies.flatten ∧
      bodies.length = fields.length ∧ vs.length = fields.length ∧
      ∀ i k t, fields.get? i = some (k, t) →
        ∃ v b, vs.get? i = some v ∧ bodies[i]? = some b ∧
          ((presentOf k v = some true ∧ enc t (contentOf k v) = ok b) ∨
           (presentOf k v = some false ∧ b = [])) := by
  obtain ⟨bodies, hl, hb, _⟩ := seq_layout_nonext so fc fields vs bits h
  refine ⟨bodies, hb, by simpa using hl.lengths.2.1, hl.lengths.1, ?_⟩
  intro i k t hi
  obtain ⟨v, hv, hb⟩ := hl.get hi
  rw [if_pos (Fields.get?_lt hi)] at hb
  obtain ⟨b, hbi, hrb⟩ := hb
  exact ⟨v, b, hv, hbi, hrb.cases⟩

/-- Extensible (`extAfter = some k`: components `0..k` are the root, the rest are additions):
      extension bit  = "some addition is present",
      root preamble  = one bit per OPTIONAL/DEFAULT *root* component,
      root bodies,
    and, only when the extension bit is set,
      number of additions − 1 as normally small number (X.691 11.6 / 19.8),
      one presence bit per addition (all of them, whatever their kind),
      the present additions as open types.
    Moreover the extension bit is set iff the FIRST addition is present (on success). -/
theorem seq_layout_ext (so fc k : Nat) (fields : Fields) (vs : Vals) (bits : Bits)
    (hn : fields.length - (k + 1) - 1 ≤ U64_MAX)
    (h : enc (.seq so fc (some k) fields) (.seq vs) = ok bits) :
    ∃ rootBodies addBodies : List Bits, Layout fields vs (k + 1) rootBodies addBodies ∧
      bits = (additionPresence fields vs (k + 1)).any id ::
        rootPresence fields vs (k + 1) ++ rootBodies.flatten ++
        (if (additionPresence fields vs (k + 1)).any id then
          X691.small (fields.length - (k + 1) - 1) ++ additionPresence fields vs (k + 1) ++
            addBodies.flatten
         else []) ∧
      (rootPresence fields vs (k + 1)).length = fields.optCount (k + 1) ∧
      (additionPresence fields vs (k + 1)).length = fields.length - (k + 1) ∧
      ((additionPresence fields vs (k + 1)).any id = true ↔
        (additionPresence fields vs (k + 1)).head? = some true) := by
  obtain ⟨rb, ab, sm, hl, hsm, hb, hx⟩ := enc_seq_ext_layout h
  cases (Per.wSmall_ok _ hn).symm.trans hsm
  exact ⟨rb, ab, hl, hb, hl.presence_lengths.1, hl.presence_lengths.2, hx⟩

/-- the extension bit of a successful encoding: set iff an extension addition is present, iff the
    first one is -/
theorem ext_bit_iff (so fc k : Nat) (fields : Fields) (vs : Vals) (bits : Bits)
    (h : enc (.seq so fc (some k) fields) (.seq vs) = ok bits) :
    bits.head? = some ((additionPresence fields vs (k + 1)).any id) ∧
    ((additionPresence fields vs (k + 1)).any id = true ↔
      (additionPresence fields vs (k + 1)).head? = some true) := by
  obtain ⟨_, _, _, _, _, hb, hx⟩ := enc_seq_ext_layout h
  exact ⟨by rw [hb]; rfl, hx⟩

/-- what `Layout` says about component `i`: it has a value; a root component (`i < n`) owns entry
    `i` of the root bodies, an addition entry `i − n` of the addition bodies -/
theorem layout_component (fields : Fields) (vs : Vals) (n : Nat) (rb ab : List Bits)
    (h : Layout fields vs n rb ab) (i : Nat) (k : Kind) (t : Ty)
    (hi : fields.get? i = some (k, t)) :
    ∃ v, vs.get? i = some v ∧
      if i < n then ∃ b, rb[i]? = some b ∧ RootBody k t v b
      else ∃ b, ab[i - n]? = some b ∧ AddBody k t v b :=
  h.get hi

/-- one value and one body per component -/
theorem layout_lengths (fields : Fields) (vs : Vals) (n : Nat) (rb ab : List Bits)
    (h : Layout fields vs n rb ab) :
    vs.length = fields.length ∧ rb.length = min n fields.length ∧ ab.length = fields.length - n :=
  h.lengths

/-- the body of a root component, by presence -/
theorem root_body_cases (k : Kind) (t : Ty) (v : Val) (b : Bits) (h : RootBody k t v b) :
    (presentOf k v = some true ∧ enc t (contentOf k v) = ok b) ∨
    (presentOf k v = some false ∧ b = []) :=
  h.cases

/-- the body of an extension addition, by presence -/
theorem add_body_cases (k : Kind) (t : Ty) (v : Val) (b : Bits) (h : AddBody k t v b) :
    (presentOf k v = some true ∧ ∃ c, enc t (contentOf k v) = ok c ∧
      (if k.isOptional || t.buffersOnWrite then openType c = ok b else b = c)) ∨
    (presentOf k v = some false ∧ b = []) :=
  h.cases

/-- the open-type wrapper around a present addition is the open type of X.691 11.2 / 19.9 (an
    unconstrained-length octet string of the padded encoding, fragmented from 16K octets on) —
    unless the padded encoding is longer than `i64::MAX` octets, which the writer refuses -/
theorem add_body_open_type (k : Kind) (t : Ty) (v : Val) (b : Bits) (h : AddBody k t v b)
    (hp : presentOf k v = some true) (hw : (k.isOptional || t.buffersOnWrite) = true) :
    ∃ c, enc t (contentOf k v) = ok c ∧ openType c = ok b ∧
      ((if c.isEmpty then [0#8] else padToBytes c).length ≤ I64MAXu → b = X691.openType c) := by
  unfold AddBody at h
  rw [hp] at h
  obtain ⟨c, hc, ho⟩ := h
  rw [if_pos hw] at ho
  exact ⟨c, hc, ho, fun _ => openType_conform c b ho⟩

/-- a DEFAULT component is omitted (bit `0`, no body) exactly when its value equals the default -/
theorem default_omitted_iff (dv v : Val) :
    (presentOf (.d dv) v = some false ↔ v = dv) ∧ (presentOf (.d dv) v = some true ↔ v ≠ dv) :=
  ⟨presentOf_default_absent dv v, presentOf_default_present dv v⟩

/-- an OPTIONAL component is omitted exactly when its value is `none` -/
theorem optional_omitted_iff (v : Val) :
    (presentOf .o v = some false ↔ v = .none) ∧ (presentOf .o v = some true ↔ ∃ x, v = .some x) := by
  cases v <;> simp [presentOf]

/-! ### writer: when it refuses -/

/-- The SEQUENCE encoder fails with `e` only
      (1) with `ExtensionFieldsInconsistent`, and then the first extension addition is absent and a
          later one is present; or
      (2) because some present component `i` fails with `e` — its own encoder, or (additions only)
          the open-type wrapper around its encoding (`CompFails`); or
      (3) because the value list does not fit the field list (`¬ Shaped`: wrong number of values,
          an OPTIONAL component that is neither `none` nor `some _`) — the driver's `bad-op`. -/
theorem refusal_iff (so fc : Nat) (ea : Option Nat) (fields : Fields) (vs : Vals) (e : ErrKind)
    (h : enc (.seq so fc ea fields) (.seq vs) = err e) :
    (e = .extensionInconsistent ∧
      ∃ rest, additionPresence fields vs (rootCountOf ea fields) = false :: rest ∧
        rest.any id = true) ∨
    CompFails fields vs (rootCountOf ea fields) e ∨
    (e = .illTyped ∧ ¬ Shaped fields vs) := by
  rw [enc_seq] at h
  rcases bind_eq_err.1 h with h | ⟨acc, _, h⟩
  · exact encFields_err _ _ _ _ h
  · -- once the components are written nothing fails any more
    cases ea with
    | none => cases h
    | some k =>
      obtain ⟨b, hb⟩ := wSmall_total (fields.length - (k + 1) - 1)
      cases hs : acc.st <;> simp only [hs, hb, bind_ok] at h <;> cases h

/-- … and conversely: first addition absent, a later addition `j` present, the components before
    `j` fit their kinds and the root components encode ⇒ `ExtensionFieldsInconsistent`. -/
theorem refusal_converse (so fc k : Nat) (fields : Fields) (vs : Vals) (j : Nat)
    (k1 : Kind) (t1 : Ty) (v1 : Val) (kj : Kind) (tj : Ty) (vj : Val)
    (hfirst : fields.get? (k + 1) = some (k1, t1) ∧ vs.get? (k + 1) = some v1 ∧
      presentOf k1 v1 = some false)
    (hlater : k + 1 < j ∧ fields.get? j = some (kj, tj) ∧ vs.get? j = some vj ∧
      presentOf kj vj = some true)
    (hfine : PrefixFine fields vs (k + 1) j) :
    enc (.seq so fc (some k) fields) (.seq vs) = err .extensionInconsistent := by
  rw [enc_seq, rootCountOf_some,
    encFields_inconsistent hlater.2.2.2 fields vs (k + 1) {} j hlater.2.1 hlater.2.2.1 hfine
      (Or.inr ⟨rfl, hlater.1, k1, t1, v1, hfirst⟩)]
  rfl

/-- a sequence without extension marker never raises `ExtensionFieldsInconsistent` of its own:
    whatever it fails with is a component's failure or a misfit of the value list -/
theorem refusal_nonext (so fc : Nat) (fields : Fields) (vs : Vals) (e : ErrKind)
    (h : enc (.seq so fc none fields) (.seq vs) = err e) :
    CompFails fields vs fields.length e ∨ (e = .illTyped ∧ ¬ Shaped fields vs) := by
  rcases refusal_iff so fc none fields vs e h with ⟨_, rest, hr, _⟩ | h | h
  · -- there are no additions
    rw [rootCountOf_none, additionPresence_of_le fields vs _ (Nat.le_refl _)] at hr
    cases hr
  · exact Or.inl h
  · exact Or.inr h

/-- if no component encoder panics, the SEQUENCE encoder does not panic (the extension state
    machine, the open-type wrapper and the addition count never unwind) -/
theorem enc_seq_never_panics_of_components (so fc : Nat) (ea : Option Nat) (fields : Fields)
    (vs : Vals)
    (hc : ∀ i k t v, fields.get? i = some (k, t) → vs.get? i = some v →
      presentOf k v = some true → enc t (contentOf k v) ≠ panic) :
    enc (.seq so fc ea fields) (.seq vs) ≠ panic :=
  enc_seq_ne_panic hc

/-- … and since no encoder of the mirror panics (`enc_ne_panic`, mutual induction over all type
    descriptors): the SEQUENCE / SET encoder never panics, for any field list and any value tree -/
theorem enc_seq_never_panics (so fc : Nat) (ea : Option Nat) (fields : Fields) (vs : Vals) :
    enc (.seq so fc ea fields) (.seq vs) ≠ panic :=
  enc_ne_panic _ _

/-! ### reader: one component step -/

/-- root OPTIONAL/DEFAULT component whose presence bit (at `presPos + optIdx`) is `0`: decoded as
    absent (`none`, resp. the default value); the cursor does not move for it -/
theorem root_absent_step (k : Kind) (t : Ty) (rest : Fields) (n optIdx addIdx : Nat)
    (ctx : SeqCtx) (inp : Bits) (pos : Nat) (hk : k.isOptional = true)
    (hb : inp[ctx.presPos + optIdx]? = some false) :
    decFields (.cons k t rest) (n + 1) optIdx addIdx ctx inp pos =
      (decFields rest n (optIdx + 1) addIdx ctx inp pos >>= fun r =>
        ok (.cons k.absent r.1, r.2)) := by
  rw [decFields_cons_root]
  simp [hk, bitAt_eq hb]

/-- … whose presence bit is `1`: its decoder runs at the cursor; OPTIONAL wraps the result -/
theorem root_present_step (k : Kind) (t : Ty) (rest : Fields) (n optIdx addIdx : Nat)
    (ctx : SeqCtx) (inp : Bits) (pos : Nat) (hk : k.isOptional = true)
    (hb : inp[ctx.presPos + optIdx]? = some true) :
    decFields (.cons k t rest) (n + 1) optIdx addIdx ctx inp pos =
      (dec t inp pos >>= fun xp =>
        decFields rest n (optIdx + 1) addIdx ctx inp xp.2 >>= fun r =>
          ok (.cons (k.wrap xp.1) r.1, r.2)) := by
  rw [decFields_cons_root]
  simp only [hk, bitAt_eq hb, if_true, bind_ok]
  cases dec t inp pos <;> rfl

/-- extension addition, extension bit `0`: an OPTIONAL/DEFAULT addition is absent, cursor unmoved -/
theorem addition_no_ext_step (k : Kind) (t : Ty) (rest : Fields) (optIdx addIdx : Nat)
    (ctx : SeqCtx) (inp : Bits) (pos : Nat) (hx : ctx.extBit = false) (hk : k.isOptional = true) :
    decFields (.cons k t rest) 0 optIdx addIdx ctx inp pos =
      (decFields rest 0 optIdx (addIdx + 1) ctx inp pos >>= fun r =>
        ok (.cons k.absent r.1, r.2)) := by
  rw [decFields_cons_add_noext _ _ _ _ _ _ _ _ hx]
  cases k with
  | m => cases hk
  | o | d => rfl

/-- extension addition, extension bit `1`, bitmap window `(win, nRead)` known: an OPTIONAL/DEFAULT
    addition whose bitmap bit is `0`, or beyond the announced count, is absent, cursor unmoved -/
theorem addition_bitmap_step (k : Kind) (t : Ty) (rest : Fields) (optIdx addIdx : Nat)
    (ctx : SeqCtx) (inp : Bits) (pos win nRead : Nat) (hx : ctx.extBit = true)
    (hw : ctx.addWin = some (win, nRead)) (hk : k.isOptional = true)
    (hb : nRead ≤ addIdx ∨ inp[win + addIdx]? = some false) :
    decFields (.cons k t rest) 0 optIdx addIdx ctx inp pos =
      (decFields rest 0 optIdx (addIdx + 1) ctx inp pos >>= fun r =>
        ok (.cons k.absent r.1, r.2)) := by
  have hctx : ({ ctx with addWin := some (win, nRead) } : SeqCtx) = ctx := by
    cases ctx; cases hw; rfl
  rw [decFields_cons_add_ext _ _ _ _ _ _ _ _ hx]
  simp only [hw, addBit_absent hb, hk, hctx, bind_ok, Bool.not_true, Bool.or_self,
    Bool.false_eq_true, if_false]

/-- the first extension addition: the header (count, bitmap window) is read at the cursor first -/
theorem addition_first_step (k : Kind) (t : Ty) (rest : Fields) (optIdx addIdx : Nat)
    (ctx : SeqCtx) (inp : Bits) (pos win nRead pos' : Nat) (hx : ctx.extBit = true)
    (hw : ctx.addWin = none) (hh : readExtHeader inp pos = ok ((win, nRead), pos'))
    (hk : k.isOptional = true)
    (hb : nRead ≤ addIdx ∨ inp[win + addIdx]? = some false) :
    decFields (.cons k t rest) 0 optIdx addIdx ctx inp pos =
      (decFields rest 0 optIdx (addIdx + 1) { ctx with addWin := some (win, nRead) } inp pos' >>=
        fun r => ok (.cons k.absent r.1, r.2)) := by
  rw [decFields_cons_add_ext _ _ _ _ _ _ _ _ hx]
  simp only [hw, hh, addBit_absent hb, hk, bind_ok, Bool.not_true, Bool.or_self,
    Bool.false_eq_true, if_false]

/-! ### reader: the whole field list -/

/-- Whatever `decFields` returns for a field list: every root OPTIONAL/DEFAULT component `i` whose
    bit in the presence bitmap (bit number `optCount i` = OPTIONAL/DEFAULT components before it)
    is `0` is absent in the result — `none` for OPTIONAL, the default value for DEFAULT. -/
theorem absent_components_decode_absent (fields : Fields) (rl optIdx addIdx : Nat) (ctx : SeqCtx)
    (inp : Bits) (pos : Nat) (vs : Vals) (p : Nat)
    (h : decFields fields rl optIdx addIdx ctx inp pos = ok (vs, p))
    (i : Nat) (k : Kind) (t : Ty) (hi : i < rl) (hg : fields.get? i = some (k, t))
    (hk : k.isOptional = true)
    (hb : inp[ctx.presPos + optIdx + fields.optCount i]? = some false) :
    vs.get? i = some k.absent :=
  decFields_absent fields rl optIdx addIdx ctx inp pos vs p h i k t hg hk (by rwa [if_pos hi])

/-- extension bit `0`: every OPTIONAL/DEFAULT extension addition is absent in the result -/
theorem absent_additions_no_ext (fields : Fields) (rl optIdx addIdx : Nat) (ctx : SeqCtx)
    (inp : Bits) (pos : Nat) (vs : Vals) (p : Nat)
    (h : decFields fields rl optIdx addIdx ctx inp pos = ok (vs, p)) (hx : ctx.extBit = false)
    (i : Nat) (k : Kind) (t : Ty) (hi : rl ≤ i) (hg : fields.get? i = some (k, t))
    (hk : k.isOptional = true) :
    vs.get? i = some k.absent :=
  decFields_absent fields rl optIdx addIdx ctx inp pos vs p h i k t hg hk
    (by rw [if_neg (Nat.not_lt.2 hi)]; exact Or.inl hx)

/-- extension bit `1`, bitmap window known: every OPTIONAL/DEFAULT addition whose bitmap bit is `0`
    (or which the sender did not announce) is absent in the result -/
theorem absent_additions_bitmap (fields : Fields) (rl optIdx addIdx : Nat) (ctx : SeqCtx)
    (inp : Bits) (pos : Nat) (vs : Vals) (p win nRead : Nat)
    (h : decFields fields rl optIdx addIdx ctx inp pos = ok (vs, p)) (hx : ctx.extBit = true)
    (hw : ctx.addWin = some (win, nRead))
    (i : Nat) (k : Kind) (t : Ty) (hi : rl ≤ i) (hg : fields.get? i = some (k, t))
    (hk : k.isOptional = true)
    (hb : nRead ≤ addIdx + (i - rl) ∨ inp[win + (addIdx + (i - rl))]? = some false) :
    vs.get? i = some k.absent :=
  decFields_absent fields rl optIdx addIdx ctx inp pos vs p h i k t hg hk
    (by rw [if_neg (Nat.not_lt.2 hi)]; exact Or.inr ⟨win, nRead, hw, hb⟩)

/-- A decoded SEQUENCE/SET: the root bitmap starts right behind the extension bit (if the type has
    one); every root OPTIONAL/DEFAULT component whose bit is `0` is `none` / the default value. -/
theorem dec_seq_absent_root (so fc : Nat) (ea : Option Nat) (fields : Fields) (inp : Bits)
    (pos : Nat) (val : Val) (p : Nat) (h : dec (.seq so fc ea fields) inp pos = ok (val, p)) :
    ∃ vs, val = .seq vs ∧
      ∀ i k t, i < rootCountOf ea fields → fields.get? i = some (k, t) → k.isOptional = true →
        inp[pos + (if ea.isSome then 1 else 0) + fields.optCount i]? = some false →
        vs.get? i = some k.absent := by
  obtain ⟨vs, x, rfl, _, hd⟩ := dec_seq_ok h
  exact ⟨vs, rfl, fun i k t hi hg hk hb =>
    absent_components_decode_absent _ _ _ _ _ _ _ _ _ hd i k t hi hg hk (by simpa using hb)⟩

/-- A decoded extensible SEQUENCE/SET whose extension bit is `0`: every OPTIONAL/DEFAULT extension
    addition is `none` / the default value. -/
theorem dec_seq_absent_additions (so fc k0 : Nat) (fields : Fields) (inp : Bits) (pos : Nat)
    (val : Val) (p : Nat) (h : dec (.seq so fc (some k0) fields) inp pos = ok (val, p))
    (hx : inp[pos]? = some false) :
    ∃ vs, val = .seq vs ∧
      ∀ i k t, k0 + 1 ≤ i → fields.get? i = some (k, t) → k.isOptional = true →
        vs.get? i = some k.absent := by
  obtain ⟨vs, x, rfl, hx', hd⟩ := dec_seq_ok h
  cases hx.symm.trans hx'
  exact ⟨vs, rfl, fun i k t hi hg hk =>
    absent_additions_no_ext _ _ _ _ _ _ _ _ _ hd rfl i k t hi hg hk⟩

/-! ### non-vacuity: concrete instances satisfying the hypotheses -/

/-- `SEQUENCE { a BOOLEAN, b BOOLEAN OPTIONAL, c BOOLEAN DEFAULT FALSE }` -/
def exFields : Fields :=
  .cons .m .bool (.cons .o .bool (.cons (.d (.bool false)) .bool .nil))
/-- `{ a TRUE, c TRUE }` -/
def exVals : Vals := .cons (.bool true) (.cons .none (.cons (.bool true) .nil))
/-- `{ a TRUE, b FALSE, c FALSE }` — `c` equals its default -/
def exValsD : Vals := .cons (.bool true) (.cons (.some (.bool false)) (.cons (.bool false) .nil))

-- seq_layout_nonext: preamble `01` (b absent, c present), bodies `1`, ``, `1`
example : enc (.seq 2 3 none exFields) (.seq exVals) = ok [false, true, true, true] := by decide +kernel
example : rootPresence exFields exVals exFields.length = [false, true] := by decide +kernel
example : Layout exFields exVals exFields.length [[true], [], [true]] [] :=
  ⟨rfl, rfl, rfl, trivial⟩
-- DEFAULT equal to the default: bit `0`, no body
example : enc (.seq 2 3 none exFields) (.seq exValsD) = ok [true, false, true, false] := by decide +kernel

/-- `SEQUENCE { a BOOLEAN, b BOOLEAN OPTIONAL, ..., c BOOLEAN OPTIONAL, d BOOLEAN DEFAULT FALSE }` -/
def exFieldsX : Fields :=
  .cons .m .bool (.cons .o .bool (.cons .o .bool (.cons (.d (.bool false)) .bool .nil)))
/-- `{ a TRUE, c TRUE }`: first addition present -/
def exValsX : Vals :=
  .cons (.bool true) (.cons .none (.cons (.some (.bool true)) (.cons (.bool false) .nil)))
/-- `{ a TRUE }`: no addition present -/
def exValsN : Vals := .cons (.bool true) (.cons .none (.cons .none (.cons (.bool false) .nil)))
/-- `{ a TRUE, d TRUE }`: first addition absent, second present — refused -/
def exValsBad : Vals :=
  .cons (.bool true) (.cons .none (.cons .none (.cons (.bool true) .nil)))

-- seq_layout_ext, extension part present:
--   ext bit `1`, root preamble `0`, root body `1`, count-1 = 1 as `0 000001`, bitmap `10`, open type
example : enc (.seq 1 4 (some 1) exFieldsX) (.seq exValsX) =
    ok ([true] ++ [false] ++ [true] ++ [false, false, false, false, false, false, true] ++
        [true, false] ++
        [false, false, false, false, false, false, false, true,
         true, false, false, false, false, false, false, false]) := by
  decide +kernel
example : exFieldsX.length - (1 + 1) - 1 ≤ U64_MAX := by decide +kernel
example : additionPresence exFieldsX exValsX 2 = [true, false] := by decide +kernel
-- no addition present: ext bit `0`, nothing behind the root
example : enc (.seq 1 4 (some 1) exFieldsX) (.seq exValsN) = ok [false, false, true] := by decide +kernel

-- refusal_iff / refusal_converse: first addition absent, second present
example : enc (.seq 1 4 (some 1) exFieldsX) (.seq exValsBad) = err .extensionInconsistent := by
  decide
example : additionPresence exFieldsX exValsBad 2 = [false, true] := by decide +kernel
example : exFieldsX.get? 2 = some (.o, .bool) ∧ exValsBad.get? 2 = some .none ∧
    presentOf .o .none = some false := ⟨rfl, rfl, rfl⟩
example : 1 + 1 < 3 ∧ exFieldsX.get? 3 = some (.d (.bool false), .bool) ∧
    exValsBad.get? 3 = some (.bool true) ∧ presentOf (.d (.bool false)) (.bool true) = some true :=
  ⟨by decide, rfl, rfl, rfl⟩
example : PrefixFine exFieldsX exValsBad 2 3 := by
  intro i hi k t hg
  match i, hi, hg with
  | 0, _, hg => cases hg; exact ⟨.bool true, true, rfl, rfl, fun _ _ => ⟨[true], rfl⟩⟩
  | 1, _, hg | 2, _, hg => cases hg; exact ⟨.none, false, rfl, rfl, nofun⟩
-- a component's own error comes through (`CompFails`): INTEGER (0..7) with value 9
example : enc (.seq 0 1 none (.cons .m (.int (some 0) (some 7) false 8 false) .nil))
    (.seq (.cons (.int 9) .nil)) = err .valueNotInRange := by decide +kernel
-- a value list that does not fit (`¬ Shaped`)
example : enc (.seq 2 3 none exFields) (.seq (.cons (.bool true) .nil)) = err .illTyped := by decide +kernel
example : ¬ Shaped exFields (.cons (.bool true) .nil) := fun h => h.2

-- enc_seq_never_panics_of_components: BOOLEAN components never panic
example : ∀ i k t v, exFieldsX.get? i = some (k, t) → exValsX.get? i = some v →
    presentOf k v = some true → enc t (contentOf k v) ≠ panic :=
  fun _ _ _ _ _ _ _ => enc_ne_panic _ _

-- reader: `0 1` (b absent, c present) + `1` (a) + `1` (c) decodes to `{ a TRUE, c TRUE }`
example : dec (.seq 2 3 none exFields) [false, true, true, true] 0 = ok (.seq exVals, 4) := by
  rfl
-- … its presence bit of `b` (bit number `optCount 1 = 0` of the bitmap at position 0) is `0`
example : [false, true, true, true][0 + (if (none : Option Nat).isSome then 1 else 0) +
    exFields.optCount 1]? = some false := by decide +kernel
-- `0 00 1`: DEFAULT component absent ⇒ decodes to the default `FALSE`
example : dec (.seq 2 3 none exFields) [false, false, true] 0 =
    ok (.seq (.cons (.bool true) (.cons .none (.cons (.bool false) .nil))), 3) := by rfl
-- extension bit `0`: additions absent / default
example : dec (.seq 1 4 (some 1) exFieldsX) [false, false, true] 0 = ok (.seq exValsN, 3) := by
  rfl
-- one step, root presence bit `0`
example : ([false, true, true, true] : Bits)[(SeqCtx.mk 0 false none 0).presPos + 0]? = some false := by
  decide

-- root_body_cases / add_body_cases / add_body_open_type
example : RootBody .m .bool (.bool true) [true] := rfl
example : AddBody .o .bool (.some (.bool true))
    [false, false, false, false, false, false, false, true,
     true, false, false, false, false, false, false, false] :=
  ⟨[true], rfl, openType_true⟩
example : (if ([true] : Bits).isEmpty then [0#8] else padToBytes [true]).length ≤ I64MAXu := by
  decide +kernel

/-- the encoding of `exValsX` from above -/
def exBitsX : Bits :=
  [true] ++ [false] ++ [true] ++ [false, false, false, false, false, false, true] ++
    [true, false] ++
    [false, false, false, false, false, false, false, true,
     true, false, false, false, false, false, false, false]

-- root_absent_step / root_present_step: kinds and bits
example : Kind.o.isOptional = true ∧ (Kind.d (.bool false)).isOptional = true := ⟨rfl, rfl⟩
example : ([false, true, true, true] : Bits)[(SeqCtx.mk 0 false none 0).presPos + 1]? = some true := by
  decide
-- absent_components_decode_absent: the walk over `exFields` behind the two-bit preamble
example : decFields exFields 3 0 0 ⟨0, false, none, 0⟩ [false, true, true, true] 2 =
    ok (exVals, 4) := by rfl
-- addition_first_step: the header behind the root components of `exBitsX`: 2 additions announced,
-- bitmap at position 10, cursor behind it
example : readExtHeader exBitsX 3 = ok ((10, 2), 12) := by decide +kernel
-- addition_bitmap_step / absent_additions_bitmap: second addition `d BOOLEAN DEFAULT FALSE`,
-- its bitmap bit (position 10 + 1) is `0` ⇒ the default
example : exBitsX[10 + 1]? = some false := by decide +kernel
example : decFields (.cons (.d (.bool false)) .bool .nil) 0 1 1 ⟨1, true, some (10, 2), 2⟩ exBitsX 28 =
    ok (.cons (.bool false) .nil, 28) := by
  rw [addition_bitmap_step _ _ _ _ _ _ _ _ 10 2 rfl rfl rfl (Or.inr (by decide))]
  simp [decFields, skipUnknown_done, Kind.absent]
-- absent_additions_no_ext: extension bit `0`
example : decFields exFieldsX 2 0 0 ⟨1, false, none, 2⟩ [false, false, true] 2 =
    ok (exValsN, 3) := by rfl

end Asn1Verif.Props.C03
