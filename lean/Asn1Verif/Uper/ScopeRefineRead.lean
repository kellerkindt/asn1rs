import Asn1Verif.Uper.ScopeRefineR
/-
  Refinement, reader side: the scope-keeping reader of `Uper/Scope.lean` computes, for every consistent
  descriptor, what the compositional mirror `Impl.dec` computes — in any enclosing scope (`read_ok`), by
  mutual structural induction over `Ty` / `Fields`.

  Excluded region (`Ty.noMandatorySeqAddition`): a mandatory extension addition of type SEQUENCE/SET (the
  converter never generates one: it wraps every addition in `Option`).  There `read_sequence` swallows the
  error of its bit-field entry (`let _ = self.read_bit_field_entry(false);`), i.e. a failed read of the
  extension header, and goes on reading at the cursor the failed read has left; `Impl.decFields` propagates
  the error.  See `Props/Scope.lean` for the counterexample.
-/
namespace Asn1Verif.Uper
open Asn1Verif Outcome Per

/-- no mandatory SEQUENCE/SET-typed component behind the first `n` components -/
def Fields.noMandSeqAdd : Fields → Nat → Bool
  | .nil, _ => true
  | .cons _ _ rest, n + 1 => rest.noMandSeqAdd n
  | .cons k t rest, 0 => !(!k.isOptional && t.isSeq) && rest.noMandSeqAdd 0

mutual
def Ty.noMandatorySeqAddition : Ty → Bool
  | .seqOf _ _ _ e => e.noMandatorySeqAddition
  | .seq _ _ ea fs =>
    (match ea with
     | some k => fs.noMandSeqAdd (k + 1)
     | none => true) && fs.noMandatorySeqAddition
  | .choice _ _ _ alts => alts.noMandatorySeqAddition
  | _ => true
def Fields.noMandatorySeqAddition : Fields → Bool
  | .nil => true
  | .cons _ t r => t.noMandatorySeqAddition && r.noMandatorySeqAddition
end

namespace Scope

/-! ### the invariant along the walk -/

section walk
variable {e : REnv} {ctx : SeqCtx} {k : Kind} {t : Ty} {rest : Fields} {n rl oi ai pos : Nat}

theorem rinv_root
    (hinv : e.Inv ctx (.cons k t rest) (n + 1) oi ai) :
    e.Inv ctx rest n (if k.isOptional then oi + 1 else oi) ai := by
  obtain ⟨hopt, hbit, hrl, hwin⟩ := hinv
  refine ⟨?_, hbit, ?_, ?_⟩
  · simp only [Fields.optCount] at hopt
    cases hk : k.isOptional <;> simp only [hk, if_true, if_false, Bool.false_eq_true] at hopt ⊢ <;> omega
  · intro hx; have := hrl hx; simp only [Fields.length] at this; omega
  · cases hw : ctx.addWin with
    | none => simpa [hw] using hwin
    | some w => simp [hw] at hwin

theorem rinv_noext
    (hinv : e.Inv ctx (.cons k t rest) 0 oi ai) (hx : ctx.extBit = false) :
    e.Inv ctx rest 0 oi (ai + 1) := by
  obtain ⟨hopt, _, _, hwin⟩ := hinv
  refine ⟨by rw [optCount_zero] at hopt ⊢; exact hopt, by simp [hx], by simp [hx], ?_⟩
  cases hw : ctx.addWin with
  | none => simp [hx]
  | some w => simp [hw, hx] at hwin

/-! ### the cursor stays inside the input -/

theorem content_le {inp : Bits} {p : Nat} {c : Bool} {rd : Outcome (Val × Nat)} {f : Val → Val}
    {a : Val} {vp : Val × Nat} (hrd : GoodP inp p rd)
    (h : (if c then rd >>= fun xp => ok (f xp.1, xp.2) else ok (a, p)) = ok vp)
    (hp : p ≤ inp.length) : vp.2 ≤ inp.length := by
  split at h
  · obtain ⟨xp, hx, h⟩ := bind_eq_ok.1 h
    cases h
    exact (hrd.bounds (a := xp.1) (p := xp.2) hx hp).2
  · cases h
    exact hp

theorem noextContent_le {k : Kind} {t : Ty} {inp : Bits} {pos : Nat} {vp : Val × Nat}
    (h : noextContent k t inp pos = ok vp) (hpos : pos ≤ inp.length) : vp.2 ≤ inp.length := by
  cases k with
  | m => exact ((dec_good t inp pos).bounds (a := vp.1) (p := vp.2) h hpos).2
  | o | d dv => cases h; exact hpos

/-! ### the walk over the components -/

theorem decFields_nil_fst {rl oi ai : Nat} {ctx : SeqCtx} {inp : Bits} {pos : Nat} {y : Vals × Nat}
    (h : decFields .nil rl oi ai ctx inp pos = ok y) : y.1 = .nil := by
  simp only [decFields] at h
  split at h
  · obtain ⟨a, _, h⟩ := bind_eq_ok.1 h
    obtain ⟨b, _, h⟩ := bind_eq_ok.1 h
    cases h
    rfl
  · cases h
    rfl

/-- the simulation, given what the mutual induction supplies for every component type; `T` is what
    `scope_pushed` does behind the generated `read_seq` (it has to agree with the end of `decFields`),
    `K` what the caller makes of the values -/
theorem readFields_sim_of {α : Type} (e : REnv) (hL : e.inp.length < U64_MAX) (orig : Option Scope)
    (xb : Bool) (T : R → Outcome R)
    (hTail : ∀ {ctx : SeqCtx} {rl oi ai pos : Nat}, ctx.extBit = xb → e.Inv ctx .nil rl oi ai →
      T (e.r ctx rl oi ai pos) =
        decFields .nil rl oi ai ctx e.inp pos >>= fun y => ok ⟨y.2, e.inp.length, orig⟩) :
    ∀ (fields : Fields),
    (∀ i k t, fields.get? i = some (k, t) → ReadOk t e.inp) →
    ∀ (K : Vals → α) (ctx : SeqCtx) (rl oi ai pos : Nat), ctx.extBit = xb → e.Inv ctx fields rl oi ai →
    (ctx.extBit = true → fields.noMandSeqAdd rl = true) → pos ≤ e.inp.length →
    (readFields fields e.inp (e.r ctx rl oi ai pos) >>= fun x => T x.2 >>= fun r6 => ok (K x.1, r6)) =
      decFields fields rl oi ai ctx e.inp pos >>= fun y => ok (K y.1, ⟨y.2, e.inp.length, orig⟩)
  | .nil, _, K, ctx, rl, oi, ai, pos, hxb, hinv, _, _ => by
    simp only [readFields, bind_ok, hTail hxb hinv, bind_assoc]
    exact bind_congr fun y hd => by rw [decFields_nil_fst hd]
  | .cons k t rest, hT, K, ctx, rl, oi, ai, pos, hxb, hinv, hms, hpos => by
    have hTk := hT 0 k t rfl
    have ih := fun v => readFields_sim_of e hL orig xb T hTail rest
      (fun i k' t' h => hT (i + 1) k' t' (by simpa [Fields.get?] using h))
      (fun vs => K (.cons v vs))
    rw [readFields_cons]
    cases rl with
    | succ n =>
      rw [rstep_root hinv hpos hTk, decFields_cons_root]
      simp only [bind_assoc, bind_ok]
      refine bind_congr fun present _ => bind_congr fun vp hvp => ?_
      exact ih vp.1 ctx n _ ai vp.2 hxb (rinv_root hinv)
        (fun hx => by simpa [Fields.noMandSeqAdd] using hms hx) (content_le (dec_good t _ _) hvp hpos)
    | zero =>
      cases hx : ctx.extBit with
      | false =>
        rw [rstep_noext hinv hx hpos hTk,
          decFields_cons_add_noext' _ _ _ _ _ _ _ _ hx]
        simp only [bind_assoc, bind_ok]
        refine bind_congr fun vp hvp => ?_
        exact ih vp.1 ctx 0 oi (ai + 1) vp.2 hxb (rinv_noext hinv hx) (by simp [hx])
          (noextContent_le hvp hpos)
      | true =>
        have hms0 := hms hx
        simp only [Fields.noMandSeqAdd, Bool.and_eq_true, Bool.not_eq_true', Bool.and_eq_false_imp,
          Bool.not_eq_true'] at hms0
        rw [rstep_ext hL hinv hx (fun hk => by simpa [hk] using hms0.1)
            hpos hTk, decFields_cons_add_ext _ _ _ _ _ _ _ _ hx]
        simp only [extWin, bind_assoc, bind_ok]
        refine bind_congr fun wp hwp => bind_congr fun present hb => bind_congr fun vp hvp => ?_
        have hgood : GoodP e.inp wp.2 (if k.isOptional || t.buffersOnRead then readOpen (dec t) e.inp wp.2
            else dec t e.inp wp.2) := by
          split
          · exact readOpen_good (dec_good t _) _
          · exact dec_good t _ _
        exact ih vp.1 { ctx with addWin := some wp.1 } 0 oi (ai + 1) vp.2 hxb
          (rinv_ext hinv hx hwp hb) (fun _ => hms0.2)
          (content_le (p := wp.2) hgood hvp (extWin_le hwp hpos))

/-! ### the whole SEQUENCE -/

/-- the end of the walk when no extension part was sent: only the `debug_assert!` of `scope_pushed` -/
theorem pop_nil_noext (orig : Option Scope)
    (hx : ctx.extBit = false) (hinv : e.Inv ctx .nil rl oi ai) :
    (e.r ctx rl oi ai pos).popScope orig =
      decFields .nil rl oi ai ctx e.inp pos >>= fun y => ok ⟨y.2, e.inp.length, orig⟩ := by
  have hoi : oi = e.stdOpt := by simpa [Fields.optCount] using hinv.1
  simp only [decFields, hx, Bool.false_eq_true, if_false, bind_ok, REnv.r, REnv.scope,
    R.popScope, exhausted, hoi, beq_self_eq_true, if_true]

theorem bitAt_of_rdBit {inp : Bits} {pos p : Nat} {b : Bool} (h : liftL1 rdBit inp pos = ok (b, p)) :
    bitAt inp pos = ok b := by
  rw [liftL1_rdBit] at h
  unfold bitAt
  cases hg : inp[pos]? with
  | none => simp [hg] at h
  | some x => simp only [hg, ok.injEq, Prod.mk.injEq] at h; simp only [h.1]

theorem readSeqCore_eq (so fc : Nat) (ea : Option Nat) (fields : Fields)
    (hcons : (Ty.seq so fc ea fields).consistent = true)
    (hms : ∀ k, ea = some k → fields.noMandSeqAdd (k + 1) = true)
    (inp : Bits) (hL : inp.length < U64_MAX)
    (hT : ∀ i k t, fields.get? i = some (k, t) → ReadOk t inp) :
    InPlace (fun r1 => readSeqCore so fc ea (readFields fields) inp r1 >>= fun x =>
      ok (Val.seq x.1, x.2)) (dec (.seq so fc ea fields)) inp := by
  intro r1 ⟨hl, hp⟩
  simp only [Ty.consistent, Bool.and_eq_true, beq_iff_eq] at hcons
  obtain ⟨⟨hfc, hea⟩, _⟩ := hcons
  rw [dec_seq]
  -- the part behind the extension bit, for a reader that has seen no extension bit set
  have hno : ∀ (p0 rc : Nat), p0 ≤ inp.length → so = fields.optCount rc →
      ¬ (inp.length - p0 < so) →
      (readFields fields inp ⟨p0 + so, inp.length, some (.optBitField p0 (p0 + so))⟩ >>= fun x =>
        x.2.popScope r1.scope >>= fun r6 => ok (Val.seq x.1, r6)) =
      decFields fields rc 0 0 { presPos := p0, extBit := false, nLocal := fields.length - rc } inp
        (p0 + so) >>= fun y => ok (Val.seq y.1, ⟨y.2, inp.length, r1.scope⟩) := by
    intro p0 rc hp0 hso hchk
    let e : REnv := { inp := inp, stdOpt := so, bitPos := 0 }
    have := readFields_sim_of e hL r1.scope false (fun r => r.popScope r1.scope)
      (pop_nil_noext r1.scope) fields hT
      Val.seq { presPos := p0, extBit := false, nLocal := fields.length - rc } rc 0 0 (p0 + so) rfl
      ⟨by simp [e, hso], by simp, by simp, by simp⟩ (by simp) (by show p0 + so ≤ inp.length; omega)
    simp only [REnv.r, REnv.scope, Bool.false_eq_true, if_false, Nat.add_zero, e] at this
    exact this
  cases ea with
  | none =>
    simp only [beq_iff_eq] at hea
    simp only [readSeqCore, bind_ok, rootCountOf_none, hl, ← hea]
    split
    · rfl
    · rename_i hchk
      have hmin : min (r1.pos + so) inp.length = r1.pos + so := Nat.min_eq_left (by omega)
      simp only [hmin, bind_assoc, bind_ok, hno r1.pos fields.length hp hea hchk, Nat.sub_self]
  | some k =>
    simp only [Bool.and_eq_true, decide_eq_true_eq, beq_iff_eq] at hea
    obtain ⟨hk, hso⟩ := hea
    have hu : uSub fc (k + 1) = ok (fields.length - (k + 1)) := by
      unfold uSub; rw [if_pos (by omega), hfc]
    simp only [readSeqCore, rootCountOf_some, liftR_full _ inp r1 hl, bind_assoc, bind_ok, hl, ← hso]
    refine bind_congr fun bp hb => ?_
    have hp0 : bp.2 ≤ inp.length := liftL1_le hb
    split
    · cases bp.1 <;> rfl
    · rename_i hchk
      have hmin : min (bp.2 + so) inp.length = bp.2 + so := Nat.min_eq_left (by omega)
      cases hbit : bp.1 with
      | false =>
        simp only [hmin, Bool.false_eq_true, if_false, bind_assoc, bind_ok,
          hno bp.2 (k + 1) hp0 hso hchk]
      | true =>
        let e : REnv := { inp := inp, stdOpt := so, bitPos := r1.pos }
        have := readFields_sim_of e hL r1.scope true
          (fun r4 => skipUnknownAdditions inp r4 >>= fun r5 => r5.popScope r1.scope)
          (tail_nil hL r1.scope) fields hT
          Val.seq { presPos := bp.2, extBit := true, nLocal := fields.length - (k + 1) } (k + 1) 0 0
          (bp.2 + so) rfl
          ⟨by simp [e, hso], fun _ => bitAt_of_rdBit (by rw [hb, ← hbit]), fun _ => by omega, by simp⟩
          (fun _ => hms k rfl) (by show bp.2 + so ≤ inp.length; omega)
        simp only [REnv.r, REnv.scope, if_true, Nat.add_zero, bind_assoc, e] at this
        simp only [hmin, if_true, hu, bind_assoc, bind_ok, this]

end walk

/-! ### lists, alternatives -/

theorem readListWith_eq {f : Bits → R → Outcome (Val × R)} {g : RdP Val} {inp : Bits}
    (hf : PlainR f g inp) (hg : ∀ pos, GoodP inp pos (g inp pos)) :
    ∀ (n pos : Nat), pos ≤ inp.length →
      readListWith f n inp ⟨pos, inp.length, none⟩ =
        decListWith g n inp pos >>= fun y => ok (y.1, ⟨y.2, inp.length, none⟩)
  | 0, pos, _ => by simp [readListWith, decListWith]
  | n + 1, pos, hpos => by
    simp only [readListWith, decListWith, hf pos hpos, bind_assoc, bind_ok]
    refine bind_congr fun x hx => ?_
    simp only [readListWith_eq hf hg n x.2 ((hg pos).bounds (a := x.1) (p := x.2) hx hpos).2,
      bind_assoc, bind_ok]

/-- SEQUENCE OF inside `with_buffer`: extension bit, length, elements with the scope stashed -/
theorem seqOfCore_eq (min max : Option Nat) (ext : Bool) (elem : Ty) (inp : Bits)
    (hP : PlainR (read elem) (dec elem) inp) :
    InPlace (fun r1 =>
      (if ext then liftR rdBit inp r1 else ok (false, r1)) >>= fun x =>
        (if x.1 then liftR (rLen none none) inp x.2 else liftR (rLen min max) inp x.2) >>= fun y =>
          if y.1 > 0 then
            readListWith (read elem) y.1 inp { y.2 with scope := none } >>= fun z =>
              ok (Val.list z.1, { z.2 with scope := y.2.scope })
          else ok (Val.list .nil, y.2))
      (dec (.seqOf min max ext elem)) inp := by
  intro r1 ⟨hl, _⟩
  -- the elements, behind a header that has left the cursor at `p`
  have hlist : ∀ (n p : Nat), p ≤ inp.length →
      (if n > 0 then
          readListWith (read elem) n inp ⟨p, r1.len, none⟩ >>= fun z =>
            ok (Val.list z.1, { z.2 with scope := r1.scope })
        else ok (Val.list .nil, ⟨p, r1.len, r1.scope⟩)) =
      decListWith (dec elem) n inp p >>= fun z => ok (Val.list z.1, { r1 with pos := z.2 }) := by
    intro n p hp
    cases n with
    | zero => simp [decListWith]
    | succ n =>
      simp only [Nat.zero_lt_succ, gt_iff_lt, if_true, hl, bind_assoc, bind_ok,
        readListWith_eq hP (dec_good elem inp) (n + 1) p hp]
  -- the length determinant in front of them
  have hlen : ∀ (rd : Per.Rd Nat) (p : Nat),
      (liftR rd inp ⟨p, r1.len, r1.scope⟩ >>= fun y =>
        if y.1 > 0 then
          readListWith (read elem) y.1 inp { y.2 with scope := none } >>= fun z =>
            ok (Val.list z.1, { z.2 with scope := y.2.scope })
        else ok (Val.list .nil, y.2)) =
      liftL1 rd inp p >>= fun y =>
        decListWith (dec elem) y.1 inp y.2 >>= fun z => ok (Val.list z.1, { r1 with pos := z.2 }) := by
    intro rd p
    rw [liftR_full rd inp ⟨p, r1.len, r1.scope⟩ hl, bind_assoc]
    exact bind_congr fun y hy => hlist y.1 y.2 (liftL1_le hy)
  simp only [dec, bind_assoc, bind_ok]
  cases ext with
  | false =>
    simp only [Bool.false_eq_true, if_false, bind_ok]
    exact hlen (rLen min max) r1.pos
  | true =>
    simp only [if_true, liftR_full _ inp r1 hl, bind_assoc, bind_ok]
    refine bind_congr fun x _ => ?_
    cases x.1 <;> simp only [if_true, Bool.false_eq_true, if_false] <;> exact hlen _ x.2

/-! ### the mutual induction -/

theorem decAlt_of_length_le : ∀ (alts : Fields) (i : Nat) (inp : Bits) (pos : Nat),
    alts.length ≤ i → decAlt alts i inp pos = err .invalidChoiceIndex
  | .nil, _, _, _, _ => by simp [decAlt]
  | .cons _ _ rest, 0, _, _, h => by simp [Fields.length] at h
  | .cons _ _ rest, i + 1, inp, pos, h => by
    simp only [decAlt]
    exact decAlt_of_length_le rest i inp pos (by simp only [Fields.length] at h; omega)

mutual
/-- the refinement in an arbitrary enclosing scope: `T::read_value` is the bit-field entry
    followed by the compositional reader, as open type where the code says so -/
theorem read_ok : ∀ (t : Ty), t.consistent = true → t.noMandatorySeqAddition = true →
    ∀ (inp : Bits), inp.length < U64_MAX → ReadOk t inp
  | .bool, _, _, _, _ | .null, _, _, _, _ | .int .., _, _, _, _ | .enum .., _, _, _, _
  | .str .., _, _, _, _ | .oct .., _, _, _, _ | .bits .., _, _, _, _ => fun _ => readLeaf_eq
  | .seqOf min max ext elem, hc, hm, inp, hL => fun r hl hp => by
    have hP := plainR_of_readOk (read_ok elem (by simpa [Ty.consistent] using hc)
      (by simpa [Ty.noMandatorySeqAddition] using hm) inp hL)
    simp only [read, rcomp, Ty.isSeq, Ty.buffersOnRead, Bool.false_eq_true, if_false, bind_assoc,
      bind_ok]
    refine bind_congr fun x he => ?_
    rw [← enter_leave x.2 (entryQ_inside ⟨hl, hp⟩ he) (seqOfCore_eq min max ext elem inp hP)]
    refine bind_congr fun y _ => ?_
    simp only [bind_assoc]
    refine bind_congr fun a _ => bind_congr fun b _ => ?_
    split <;> simp only [bind_assoc, bind_ok]
  | .seq so fc ea fields, hc, hm, inp, hL => fun r hl hp => by
    have hc' : fields.consistent = true := by
      simp only [Ty.consistent, Bool.and_eq_true] at hc; exact hc.2
    simp only [Ty.noMandatorySeqAddition, Bool.and_eq_true] at hm
    have hcore := readSeqCore_eq so fc ea fields hc (fun k hk => by subst hk; exact hm.1) inp hL
      (fun i k t h => (readFields_ok fields hc' hm.2 inp hL i k t h).1)
    simp only [read, rcomp, Ty.isSeq, Ty.buffersOnRead, if_true, bind_ok]
    rw [← enter_leave _ (entry_inside inp r false ⟨hl, hp⟩) hcore]
    simp only [readSeqBody, bind_assoc]
    refine bind_congr fun y _ => ?_
    simp only [bind_ok]
  | .choice std total ext alts, hc, hm, inp, hL => fun r hl hp => by
    simp only [Ty.consistent, Bool.and_eq_true, beq_iff_eq, decide_eq_true_eq] at hc
    obtain ⟨⟨htot, hstd⟩, hc'⟩ := hc
    have hA := readAlt_ok alts hc' (by simpa [Ty.noMandatorySeqAddition] using hm) inp hL
    simp only [read, rcomp, Ty.isSeq, Ty.buffersOnRead, Bool.false_eq_true, if_false, bind_assoc,
      bind_ok, rbody_closed, Bool.false_and, dec]
    refine bind_congr fun x he => ?_
    have hl0 : x.2.len = inp.length := (entryQ_inside ⟨hl, hp⟩ he).1
    have h0 : ({ x.2 with scope := none } : R) = ⟨x.2.pos, inp.length, none⟩ := by rw [← hl0]
    simp only [h0, liftR_mk, bind_assoc, bind_ok]
    refine bind_congr fun ip hi => ?_
    have hp0 : ip.2 ≤ inp.length := liftL1_le hi
    split
    · simp only [bind_assoc]
      refine bind_congr fun lp hlen => ?_
      rw [hA ip.1 lp.2 (liftL1_le hlen), htot]
      by_cases hlt : ip.1 < alts.length
      · have hnge : ¬ (ip.1 ≥ alts.length) := by omega
        simp only [hlt, if_true, hnge, if_false, subSlice, bind_assoc, bind_ok, hl0]
      · have hge' : ip.1 ≥ alts.length := by omega
        simp only [hlt, if_false, hge', if_true, bind_ok, bind_err]
    · have hlt : ip.1 < alts.length := by omega
      simp only [hA ip.1 ip.2 hp0, hlt, if_true, bind_assoc, bind_ok, hl0]

/-- `C::read_content(index, reader)` outside of any scope -/
theorem readAlt_ok : ∀ (alts : Fields), alts.consistent = true → alts.noMandatorySeqAddition = true →
    ∀ (inp : Bits), inp.length < U64_MAX → ∀ (i pos : Nat), pos ≤ inp.length →
    readAlt alts i inp ⟨pos, inp.length, none⟩ =
      if i < alts.length then decAlt alts i inp pos >>= fun y => ok (some y.1, ⟨y.2, inp.length, none⟩)
      else ok (none, ⟨pos, inp.length, none⟩)
  | .nil, _, _, inp, _, i, pos, _ => by simp [readAlt, Fields.length]
  | .cons k t rest, hc, hm, inp, hL, 0, pos, hpos => by
    simp only [Fields.consistent, Bool.and_eq_true] at hc
    simp only [Fields.noMandatorySeqAddition, Bool.and_eq_true] at hm
    have hP := plainR_of_readOk (read_ok t hc.1 hm.1 inp hL)
    simp only [readAlt, decAlt, Fields.length, Nat.zero_lt_succ, if_true]
    rw [hP pos hpos]
    cases dec t inp pos <;> rfl
  | .cons k t rest, hc, hm, inp, hL, i + 1, pos, hpos => by
    simp only [Fields.consistent, Bool.and_eq_true] at hc
    simp only [Fields.noMandatorySeqAddition, Bool.and_eq_true] at hm
    simp only [readAlt, decAlt, Fields.length, Nat.add_lt_add_iff_right]
    exact readAlt_ok rest hc.2 hm.2 inp hL i pos hpos

theorem readFields_ok : ∀ (fields : Fields), fields.consistent = true →
    fields.noMandatorySeqAddition = true → ∀ (inp : Bits), inp.length < U64_MAX →
    ∀ i k t, fields.get? i = some (k, t) → ReadOk t inp ∧ PlainR (read t) (dec t) inp
  | .nil, _, _, _, _, i, k, t, h => by simp [Fields.get?] at h
  | .cons k0 t0 rest, hc, hm, inp, hL, 0, k, t, h => by
    simp only [Fields.consistent, Bool.and_eq_true] at hc
    simp only [Fields.noMandatorySeqAddition, Bool.and_eq_true] at hm
    simp only [Fields.get?, Option.some.injEq, Prod.mk.injEq] at h
    obtain ⟨_, rfl⟩ := h
    have := read_ok t0 hc.1 hm.1 inp hL
    exact ⟨this, plainR_of_readOk this⟩
  | .cons k0 t0 rest, hc, hm, inp, hL, i + 1, k, t, h => by
    simp only [Fields.consistent, Bool.and_eq_true] at hc
    simp only [Fields.noMandatorySeqAddition, Bool.and_eq_true] at hm
    exact readFields_ok rest hc.2 hm.2 inp hL i k t (by simpa [Fields.get?] using h)
end

end Scope
end Asn1Verif.Uper
