import Asn1Verif.Front.ParserTypeLemmas
/-
  parse ∘ print for nested types: the statements `TyRT`, `FieldsRT`, `VariantsRT` that the induction over
  the tree (ParserRoundTripNested) proves together, and the leaves.
-/
namespace Asn1Verif.Front.Syn
open Except

/-- a component type split into the type proper and the OPTIONAL flag -/
def fieldCore : UTy → UTy × Bool
  | .optional t => (t, true)
  | t => (t, false)

theorem fieldCore_cases (ty : UTy) :
    (∃ t, ty = .optional t ∧ fieldCore ty = (t, true)) ∨
      ((∀ t, ty ≠ .optional t) ∧ fieldCore ty = (ty, false)) := by
  unfold fieldCore
  split
  · exact Or.inl ⟨_, rfl, rfl⟩
  · rename_i h
    exact Or.inr ⟨fun t e => h t e, rfl⟩

/-- was that the last component, and the tokens after its separator -/
def fieldsNext (tl : UFields) (ext : Option Nat) (j : Nat) (rest : List Token) : Bool × List Token :=
  match tl with
  | .nil => (true, rest)
  | .cons .. => (false, printFieldsLoop tl ext j ++ rest)

def variantsNext (tl : UVariants) (ext : Option Nat) (j : Nat) (rest : List Token) :
    Bool × List Token :=
  match tl with
  | .nil => (true, rest)
  | .cons .. => (false, printVariantsLoop tl ext j ++ rest)

theorem printFieldsLoop_cons (name : String) (tag : Option Tag) (ty : UTy) (d : Option UConst)
    (tl : UFields) (ext : Option Nat) (i : Nat) (rest : List Token)
    (hod : (fieldCore ty).2 = true → d = none) :
    printFieldsLoop (.cons name tag ty d tl) ext i ++ rest =
      .text name :: (printTag tag ++ .text (tyHead (fieldCore ty).1) ::
        (tyTail (fieldCore ty).1 ++ (presenceToks (fieldCore ty).2 d ++
          ((if ext = some i then [.sep ',', .sep '.', .sep '.', .sep '.'] else []) ++
            .sep (closing (fieldsNext tl ext (i + 1) rest).1) ::
              (fieldsNext tl ext (i + 1) rest).2)))) := by
  rcases fieldCore_cases ty with ⟨t, rfl, h⟩ | ⟨_, h⟩ <;> rw [h] at hod ⊢
  · cases hod rfl
    cases tl <;>
      simp only [tok, printFieldsLoop, printItemEnd, fieldsNext, closing, tyHead, tyTail, presenceToks,
        beq_iff_eq, List.append_nil]
  · cases d <;> cases tl <;>
      simp only [tok, printFieldsLoop, printItemEnd, fieldsNext, closing, presenceToks, beq_iff_eq,
        List.append_nil]

theorem printVariantsLoop_cons (name : String) (tag : Option Tag) (ty : UTy)
    (tl : UVariants) (ext : Option Nat) (i : Nat) (rest : List Token) :
    printVariantsLoop (.cons name tag ty tl) ext i ++ rest =
      .text name :: (printTag tag ++ .text (tyHead ty) :: (tyTail ty ++
        ((if ext = some i then [.sep ',', .sep '.', .sep '.', .sep '.'] else []) ++
          .sep (closing (variantsNext tl ext (i + 1) rest).1) ::
            (variantsNext tl ext (i + 1) rest).2))) := by
  cases tl <;>
    simp only [tok, printVariantsLoop, printItemEnd, variantsNext, closing, beq_iff_eq]

theorem fieldsWf_cons (name : String) (tag : Option Tag) (ty : UTy) (d : Option UConst)
    (tl : UFields) (h : fieldsWf (.cons name tag ty d tl) = true) :
    tagWf tag = true ∧ tyWf (fieldCore ty).1 = true ∧ ((fieldCore ty).2 = true → d = none) ∧
      (∀ x, d = some x → defaultWf x = true) ∧ fieldsWf tl = true := by
  -- the four arms of the `match` in `fieldsWf`; its equations for the last two arms hold for a
  -- type that is not `OPTIONAL`, which `rw` leaves as a side goal
  rcases fieldCore_cases ty with ⟨t, rfl, hc⟩ | ⟨hno, hc⟩ <;> rw [hc] <;> cases d <;>
    rw [fieldsWf] at h
  · simp only [Bool.and_eq_true] at h
    exact ⟨h.1.1, h.1.2, fun _ => rfl, nofun, h.2⟩
  · simp only [tok, Bool.and_false, Bool.false_and] at h
  · simp only [Bool.and_eq_true] at h
    exact ⟨h.1.1, h.1.2, nofun, nofun, h.2⟩
  · exact hno
  · simp only [Bool.and_eq_true] at h
    exact ⟨h.1.1, h.1.2.1, nofun, fun x e => Option.some.inj e ▸ h.1.2.2, h.2⟩
  · exact hno

theorem canonTy_core (ty : UTy) :
    canonTy ty = if (fieldCore ty).2 then .optional (canonTy (fieldCore ty).1)
      else canonTy (fieldCore ty).1 := by
  rcases fieldCore_cases ty with ⟨t, rfl, h⟩ | ⟨_, h⟩ <;> rw [h]
  · rw [canonTy]; rfl
  · rfl

theorem tyNoWiden_core (ty : UTy) : tyNoWiden (fieldCore ty).1 = tyNoWiden ty := by
  rcases fieldCore_cases ty with ⟨t, rfl, h⟩ | ⟨_, h⟩ <;> rw [h]
  rw [tyNoWiden]

def TyRT (t : UTy) : Prop :=
  ∀ (f : Nat) (rest : List Token), tyWf t = true → tyNoWiden t = true →
    RestOk rest → (tyTail t).length ≤ f →
    parseRoleGiven (f + 1) (tyHead t) (tyTail t ++ rest) = .ok (canonTy t, rest)

def FieldsRT (fs : UFields) : Prop :=
  ∀ (ext : Option Nat) (i fuel : Nat) (rest : List Token), fieldsWf fs = true →
    fieldsNoWiden fs = true →
    (printFieldsLoop fs ext i).length ≤ fuel →
    componentLoop fuel i (printFieldsLoop fs ext i ++ rest) =
      .ok ((canonFields fs, extIn ext i fs.length), rest)

def VariantsRT (vs : UVariants) : Prop :=
  ∀ (ext : Option Nat) (i : Nat) (seen : Bool) (fuel : Nat) (rest : List Token),
    0 < vs.length → variantsWf vs = true → variantsNoWiden vs = true →
    (seen = true → extIn ext i vs.length = none) →
    (printVariantsLoop vs ext i).length ≤ fuel →
    choiceLoop fuel i seen (printVariantsLoop vs ext i ++ rest) =
      .ok ((canonVariants vs, extIn ext i vs.length), rest)

theorem restOk_printSize (s : Size USz) (rest : List Token) (h : nextIsSep '{' rest = none) :
    nextIsSep '{' (printSize s ++ rest) = none := by
  cases s
  · exact h
  · rfl
  · rfl

theorem tyRT_boolean : TyRT .boolean := by
  intro f rest _ _ _ _
  simp only [tok, tyHead, tyTail]
  rw [parseRoleGiven]
  simp only [tok, kwClass_heads, canonTy]

theorem tyRT_null : TyRT .null := by
  intro f rest _ _ _ _
  simp only [tok, tyHead, tyTail]
  rw [parseRoleGiven]
  simp only [tok, kwClass_heads, canonTy]

theorem tyRT_integer (r : Range URange) (cs : List (String × Int)) : TyRT (.integer r cs) := by
  intro f rest hw hnw hr hf
  simp only [tyWf, Bool.and_eq_true] at hw
  have hlen : cs.length ≤ f := by
    have := length_printConstants tInt cs
    simp only [tyTail, List.length_append] at hf
    omega
  simp only [tok, tyHead, tyTail]
  rw [parseRoleGiven]
  simp only [tok, kwClass_heads, parseInteger_print r cs hw.1 hnw hw.2 f hlen rest hr, canonTy]

theorem tyRT_string (s : Size USz) (c : Charset) : TyRT (.string s c) := by
  intro f rest hw _ hr _
  cases c <;> simp only [tyHead, tyTail, charsetKeyword] <;> rw [parseRoleGiven] <;>
    simp only [tok, kwClass_heads, parseString, maybeReadSize_print s hw rest hr, canonTy]

theorem tyRT_octetString (s : Size USz) : TyRT (.octetString s) := by
  intro f rest hw _ hr _
  simp only [tyHead, tyTail]
  rw [parseRoleGiven]
  simp only [tok, kwClass_heads, maybeReadSize_print s hw rest hr, canonTy]

theorem tyRT_bitString (s : Size USz) (cs : List (String × Nat)) : TyRT (.bitString s cs) := by
  intro f rest hw _ hr hf
  simp only [tyWf, Bool.and_eq_true] at hw
  have hlen : cs.length ≤ f := by
    have := length_printConstants tNat cs
    simp only [tyTail, List.length_append, List.length_cons] at hf
    omega
  simp only [tyHead, tyTail]
  rw [parseRoleGiven]
  simp only [tok, kwClass_heads,
    maybeReadConstants_print tNat constantU64 inU64 constantU64_tNat cs hw.2 f hlen _
      (restOk_printSize s rest hr.brace),
    maybeReadSize_print s hw.1 rest hr, canonTy]

theorem tyRT_enumerated (e : Enumerated) : TyRT (.enumerated e) := by
  intro f rest hw _ _ hf
  have hlen : 2 * e.variants.length ≤ f := by
    have := length_printEnumLoop e.variants e.extAfter 0
    simp only [tyTail, printEnumerated, List.length_cons] at hf
    omega
  simp only [tyHead, tyTail]
  rw [parseRoleGiven]
  simp only [tok, kwClass_heads, parseEnumerated_print e hw f hlen rest, canonTy]

theorem tyRT_typeReference (n : String) (tag : Option Tag) : TyRT (.typeReference n tag) := by
  intro f rest hw _ hr _
  simp only [tyWf, Bool.and_eq_true, decide_eq_true_eq, Option.isNone_iff_eq_none] at hw
  obtain ⟨hkw, rfl⟩ := hw
  simp only [tok, tyHead, tyTail]
  rw [parseRoleGiven]
  simp only [tok, hkw, maybeReadWithComponents, hr.paren, canonTy]

end Asn1Verif.Front.Syn
