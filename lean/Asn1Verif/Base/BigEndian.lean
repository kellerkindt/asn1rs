/-
  Big-endian byte strings, shared by the DER, PER and protobuf mirrors: `beBytes k n`, the `k` low-order
  base-256 digits of `n`, most significant first, and `value`, the fold that every `from_be_bytes` of the
  models is.
-/
namespace Asn1Verif.BigEndian

def beBytes : Nat → Nat → List (BitVec 8)
  | 0, _ => []
  | k + 1, n => beBytes k (n / 256) ++ [BitVec.ofNat 8 n]

def value (bs : List (BitVec 8)) : Nat := bs.foldl (fun acc b => acc * 256 + b.toNat) 0

theorem two_pow_eight_mul (k : Nat) : 2 ^ (8 * k) = 256 ^ k := Nat.pow_mul 2 8 k

@[simp] theorem length_beBytes (k n : Nat) : (beBytes k n).length = k := by
  induction k generalizing n with
  | zero => rfl
  | succ k ih => rw [beBytes, List.length_append, ih]; rfl

theorem beBytes_succ (k n : Nat) :
    beBytes (k + 1) n = BitVec.ofNat 8 (n / 256 ^ k) :: beBytes k n := by
  induction k generalizing n with
  | zero => rw [Nat.pow_zero, Nat.div_one]; rfl
  | succ k ih => rw [beBytes, ih, Nat.div_div_eq_div_mul, ← Nat.pow_succ']; rfl

theorem drop_beBytes (k j n : Nat) (h : j ≤ k) : (beBytes k n).drop j = beBytes (k - j) n := by
  obtain ⟨d, rfl⟩ := Nat.exists_eq_add_of_le' h
  rw [Nat.add_sub_cancel]
  clear h
  induction j with
  | zero => rfl
  | succ j ih => rw [← Nat.add_assoc, beBytes_succ, List.drop_succ_cons, ih]

theorem value_snoc (bs : List (BitVec 8)) (b : BitVec 8) :
    value (bs ++ [b]) = value bs * 256 + b.toNat := by
  simp only [value, List.foldl_append, List.foldl]

theorem foldl_eq (bs : List (BitVec 8)) (a : Nat) :
    bs.foldl (fun acc b => acc * 256 + b.toNat) a = a * 256 ^ bs.length + value bs := by
  induction bs generalizing a with
  | nil => rw [List.foldl_nil, List.length_nil, Nat.pow_zero, Nat.mul_one]; rfl
  | cons c cs ih =>
    rw [value, List.foldl_cons, List.foldl_cons, ih, ih (0 * 256 + _), Nat.zero_mul, Nat.zero_add,
      Nat.add_mul, List.length_cons, Nat.pow_succ', Nat.mul_assoc, Nat.add_assoc]

theorem value_cons (b : BitVec 8) (bs : List (BitVec 8)) :
    value (b :: bs) = b.toNat * 256 ^ bs.length + value bs := by
  rw [value, List.foldl_cons, foldl_eq, Nat.zero_mul, Nat.zero_add]

theorem value_beBytes (k n : Nat) : value (beBytes k n) = n % 256 ^ k := by
  induction k generalizing n with
  | zero => rw [Nat.pow_zero, Nat.mod_one]; rfl
  | succ k ih =>
    rw [beBytes, value_snoc, ih, Nat.pow_succ', Nat.mod_mul, BitVec.toNat_ofNat, Nat.mul_comm,
      Nat.add_comm]

theorem value_zeros_append (j : Nat) (bs : List (BitVec 8)) :
    value (List.replicate j 0#8 ++ bs) = value bs := by
  induction j with
  | zero => rfl
  | succ j ih => exact ih

theorem value_lt (bs : List (BitVec 8)) : value bs < 256 ^ bs.length := by
  induction bs with
  | nil => exact Nat.one_pos
  | cons b bs ih =>
    rw [value_cons, List.length_cons, Nat.pow_succ, Nat.mul_comm _ 256]
    exact Nat.lt_of_lt_of_le (Nat.add_lt_add_left ih _)
      (by rw [← Nat.succ_mul]; exact Nat.mul_le_mul_right _ b.isLt)

end Asn1Verif.BigEndian
