import Asn1Verif.Uper.Impl
/-
  The measures of C04 for the UPER reader (`Uper/ReadTotal.lean`, `Uper/ReadTotalWork.lean`): the
  outcome of a positional reader that has moved its cursor by at least `k` bits, a lower bound of
  the bits a successful `dec t` consumes, and the bits of input per byte of a decoded string.
-/
namespace Asn1Verif.Uper
open Asn1Verif Outcome Per

/-- like `GoodP` (`Uper/ReadTotal.lean`), and a successful read has consumed at least `k` bits -/
def GoodPN {α : Type} (k : Nat) (inp : Bits) (pos : Nat) : Outcome (α × Nat) → Prop
  | .ok (_, p) => pos ≤ inp.length → pos + k ≤ p ∧ p ≤ inp.length
  | .err _ => True
  | .panic => False

mutual
/-- conservative lower bound of the number of bits a successful `dec t` consumes -/
def Ty.minBits : Ty → Nat
  | .bool => 1
  | .null => 0
  | .int min max ext _ _ =>
    if ext then 1
    else if min.isNone && max.isNone then 8
    else if max.getD I64_MAX > min.getD 0 then 1 else 0
  | .enum std _ ext => if ext || decide (2 ≤ std) then 1 else 0
  | .str cs _ _ ext =>
    match cs with
    | .utf8 => 1
    | _ => if ext then 1 else 0
  | .oct min max ext => if ext || (min.isNone && max.isNone) then 1 else 0
  | .bits min max ext => if ext || (min.isNone && max.isNone) then 1 else 0
  | .seqOf min max ext _ => if ext then 1 else if min.isNone && max.isNone then 8 else 0
  | .seq _ _ extAfter fields =>
    match extAfter with
    | some _ => 1
    | none => fields.minBits
  | .choice std _ ext _ => if ext || decide (2 ≤ std) then 1 else 0
/-- the mandatory components of a non-extensible SEQUENCE -/
def Fields.minBits : Fields → Nat
  | .nil => 0
  | .cons .m t rest => t.minBits + rest.minBits
  | .cons _ _ rest => rest.minBits
end

/-- bits of input per byte of a decoded string -/
def strUnit : Charset → Nat
  | .utf8 => 8
  | cs => charWidth cs

end Asn1Verif.Uper
