import Asn1Verif.Front.ParserModuleRoundTrip
/-
  C07 — Parsing preserves every declared element of an ASN.1 module.

  Models: `Front/Ast.lean` (data model = mirror of `Model<Asn<Unresolved>>`), `Front/Parser*.lean`
  (mirror of `Model::try_from` and every per-construct parser), `Front/Printer.lean` (the
  pretty-printer the property quantifies over, abstract module → token list).
  Vocabulary (`canon`, the supported subset `…Wf`, the two lossy behaviours) in
  `Front/ParserSpec.lean`; lemmas in `Front/Parser*Lemmas.lean`, `Front/Parser*RoundTrip*.lean`.

  What is proved.  `parse_print_partial`: for EVERY module `A` of the supported subset —
  arbitrary nesting depth, arbitrarily many definitions, components, alternatives, variants —
  `parse (printTokens A) = ok (canon A)`: name, object identifier, imports (symbols, module,
  identifier), value references, definitions in order, and for each type its kind, component /
  alternative / variant names and order, INTEGER range and named numbers, SIZE constraints with
  their extensibility, tags with class, OPTIONAL / DEFAULT with the default literal or name, and
  the extension marker position.  `canon` contains only the SIZE normal forms
  (`SIZE(0..MAX)` = none, `SIZE(n..n)` = `SIZE(n)`).  Nested types are covered by structural
  induction on the tree (`parse_print_Type`).

  What is *not* hidden in `canon`: two lossy behaviours of the current parser are explicit
  decidable hypotheses of `parse_print_partial`, and for each of them a concrete counterexample
  shows that the full statement `parse_print_full` is false for the code as it is:
    1. `moduleNoWiden`   — `INTEGER (0..MAX)` / `(MIN..9223372036854775807)` lose their bound;
    2. `moduleNiceNames` — module / import names lose a trailing `Module`.
  A third lossy behaviour cannot even be expressed as a printed model (the data model stores the
  index of the last root component): an extension marker *before the first component* is recorded
  as if it stood after it — `ext_marker_first_collapses` below.

  Regressions (an `example` for each below):
    * a value reference called `min` / `max` / `Max` … used as a bound: the keyword match is
      exact since fix 5fba779 (before it such a reference was taken for the keyword and the
      bound dropped); the supported subset only asks that a reference in a bound position is not
      spelled `MIN` / `MAX` itself;
    * string literals: since fix 869f3ad `read_string_literal` handles the first token after the
      opening delimiter like every other token (before it a separator in first position was lost
      and the empty literals `""`, `''H` were not recognised): `parse_print_StringTokens` holds
      for every token sequence, `parse_print_Literal` includes the empty octet string.

  Scope notes.  The theorem is about token lists (layouts of the same tokens are property C13).
  String literals: in a printed *module* one text token between the quotes, or none (the real
  parser rebuilds a literal from token columns; the model assumes one blank between the tokens of
  a literal — see the header of `Front/Parser.lean`); literals of several tokens are covered by
  `parse_print_StringTokens` under that layout.  The parser model uses a recursion budget
  (`tokens.length + 1`); it suffices for every token list, and any larger budget gives the same
  answer (`parseModule_ne_fuel` in `Front/TotalModule.lean`; `parser_terminates`,
  `parser_budget_irrelevant` in Props/C14.lean).
-/
namespace Asn1Verif.Props.C07
open Asn1Verif Asn1Verif.Front.Syn

/-! ### per construct: `parseX (printX x ++ rest) = ok (x', rest)` for arbitrary `rest` -/

/-- tags: class and number, in front of any text token -/
theorem parse_print_Tag (tag : Option Tag) (h : tagWf tag = true) (s : String) (rest : List Token) :
    nextWithOptTag (printTag tag ++ .text s :: rest) = .ok ((.text s, tag), rest) :=
  nextWithOptTag_print tag h s rest

/-- INTEGER: named numbers, both bounds (`MIN`/`MAX`, literal, reference), extensibility -/
theorem parse_print_Integer (r : Range URange) (cs : List (String × Int))
    (hr : rangeWf r = true) (hw : rangeNoWiden r = true)
    (hcs : constsWfI cs = true) (fuel : Nat) (hfuel : cs.length ≤ fuel)
    (rest : List Token) (hrest : RestOk rest) :
    parseInteger fuel (printConstants tInt cs ++ (printRange r ++ rest)) = .ok ((r, cs), rest) :=
  parseInteger_print r cs hr hw hcs fuel hfuel rest hrest

/-- SIZE: `SIZE(n)`, `SIZE(a..b)`, with `, ...`; the result is the canonical form -/
theorem parse_print_Size (s : Size USz) (hw : sizeWf s = true)
    (rest : List Token) (hrest : RestOk rest) :
    maybeReadSize (printSize s ++ rest) = .ok (canonSize s, rest) :=
  maybeReadSize_print s hw rest hrest

/-- ENUMERATED: variant names in order, numbers, marker position (budget: a variant and the
    marker that may follow it each spend one unit) -/
theorem parse_print_Enumerated (e : Enumerated) (hw : enumWf e = true) (fuel : Nat)
    (hfuel : 2 * e.variants.length ≤ fuel) (rest : List Token) :
    parseEnumerated fuel (printEnumerated e ++ rest) = .ok (e, rest) :=
  parseEnumerated_print e hw fuel hfuel rest

/-- DEFAULT / value literals: TRUE/FALSE, integers, strings, octet strings (the empty string and
    the empty octet string included) -/
theorem parse_print_Literal (v : LiteralValue) (hw : litWf v = true) (rest : List Token) :
    readLiteral (printLit v ++ rest) = .ok (.lit v, rest) :=
  readLiteral_print v hw rest

/-- string literals of any number of tokens: between the delimiters any words and separator
    characters other than the delimiter — none at all, or a separator in first position — are
    read back as the tokens joined by single blanks (`litText`); no hypothesis on the tokens -/
theorem parse_print_StringTokens (delim : Char) (ws : List Token)
    (hws : ∀ t ∈ ws, t.eqSep delim = false) (rest : List Token) :
    readStringLiteral delim (printStringTokens delim ws ++ rest) =
      .ok (delim :: (litText ws ++ [delim]), rest) := by
  simpa only [printStringTokens, List.cons_append, List.append_assoc, List.nil_append]
    using readStringLiteral_tokens delim ws hws rest

/-- observation on the result of `readLiteral`: the literal and the tokens left -/
def litIs (r : FR (LitResult × List Token)) (v : LiteralValue) (rest : List Token) : Bool :=
  match r with
  | .ok (.lit w, ts) => w == v && ts == rest
  | _ => false

/-- regression (was F-strdefault-first-sep): `DEFAULT ", a"` used to come back as `"  a"` -/
example : litIs (readLiteral [.sep '"', .sep ',', .text "a", .sep '"', .sep '}'])
    (.string ", a") [.sep '}'] = true := by decide +kernel
example : litIs (readLiteral [.sep '"', .sep '(', .text "x", .sep ')', .sep '"'])
    (.string "( x )") [] = true := by decide +kernel
/-- regression (was F-strdefault-empty): `""`, `''H`, `''B` used to swallow the closing delimiter
    and run on to the next one (`s UTF8String DEFAULT "", t IA5String DEFAULT "x"` gave `, t …`) -/
example : litIs (readLiteral [.sep '"', .sep '"', .sep ',', .text "t"])
    (.string "") [.sep ',', .text "t"] = true := by decide +kernel
example : litIs (readLiteral [.sep '\'', .sep '\'', .text "H", .sep '}'])
    (.octetString []) [.sep '}'] = true := by decide +kernel
example : litIs (readLiteral [.sep '\'', .sep '\'', .text "B", .sep '}'])
    (.octetString []) [.sep '}'] = true := by decide +kernel
example : litWf (.octetString []) = true ∧ litWf (.string "") = true := by decide +kernel

/-- the OPTIONAL / DEFAULT part of a component, up to the `,` or `}` that ends it -/
theorem parse_print_Presence (opt : Bool) (d : Option UConst) (hod : opt = true → d = none)
    (hd : ∀ x, d = some x → defaultWf x = true) (c : Char) (hc : c = ',' ∨ c = '}')
    (more : List Token) :
    fieldTail (presenceToks opt d ++ .sep c :: more) = .ok ((opt, d, c == ','), more) :=
  fieldTail_print opt d hod hd c hc more

/-- any type, nested to any depth -/
theorem parse_print_Type (t : UTy) (fuel : Nat) (rest : List Token) (hw : tyWf t = true)
    (hnw : tyNoWiden t = true) (hr : RestOk rest)
    (hf : (tyTail t).length < fuel) :
    parseRoleGiven fuel (tyHead t) (tyTail t ++ rest) = .ok (canonTy t, rest) :=
  parseRoleGiven_print t fuel rest hw hnw hr hf

/-- SEQUENCE / SET component lists: names, tags, types, OPTIONAL / DEFAULT, marker position -/
theorem parse_print_ComponentTypeList (fs : UFields) (ext : Option Nat) (fuel : Nat)
    (rest : List Token) (hw : fieldsWf fs = true) (hext : extWf ext fs.length = true)
    (hnw : fieldsNoWiden fs = true)
    (hf : (printFieldsLoop fs ext 0).length ≤ fuel) :
    componentLoop fuel 0 (printFieldsLoop fs ext 0 ++ rest) = .ok ((canonFields fs, ext), rest) := by
  have := fieldsRT_all fs ext 0 fuel rest hw hnw hf
  rwa [extIn_all ext _ hext] at this

/-- CHOICE alternative lists: names, tags, types, marker position -/
theorem parse_print_Choice (vs : UVariants) (ext : Option Nat) (fuel : Nat) (rest : List Token)
    (hne : 0 < vs.length) (hw : variantsWf vs = true) (hext : extWf ext vs.length = true)
    (hnw : variantsNoWiden vs = true)
    (hf : (printVariantsLoop vs ext 0).length ≤ fuel) :
    choiceLoop fuel 0 false (printVariantsLoop vs ext 0 ++ rest) =
      .ok ((canonVariants vs, ext), rest) := by
  have := variantsRT_all vs ext 0 false fuel rest hne hw hnw (by simp) hf
  rwa [extIn_all ext _ hext] at this

/-- object identifiers: name, number and name-and-number forms -/
theorem parse_print_OID (o : Option Oid) (hw : oidWf o = true) (fuel : Nat) (rest : List Token)
    (hf : (printOid o).length < fuel + 1) (hrest : nextIsSep '{' rest = none) :
    maybeReadOid fuel (printOid o ++ rest) = .ok (o, rest) :=
  maybeReadOid_print o hw fuel rest hf hrest

/-- IMPORTS: symbol lists, module names, identifiers, up to the `;` -/
theorem parse_print_Imports (is : List Import) (hw : is.all importWf = true) (fuel : Nat)
    (rest : List Token) (hf : (printImportsBody is).length < fuel + 1) :
    importsLoop fuel [] (printImportsBody is ++ rest) = .ok (is, rest) :=
  importsLoop_print is hw fuel rest hf

/-! ### the property -/

/-- **C07** on the supported subset minus the two lossy behaviours (explicit hypotheses) -/
theorem parse_print_partial (A : UModule) (hw : moduleWf A = true)
    (h1 : moduleNoWiden A = true) (h2 : moduleNiceNames A = true) :
    parseModule (printTokens A) = .ok (canon A) :=
  parseModuleFuel_print A hw h1 h2 _ (by omega)

/-- the full statement the property asks for -/
def parse_print_full : Prop :=
  ∀ A : UModule, moduleWf A = true → parseModule (printTokens A) = .ok (canon A)

/-! ### counterexamples: the full statement is false for the code as it is -/

/-- observations on a parse result, to compare results without equality on modules -/
def nameIs (r : FR UModule) (s : String) : Bool :=
  match r with
  | .ok m => m.name == s
  | .error _ => false

def firstRangeIs (r : FR UModule) (lo hi : Option URange) : Bool :=
  match r with
  | .ok m =>
    match m.definitions with
    | ⟨_, _, .integer rg _⟩ :: _ => rg.min == lo && rg.max == hi
    | _ => false
  | .error _ => false

def intDef (name : String) (lo hi : Option URange) : UDefinition :=
  ⟨name, none, .integer ⟨lo, hi, false⟩ []⟩

/-- 1. `A ::= INTEGER (0..MAX)` -/
def cexWiden : UModule := ⟨"M", none, [], [intDef "A" (some (.lit 0)) none], []⟩
/-- 2. a module called `FooModule` -/
def cexName : UModule := ⟨"FooModule", none, [], [intDef "A" none none], []⟩

example : moduleWf cexWiden = true ∧ moduleNoWiden cexWiden = false := by decide +kernel
example : moduleWf cexName = true ∧ moduleNiceNames cexName = false := by decide +kernel

/-- `(0..MAX)` comes back without the lower bound -/
theorem cex_widen :
    firstRangeIs (parseModule (printTokens cexWiden)) none none = true ∧
    firstRangeIs (.ok (canon cexWiden)) (some (.lit 0)) none = true := by decide +kernel

/-- `FooModule` comes back as `Foo` -/
theorem cex_name :
    nameIs (parseModule (printTokens cexName)) "Foo" = true ∧
    nameIs (.ok (canon cexName)) "FooModule" = true := by decide +kernel

/-- each of the two hypotheses of `parse_print_partial` is needed -/
theorem parse_print_needs_noWiden :
    ¬ (∀ A : UModule, moduleWf A = true → moduleNiceNames A = true →
        parseModule (printTokens A) = .ok (canon A)) := by
  intro h
  have h1 := h cexWiden (by decide +kernel) (by decide +kernel)
  have h2 := cex_widen
  rw [h1] at h2
  exact absurd h2.1 (by decide +kernel)

theorem parse_print_needs_niceNames :
    ¬ (∀ A : UModule, moduleWf A = true → moduleNoWiden A = true →
        parseModule (printTokens A) = .ok (canon A)) := by
  intro h
  have h1 := h cexName (by decide +kernel) (by decide +kernel)
  have h2 := cex_name
  rw [h1] at h2
  exact absurd h2.1 (by decide +kernel)

/-- hence the full statement is false -/
theorem parse_print_full_false : ¬ parse_print_full :=
  fun h => parse_print_needs_niceNames fun A hw _ => h A hw

/-! ### regression: value references called `min` / `max` (F-ref-min-max, fix 5fba779: before it
    `(1..max)` came back as `(1..MAX)`) -/

/-- `max INTEGER ::= 5   A ::= INTEGER (1..max)   B ::= OCTET STRING (SIZE(min..Max))` -/
def regKwRef : UModule :=
  ⟨"M", none, [],
    [intDef "A" (some (.lit 1)) (some (.ref "max")),
     intDef "A2" (some (.ref "mIN")) (some (.ref "Max")),
     ⟨"B", none, .octetString (.range (.ref "min") (.ref "Max") false)⟩],
    [⟨"max", .integer ⟨none, none, false⟩ [], .integer 5⟩]⟩

/-- the module lies in the domain of `parse_print_partial` … -/
example : moduleWf regKwRef = true ∧ moduleNoWiden regKwRef = true ∧
    moduleNiceNames regKwRef = true := by decide +kernel
example : parseModule (printTokens regKwRef) = .ok (canon regKwRef) :=
  parse_print_partial regKwRef (by decide +kernel) (by decide +kernel) (by decide +kernel)
/-- … and evaluates to the declared bounds -/
example : firstRangeIs (parseModule (printTokens regKwRef)) (some (.lit 1)) (some (.ref "max")) = true := by
  rw [parse_print_partial regKwRef (by decide +kernel) (by decide +kernel) (by decide +kernel)]
  decide +kernel
/-- the keywords themselves are still keywords, and only in this spelling -/
example : rangeBound (.text "MAX") "MAX" = none ∧ rangeBound (.text "max") "MAX" = some (.ref "max") ∧
    sizeBound (.text "MIN") "MIN" 0 = none ∧ sizeBound (.text "Min") "MIN" 0 = some (.ref "Min") := by
  decide +kernel

/-- 3. the leading extension marker: `SEQUENCE { ... , a INTEGER }` and
    `SEQUENCE { a INTEGER , ... }` — two different declarations (in the first `a` is an extension
    addition, in the second a root component) — are parsed to the same model. -/
def leadingMarker : List Token :=
  [.sep '{', .sep '.', .sep '.', .sep '.', .sep ',', .text "a", .text "INTEGER", .sep '}']
def trailingMarker : List Token :=
  [.sep '{', .text "a", .text "INTEGER", .sep ',', .sep '.', .sep '.', .sep '.', .sep '}']

def extOf (r : FR (UTy × List Token)) : Option (Option Nat) :=
  match r with
  | .ok (.sequence _ e, _) => some e
  | _ => none

theorem ext_marker_first_collapses :
    extOf (parseRoleGiven 10 "SEQUENCE" leadingMarker) = some (some 0) ∧
    extOf (parseRoleGiven 10 "SEQUENCE" trailingMarker) = some (some 0) := by decide +kernel

/-! ### non-vacuity: a module with every construct satisfies the hypotheses -/

def sample : UModule :=
  { name := "Sample"
    oid := some [.nameAndNumberForm "iso" 1, .nameForm "standard", .numberForm 8571]
    imports := [⟨["Other", "limit"], "Lib", some [.numberForm 1, .numberForm 2]⟩, ⟨["X"], "Y", none⟩]
    valueReferences := [⟨"top", .integer ⟨some (.lit 0), some (.lit 255), false⟩ [], .integer 100⟩,
                        ⟨"flag", .boolean, .boolean true⟩]
    definitions := [
      ⟨"Colour", some (.application 3), .enumerated ⟨[⟨"red", none⟩, ⟨"green", some 5⟩, ⟨"blue", none⟩], some 1⟩⟩,
      ⟨"Rec", none, .sequence
        (.cons "a" (some (.contextSpecific 0)) (.optional (.integer ⟨some (.lit (-5)), some (.ref "top"), true⟩ [("one", 1)])) none
        (.cons "b" none (.string (.range (.lit 1) (.ref "limit") true) .utf8) (some (.lit (.string "hello")))
        (.cons "c" (some (.priv 7)) (.typeReference "Colour" none) (some (.ref "green"))
        (.cons "d" none (.sequenceOf (.choice (.cons "x" none .boolean (.cons "y" (some (.universal 4))
            (.octetString (.fix (.lit 4) false)) .nil)) (some 0)) (.range (.lit 0) (.lit SIZE_MAX) false))
          none
        (.cons "e" none (.bitString (.range (.lit 8) (.lit 8) false) [("f", 0)]) (some (.lit (.octetString [171, 205])))
          .nil)))))
        (some 1)⟩,
      ⟨"Empty", none, .set .nil none⟩] }

example : moduleWf sample = true ∧ moduleNoWiden sample = true ∧
    moduleNiceNames sample = true := by decide +kernel

/-- … and `canon` leaves the definition names as they are -/
example : (canon sample).definitions.map (·.name) = ["Colour", "Rec", "Empty"] := by decide +kernel

example : RestOk [.text "OPTIONAL"] ∧ RestOk [.sep ','] ∧ RestOk [] :=
  ⟨RestOk.text _ _ (by decide +kernel), RestOk.sep _ _ (by decide +kernel) (by decide +kernel), RestOk.nil⟩

end Asn1Verif.Props.C07
