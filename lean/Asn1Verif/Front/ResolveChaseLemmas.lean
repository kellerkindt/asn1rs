import Asn1Verif.Front.Resolve
/-
  The import chase: `valueReference` and `definition` are the same chase with a different local lookup
  (`chase`), and it cannot fail.

  Why a budget above `S.length + 1` is never observed (`chase_fuel_irrelevant`): budget `S.length + 1` =
  calls in the modules `m₀ = A, m₁, …, m_L` (`L = S.length`); a larger budget can only differ when the
  chase wants a call in `m_{L+1}`.  `A` need not be in `S`, but `m₁ … m_{L+1}` are: `L + 1` positions,
  `L` modules, so `m_i = m_j` for some `1 ≤ i < j ≤ L + 1`; the chase from `m_i` comes back to `m_i`,
  never stops, and every budget answers `none`.
-/
namespace Asn1Verif.Front.Syn
open Except

/-! ### the imported module -/

/-- the module matching of `model_with_imported_item` -/
def importMatches (imp : Import) (c : UModule) : Bool :=
  (c.oid.isSome && c.oid == imp.fromOid) || c.name == imp.«from»

theorem modelWithImportedItem_eq (m : UModule) (S : List UModule) (item : String) :
    modelWithImportedItem m S item =
      (m.imports.find? fun i => i.what.any (· == item)).bind fun imp => S.find? (importMatches imp) :=
  rfl

theorem importMatches_name (imp : Import) (c : UModule) (h : c.name = imp.«from») :
    importMatches imp c = true := by
  simp [importMatches, h]

/-- whatever the name in the import says -/
theorem importMatches_oid (imp : Import) (c : UModule) (o : Oid) (h1 : c.oid = some o)
    (h2 : imp.fromOid = some o) : importMatches imp c = true := by
  simp [importMatches, h1, h2]

theorem modelWithImportedItem_mem {m : UModule} {S : List UModule} {item : String} {m' : UModule}
    (h : modelWithImportedItem m S item = some m') : m' ∈ S := by
  obtain ⟨_, _, h⟩ := Option.bind_eq_some_iff.mp h
  exact List.mem_of_find?_eq_some h

def Unambiguous (S : List UModule) (imp : Import) : Prop :=
  ∀ c1 ∈ S, ∀ c2 ∈ S, importMatches imp c1 = true → importMatches imp c2 = true → c1 = c2

def AllUnambiguous (S : List UModule) : Prop :=
  ∀ m ∈ S, ∀ imp ∈ m.imports, Unambiguous S imp

theorem find?_perm_of_unique {α : Type} (p : α → Bool) (l l' : List α) (hp : l.Perm l')
    (hu : ∀ a ∈ l, ∀ b ∈ l, p a = true → p b = true → a = b) : l'.find? p = l.find? p := by
  cases h : l.find? p with
  | none =>
    rw [List.find?_eq_none] at h ⊢
    exact fun x hx => h x (hp.mem_iff.mpr hx)
  | some a =>
    have ha := List.mem_of_find?_eq_some h
    cases h' : l'.find? p with
    | none => exact absurd (List.find?_some h) (List.find?_eq_none.mp h' a (hp.mem_iff.mp ha))
    | some b =>
      rw [hu a ha b (hp.mem_iff.mpr (List.mem_of_find?_eq_some h')) (List.find?_some h)
        (List.find?_some h')]

theorem modelWithImportedItem_perm (m : UModule) (S S' : List UModule) (hp : S.Perm S')
    (hu : ∀ imp ∈ m.imports, Unambiguous S imp) (item : String) :
    modelWithImportedItem m S' item = modelWithImportedItem m S item := by
  simp only [modelWithImportedItem_eq]
  cases h : m.imports.find? fun i => i.what.any (· == item) with
  | none => rfl
  | some imp => exact find?_perm_of_unique _ S S' hp (hu imp (List.mem_of_find?_eq_some h))

/-! ### the chase -/

section
variable {α : Type} (loc : UModule → Option α) (S : List UModule) (n : String)

/-- one step of the chase: the module it goes to next (`none`: it stops in `m`) -/
def hop (m : UModule) : Option UModule :=
  match loc m with
  | some _ => none
  | none => modelWithImportedItem m S n

/-- `loc` is the lookup in the module, the number that of the calls still allowed -/
def chase : Nat → UModule → Option α
  | 0, _ => none
  | k + 1, m => (loc m).or ((hop loc S n m).bind (chase k))

/-- where the chase stands after `j` hops from `m` (`none`: it has stopped before) -/
def orbit : Nat → UModule → Option UModule
  | 0, m => some m
  | j + 1, m => (hop loc S n m).bind (orbit j)

end

theorem hop_eq_some {α : Type} {loc : UModule → Option α} {S : List UModule} {n : String}
    {m m' : UModule} (h : hop loc S n m = some m') :
    loc m = none ∧ modelWithImportedItem m S n = some m' := by
  unfold hop at h
  cases hl : loc m with
  | some a => simp only [hl, reduceCtorEq] at h
  | none => exact ⟨rfl, by simpa only [hl] using h⟩

theorem valueReference_eq_chase (S : List UModule) (n : String) : ∀ (k : Nat) (m : UModule),
    valueReference k m S n =
      .ok (chase (fun m => m.valueReferences.find? fun vr => vr.name == n) S n k m)
  | 0, _ => rfl
  | k + 1, m => by
    rw [valueReference, chase, hop]
    cases m.valueReferences.find? fun vr => vr.name == n with
    | some vr => rfl
    | none =>
      cases modelWithImportedItem m S n with
      | none => rfl
      | some m' => exact valueReference_eq_chase S n k m'

theorem definition_eq_chase (S : List UModule) (n : String) : ∀ (k : Nat) (m : UModule),
    definition k m S n = .ok (chase (fun m => m.definitions.find? fun d => d.name == n) S n k m)
  | 0, _ => rfl
  | k + 1, m => by
    rw [definition, chase, hop]
    cases m.definitions.find? fun d => d.name == n with
    | some d => rfl
    | none =>
      cases modelWithImportedItem m S n with
      | none => rfl
      | some m' => exact definition_eq_chase S n k m'

/-- a name imported from a sibling that defines it: the first import listing the name, the first
    loaded module matching that import -/
theorem valueReference_imported (A B : UModule) (S : List UModule) (n : String) (imp : Import)
    (vr : UValueReference)
    (hlocal : A.valueReferences.find? (fun v => v.name == n) = none)
    (himp : A.imports.find? (fun i => i.what.any (· == n)) = some imp)
    (hmod : S.find? (importMatches imp) = some B)
    (hdef : B.valueReferences.find? (fun v => v.name == n) = some vr) :
    (Scope.mk A S).valueReference n = .ok (some vr) := by
  cases S with
  | nil => cases hmod
  | cons c S =>
    simp only [Scope.valueReference, chaseFuel, List.length_cons]
    rw [valueReference, hlocal]
    simp only [modelWithImportedItem_eq, himp, Option.bind_some, hmod]
    rw [valueReference, hdef]

section
variable {α : Type} {loc : UModule → Option α} {S : List UModule} {n : String}

/-- however the imports are wired, in particular when they form a cycle -/
theorem chase_none_of_undefined (hS : ∀ m ∈ S, loc m = none) :
    ∀ (k : Nat) (m : UModule), loc m = none → chase loc S n k m = none
  | 0, _, _ => rfl
  | k + 1, m, hm => by
    rw [chase, hm, Option.none_or]
    cases h : hop loc S n m with
    | none => rfl
    | some m' =>
      exact chase_none_of_undefined hS k m' (hS m' (modelWithImportedItem_mem (hop_eq_some h).2))

theorem chase_map {β : Type} (g : α → β) : ∀ (k : Nat) (m : UModule),
    chase (fun m => (loc m).map g) S n k m = (chase loc S n k m).map g
  | 0, _ => rfl
  | k + 1, m => by
    simp only [chase, hop]
    cases loc m with
    | some a => rfl
    | none =>
      cases modelWithImportedItem m S n with
      | none => rfl
      | some m' => exact chase_map g k m'

theorem chase_congr {loc' : UModule → Option α} {S' : List UModule}
    (R : UModule → UModule → Prop) (hloc : ∀ m m', R m m' → loc' m' = loc m)
    (hnext : ∀ m m', R m m' →
      Option.Rel R (modelWithImportedItem m S n) (modelWithImportedItem m' S' n)) :
    ∀ (k : Nat) (m m' : UModule), R m m' → chase loc' S' n k m' = chase loc S n k m
  | 0, _, _, _ => rfl
  | k + 1, m, m', h => by
    simp only [chase, hop, hloc m m' h]
    cases loc m with
    | some a => rfl
    | none =>
      match modelWithImportedItem m S n, modelWithImportedItem m' S' n, hnext m m' h with
      | _, _, .none => rfl
      | _, _, .some hr => exact chase_congr R hloc hnext k _ _ hr

/-! ### the hop bound is never observable -/

theorem orbit_add : ∀ (i j : Nat) (m : UModule),
    orbit loc S n (i + j) m = (orbit loc S n i m).bind (orbit loc S n j)
  | 0, j, m => by rw [Nat.zero_add]; rfl
  | i + 1, j, m => by
    rw [Nat.add_right_comm, orbit, orbit]
    cases hop loc S n m with
    | none => rfl
    | some m' => exact orbit_add i j m'

theorem orbit_some_of_le {i j : Nat} {m x : UModule} (h : orbit loc S n j m = some x)
    (hij : i ≤ j) : ∃ y, orbit loc S n i m = some y := by
  obtain ⟨d, rfl⟩ : ∃ d, j = i + d := ⟨j - i, by omega⟩
  rw [orbit_add] at h
  obtain ⟨y, hy, -⟩ := Option.bind_eq_some_iff.mp h
  exact ⟨y, hy⟩

theorem orbit_succ_mem {j : Nat} {m m' : UModule} (h : orbit loc S n (j + 1) m = some m') :
    m' ∈ S := by
  rw [orbit_add] at h
  obtain ⟨m₁, -, h⟩ := Option.bind_eq_some_iff.mp h
  rw [orbit] at h
  obtain ⟨m₂, h, h'⟩ := Option.bind_eq_some_iff.mp h
  cases h'
  exact modelWithImportedItem_mem (hop_eq_some h).2

theorem chase_of_orbit_none : ∀ {k : Nat} {m : UModule}, orbit loc S n k m = none →
    ∀ {k'}, k ≤ k' → chase loc S n k' m = chase loc S n k m
  | k + 1, m, h, k' + 1, hk' => by
    rw [chase, chase]
    rw [orbit] at h
    cases hh : hop loc S n m with
    | none => rfl
    | some m' =>
      rw [hh] at h
      simp only [Option.bind_some, chase_of_orbit_none h (Nat.le_of_succ_le_succ hk')]

theorem chase_of_orbit_some : ∀ {j : Nat} {m m' : UModule}, orbit loc S n j m = some m' →
    ∀ k, chase loc S n (j + k) m = chase loc S n k m'
  | 0, m, m', h, k => by
    cases h
    rw [Nat.zero_add]
  | j + 1, m, m', h, k => by
    obtain ⟨m₁, h₁, h⟩ := Option.bind_eq_some_iff.mp h
    rw [Nat.add_right_comm, chase, (hop_eq_some h₁).1, h₁]
    exact chase_of_orbit_some h k

theorem chase_none_of_cycle {j : Nat} (hj : 0 < j) {m : UModule}
    (hc : orbit loc S n j m = some m) (k : Nat) : chase loc S n k m = none := by
  induction k using Nat.strongRecOn with
  | _ k ih =>
    by_cases hk : k < j
    · -- still on the way round: nothing found yet
      obtain ⟨m', hm'⟩ := orbit_some_of_le hc (Nat.le_of_lt hk)
      exact chase_of_orbit_some hm' 0
    · obtain ⟨d, rfl⟩ : ∃ d, k = j + d := ⟨k - j, by omega⟩
      rw [chase_of_orbit_some hc d]
      exact ih d (by omega)

end

/-- pigeonhole -/
theorem exists_dup_of_subset {β : Type} (S l : List β) (hsub : ∀ x ∈ l, x ∈ S)
    (hlen : S.length < l.length) :
    ∃ (i j : Nat) (hi : i < l.length) (hj : j < l.length), i < j ∧ l[i] = l[j] := by
  apply Classical.byContradiction
  intro hno
  have hnd : l.Nodup := by
    rw [List.nodup_iff_pairwise_ne, List.pairwise_iff_getElem]
    exact fun i j hi hj hij heq => hno ⟨i, j, hi, hj, hij, heq⟩
  have := hnd.length_le_of_subset hsub
  omega

theorem chase_fuel_irrelevant {α : Type} (loc : UModule → Option α) (S : List UModule)
    (n : String) (A : UModule) (k : Nat) (hk : S.length + 1 ≤ k) :
    chase loc S n k A = chase loc S n (S.length + 1) A := by
  cases hend : orbit loc S n (S.length + 1) A with
  | none => exact chase_of_orbit_none hend hk
  | some mEnd =>
    -- the chase is still running after `S.length + 1` hops; where it stands after 1, …,
    -- S.length + 1 of them: that many positions, each holding a module of `S`
    let l := (List.range (S.length + 1)).map fun i => orbit loc S n (i + 1) A
    have hsub : ∀ x ∈ l, x ∈ S.map some := by
      intro x hx
      obtain ⟨i, hi, rfl⟩ := List.mem_map.mp hx
      obtain ⟨y, hy⟩ := orbit_some_of_le hend (Nat.succ_le_of_lt (List.mem_range.mp hi))
      rw [hy]
      exact List.mem_map_of_mem (orbit_succ_mem hy)
    obtain ⟨i, j, hi, hj, hij, heq⟩ := exists_dup_of_subset (S.map some) l hsub (by simp [l])
    simp only [l, List.length_map, List.length_range, List.getElem_map, List.getElem_range] at hj heq
    obtain ⟨y, hy⟩ := orbit_some_of_le hend (show i + 1 ≤ S.length + 1 by omega)
    obtain ⟨d, rfl⟩ : ∃ d, j = i + (d + 1) := ⟨j - i - 1, by omega⟩
    have hcyc : orbit loc S n (d + 1) y = some y := by
      rw [hy, show i + (d + 1) + 1 = (i + 1) + (d + 1) by omega, orbit_add, hy] at heq
      exact heq.symm
    have hnone : ∀ k', i + 1 ≤ k' → chase loc S n k' A = none := by
      intro k' hk'
      obtain ⟨e, rfl⟩ : ∃ e, k' = (i + 1) + e := ⟨k' - (i + 1), by omega⟩
      rw [chase_of_orbit_some hy e]
      exact chase_none_of_cycle (Nat.succ_pos d) hcyc e
    rw [hnone k (by omega), hnone (S.length + 1) (by omega)]

theorem valueReference_fuel_irrelevant (A : UModule) (S : List UModule) (n : String) (k : Nat)
    (hk : chaseFuel S ≤ k) : valueReference k A S n = valueReference (chaseFuel S) A S n := by
  rw [valueReference_eq_chase, valueReference_eq_chase, chase_fuel_irrelevant _ S n A k hk]
  rfl

theorem definition_fuel_irrelevant (A : UModule) (S : List UModule) (n : String) (k : Nat)
    (hk : chaseFuel S ≤ k) : definition k A S n = definition (chaseFuel S) A S n := by
  rw [definition_eq_chase, definition_eq_chase, chase_fuel_irrelevant _ S n A k hk]
  rfl

end Asn1Verif.Front.Syn
