import Asn1Verif.Uper.Compat
import Asn1Verif.Uper.CompatChoice
import Asn1Verif.Codegen.TagsLemmas
/-
  C05 — Extension additions are forward/backward compatible across schema versions: if V2 differs
  from V1 only by appending extension additions (SEQUENCE/SET), extension alternatives (CHOICE) or
  extension values (ENUMERATED), then every V1 encoding decodes under V2 to the same root content
  with the new additions absent, and every V2 encoding decodes under V1 to the same root content
  with unknown additions skipped (unknown CHOICE/ENUMERATED extension values may be reported as an
  error but never as a wrong value).  In both directions the reader ends exactly at the end of the
  message.

  Code mirror:  `Uper/Impl.lean` (`enc`, `dec`; `readExtHeader`, `skipUnknown` mirror commit 91e31d8)
  Lemmas:       `Uper/Compat*.lean` on top of the C01 library `Uper/RoundTrip*.lean`:
                `walk` — along the common components the reader follows the writer whatever the two
                sides do behind them (`Cont`); forward tail = unknown-to-the-writer additions are
                absent; backward tail = `skipUnknown` steps over the bitmap and the open types.

  The bits stand between ARBITRARY `pre` and `post`, and the reader's cursor ends at
  `pre.length + bits.length`: exactly at the end of the message.
  ENUMERATED (`enum_fwd`, `enum_bwd_known`, `enum_bwd_unknown`) and the unknown CHOICE alternative
  (`choice_bwd_unknown`) are FULL statements (hypotheses: `u64` range facts only).  Where the
  content of a known component is read back, the hypothesis is `WF` of C01 (`_partial`): fewer than
  16K items per SEQUENCE OF / restricted string, open-type contents below 16K octets.  For
  `seq_bwd_partial` this includes the payloads of the additions V1 does not know: a fragmented
  (≥ 16K octets) unknown addition is NOT skipped correctly by `skip_unknown_extension_additions`
  (it reads one length determinant and jumps `len * 8` bits: known limitation, same class as the
  open-type finding of C01).

  SET.  The statements are about descriptors: the component list in the order of the generated
  `read_seq`/`write_seq`, and `addExtensions` APPENDS the new additions to it.  For a SEQUENCE that
  is the textual order.  For a SET the generator sorts (`sort_fields_canonically`, model
  `Codegen/Tags.lean`, property C16); `set_version_descriptor` ties the two: the descriptor the
  generator emits for a SET version with appended additions is the old descriptor followed by the
  new additions, with the same `EXTENDED_AFTER_FIELD` — so `seq_fwd_partial`/`seq_bwd_partial`
  apply to SET versions as they do to SEQUENCE versions.  (Before the repair of the sort the
  additions were sorted by tag among themselves and a new addition with a lower tag moved in
  front of an old one: former finding F-set-additions-sorted, witness `zoo_ver::SetV1/SetV2`.)
-/
namespace Asn1Verif.Props.C05
open Asn1Verif Asn1Verif.Per Asn1Verif.Uper Outcome

/-- V2 = V1 + extension additions (SEQUENCE/SET: all OPTIONAL/DEFAULT, which is what the generator
    emits) or + extension alternatives (CHOICE) -/
def addExtensions (t : Ty) (adds : Fields) : Option Ty :=
  match t with
  | .seq so fc (some k) fields =>
    if adds.allOpt then some (.seq so (fc + adds.length) (some k) (fields.append adds)) else none
  | .choice std total true alts => some (.choice std (total + adds.length) true (alts.append adds))
  | _ => none

/-- V2 = V1 + `n` extension values (ENUMERATED) -/
def addEnumValues (t : Ty) (n : Nat) : Option Ty :=
  match t with
  | .enum std total true => some (.enum std (total + n) true)
  | _ => none

/-- a V1 value seen as a V2 value: the new additions absent (`NONE` / the DEFAULT value) -/
def extendVal (adds : Fields) : Val → Val
  | .seq vs => .seq (vs.append adds.absents)
  | v => v

/-- the new versions keep the generated constants consistent -/
theorem addExtensions_consistent (t t2 : Ty) (adds : Fields) (hc : t.consistent = true)
    (ha : adds.consistent = true) (h : addExtensions t adds = some t2) : t2.consistent = true := by
  unfold addExtensions at h
  split at h
  · split at h
    · cases h
      simp only [Ty.consistent, Bool.and_eq_true, beq_iff_eq, decide_eq_true_eq] at hc ⊢
      refine ⟨⟨by rw [Fields.length_append, hc.1.1], ?_, ?_⟩, consistent_append _ _ hc.2 ha⟩
      · rw [Fields.length_append]; omega
      · rw [optCount_append _ _ _ (by omega)]; exact hc.1.2.2
    · cases h
  · cases h
    simp only [Ty.consistent, Bool.and_eq_true, beq_iff_eq, decide_eq_true_eq] at hc ⊢
    exact ⟨⟨by rw [Fields.length_append, hc.1.1], by omega⟩, consistent_append _ _ hc.2 ha⟩
  · cases h

/-! ### ENUMERATED (full) -/

/-- forward: every V1 value reads back under V2 -/
theorem enum_fwd (std total n : Nat) (ext : Bool) (i : Nat) (bits pre post : Bits)
    (hstd : std ≤ U64_MAX) (hi : i < total) (hi64 : i ≤ U64_MAX)
    (h : enc (.enum std total ext) (.enum i) = ok bits) :
    dec (.enum std (total + n) ext) (pre ++ bits ++ post) pre.length
      = ok (.enum i, pre.length + bits.length) := by
  exact (enum_known std (total + n) total ext i bits (by omega) hstd hi64 h).between pre post

/-- backward, a value V1 knows -/
theorem enum_bwd_known (std total n : Nat) (ext : Bool) (i : Nat) (bits pre post : Bits)
    (hstd : std ≤ U64_MAX) (hi : i < total) (hi64 : i ≤ U64_MAX)
    (h : enc (.enum std (total + n) ext) (.enum i) = ok bits) :
    dec (.enum std total ext) (pre ++ bits ++ post) pre.length
      = ok (.enum i, pre.length + bits.length) := by
  exact (enum_known std total (total + n) ext i bits hi hstd hi64 h).between pre post

/-- backward, an extension value V1 does not know: an error, never a value -/
theorem enum_bwd_unknown (std total n : Nat) (ext : Bool) (i : Nat) (bits pre post : Bits)
    (hstd : std ≤ U64_MAX) (hi : total ≤ i) (hi64 : i ≤ U64_MAX)
    (h : enc (.enum std (total + n) ext) (.enum i) = ok bits) :
    dec (.enum std total ext) (pre ++ bits ++ post) pre.length = err .invalidChoiceIndex := by
  rw [List.append_assoc]
  exact enum_unknown std total (total + n) ext i bits hi hstd hi64 h _ _ post
    (At.of_append pre bits post)

/-! ### CHOICE -/

/-- forward, reader only (full): whatever decodes under V1 decodes to the same value and position
    under V2, for every input -/
theorem choice_fwd_read (std total : Nat) (ext : Bool) (alts adds : Fields) (inp : Bits) (pos : Nat)
    (r : Val × Nat) (hc : (Ty.choice std total ext alts).consistent = true)
    (h : dec (.choice std total ext alts) inp pos = ok r) :
    dec (.choice std (total + adds.length) ext (alts.append adds)) inp pos = ok r := by
  simp only [Ty.consistent, Bool.and_eq_true, beq_iff_eq, decide_eq_true_eq] at hc
  exact choice_read_mono std total adds.length ext alts adds inp pos r hc.1.1 hc.1.2 h

/-- forward: a V1 encoding decodes under V2 to the same value -/
theorem choice_fwd_partial (std total : Nat) (alts adds : Fields) (v : Val) (t2 : Ty)
    (bits pre post : Bits) (h2 : addExtensions (.choice std total true alts) adds = some t2)
    (hw : WF (.choice std total true alts) v = true)
    (h : enc (.choice std total true alts) v = ok bits) :
    dec t2 (pre ++ bits ++ post) pre.length = ok (v, pre.length + bits.length) := by
  simp only [addExtensions, Option.some.injEq] at h2
  subst h2
  have hc : (Ty.choice std total true alts).consistent = true := by
    simp only [WF, Bool.and_eq_true] at hw; exact hw.1.1
  apply choice_fwd_read std total true alts adds _ _ _ hc
  simp only [WF, Bool.and_eq_true] at hw
  exact (rt _ hw.1.2 v bits hw.2 h).between pre post

/-- backward, an alternative V1 knows -/
theorem choice_bwd_known_partial (std total : Nat) (alts adds : Fields) (i : Nat) (x : Val) (t2 : Ty)
    (bits pre post : Bits) (h2 : addExtensions (.choice std total true alts) adds = some t2)
    (hw : WF (.choice std total true alts) (.choice i x) = true)
    (h : enc t2 (.choice i x) = ok bits) :
    dec (.choice std total true alts) (pre ++ bits ++ post) pre.length
      = ok (.choice i x, pre.length + bits.length) := by
  simp only [addExtensions, Option.some.injEq] at h2
  subst h2
  simp only [WF, Bool.and_eq_true] at hw
  have hc := hw.1.1
  simp only [Ty.consistent, Bool.and_eq_true, beq_iff_eq, decide_eq_true_eq] at hc
  have hi : i < alts.length := by
    have := hw.2
    simp only [valOk, Bool.and_eq_true, decide_eq_true_eq] at this
    omega
  rw [enc_choice_append std total _ true alts adds i x hi] at h
  exact (rt _ hw.1.2 _ bits hw.2 h).between pre post

/-- backward, an extension alternative V1 does not know (full): `InvalidChoiceIndex`, never a value -/
theorem choice_bwd_unknown (std total : Nat) (alts adds : Fields) (i : Nat) (x : Val) (t2 : Ty)
    (bits pre post : Bits) (h2 : addExtensions (.choice std total true alts) adds = some t2)
    (hs : std ≤ total) (hstd : std ≤ U64_MAX) (hi : total ≤ i) (hi64 : i ≤ U64_MAX)
    (h : enc t2 (.choice i x) = ok bits) :
    dec (.choice std total true alts) (pre ++ bits ++ post) pre.length = err .invalidChoiceIndex := by
  simp only [addExtensions, Option.some.injEq] at h2
  subst h2
  rw [List.append_assoc]
  exact choice_unknown std total _ alts _ i x bits hs hi hstd hi64 h _ _ post
    (At.of_append pre bits post)

/-! ### SEQUENCE / SET -/

/-- forward: a V1 encoding decodes under V2 to the same components with every new addition absent
    (`NONE` / its DEFAULT value), ending exactly behind the message -/
theorem seq_fwd_partial (so fc k : Nat) (fields adds : Fields) (v : Val) (t2 : Ty)
    (bits pre post : Bits) (h2 : addExtensions (.seq so fc (some k) fields) adds = some t2)
    (hw : WF (.seq so fc (some k) fields) v = true)
    (h : enc (.seq so fc (some k) fields) v = ok bits) :
    dec t2 (pre ++ bits ++ post) pre.length = ok (extendVal adds v, pre.length + bits.length) := by
  simp only [addExtensions] at h2
  split at h2
  · rename_i ho
    injection h2 with h2; subst h2
    cases v <;> try cases h
    rename_i vs
    simp only [WF, Bool.and_eq_true] at hw
    obtain ⟨⟨hc, hrt⟩, hv⟩ := hw
    simp only [Ty.consistent, Bool.and_eq_true, beq_iff_eq, decide_eq_true_eq] at hc
    simp only [Ty.rtOk, Bool.and_eq_true, decide_eq_true_eq] at hrt
    have hl : vs.length = fields.length := by
      obtain ⟨fin, henc, _⟩ := bind_eq_ok.1 h
      exact encFields_length _ _ _ _ _ henc
    rw [← Fields.append_nil fields, ← Vals.append_nil vs] at h
    exact (seq_versions so fc so (fc + adds.length) k fields .nil adds vs .nil adds.absents bits
      hc.1.2.1 hl hrt.2 hv (by rw [Fields.append_nil]; exact hrt.1) (cont_fwd_tail adds ho) h).between
      pre post
  · cases h2

/-- backward: a V2 encoding — components of V1 `vs`, then the additions V1 does not know `avs` —
    decodes under V1 to `vs`, the unknown additions skipped, ending exactly behind the message -/
theorem seq_bwd_partial (so fc k : Nat) (fields adds : Fields) (vs avs : Vals) (t2 : Ty)
    (bits pre post : Bits) (h2 : addExtensions (.seq so fc (some k) fields) adds = some t2)
    (hc : (Ty.seq so fc (some k) fields).consistent = true) (hl : vs.length = fields.length)
    (hw : WF t2 (.seq (vs.append avs)) = true)
    (h : enc t2 (.seq (vs.append avs)) = ok bits) :
    dec (.seq so fc (some k) fields) (pre ++ bits ++ post) pre.length
      = ok (.seq vs, pre.length + bits.length) := by
  simp only [addExtensions] at h2
  split at h2
  · rename_i ho
    injection h2 with h2; subst h2
    simp only [WF, Bool.and_eq_true] at hw
    obtain ⟨⟨_, hrt⟩, hv⟩ := hw
    simp only [Ty.consistent, Bool.and_eq_true, beq_iff_eq, decide_eq_true_eq] at hc
    simp only [Ty.rtOk, Bool.and_eq_true, decide_eq_true_eq] at hrt
    simp only [valOk] at hv
    have hr := rtOk_append adds fields (k + 1) hrt.2
    have hvs := valOkFields_append adds avs fields vs (k + 1) hl hv
    rw [Nat.sub_eq_zero_of_le hc.1.2.1] at hvs
    rw [← Fields.append_nil fields, ← Vals.append_nil vs]
    exact (seq_versions so (fc + adds.length) so fc k fields adds .nil vs avs .nil bits hc.1.2.1 hl
      hr.1 hvs.1 hrt.1
      (cont_bwd_tail adds avs ho hvs.2 (by rw [Fields.length_append] at hrt; omega)) h).between
      pre post
  · cases h2

/-! ### SET: appending additions to the text appends them to the descriptor -/

/-- **SET versions**: V2's text is V1's text with extension additions appended (marker behind
    component `k`; the tagging mode stays — a list that is tagged automatically gets untagged
    additions only).  Then the order of the `read_value`/`write_value` calls the generator emits
    for V2 is the order emitted for V1 followed by the new additions as written, and
    `EXTENDED_AFTER_FIELD` is the same: V2's descriptor is `addExtensions` of V1's. -/
theorem set_version_descriptor (fields adds : List Codegen.Tags.RField) (k : Nat)
    (hk : k < fields.length)
    (hn : Codegen.Tags.NoneTagged fields → Codegen.Tags.NoneTagged adds)
    (em1 em2 : Codegen.Tags.Emitted)
    (h1 : Codegen.Tags.writeConstraints .sort fields (some k) = .ok em1)
    (h2 : Codegen.Tags.writeConstraints .sort (fields ++ adds) (some k) = .ok em2) :
    em2.order = em1.order ++ adds.map (·.name) ∧ em2.extAfter = em1.extAfter :=
  Codegen.Tags.writeConstraints_sort_append fields adds k hk hn em1 em2 h1 h2

section SetWitness
open Asn1Verif.Codegen.Tags

/-- `zoo_ver::SetV1 ::= SET { a [0] INTEGER (0..7), ..., b [5] BOOLEAN OPTIONAL }` -/
def setV1 : List RField :=
  [{ name := "a", tag := some (Tag.contextSpecific 0), typeTag := some (Tag.universal 2),
     kind := .builtin .integer, presence := .required },
   { name := "b", tag := some (Tag.contextSpecific 5), typeTag := some (Tag.universal 1),
     kind := .builtin .boolean, presence := .optional }]

/-- `SetV2` = `SetV1` + `c [2] INTEGER (0..255) OPTIONAL`: the new addition has a lower tag than
    the old one -/
def setV2Adds : List RField :=
  [{ name := "c", tag := some (Tag.contextSpecific 2), typeTag := some (Tag.universal 2),
     kind := .builtin .integer, presence := .optional }]

-- regression, the witness of the former finding: V2 is emitted `a, b, c` (was `a, c, b`, so that a
-- V1 encoding {a=5, b=TRUE} decoded under V2 as {a=5, c=128, b absent}); the hypotheses of
-- `set_version_descriptor` hold on it
example : (writeConstraints .sort setV1 (some 0)).bind (fun em => .ok (em.order, em.extAfter))
      = .ok (["a", "b"], some 0) ∧
    (writeConstraints .sort (setV1 ++ setV2Adds) (some 0)).bind
      (fun em => .ok (em.order, em.extAfter)) = .ok (["a", "b", "c"], some 0) := by
  simp [setV1, setV2Adds, writeConstraints, assignImplicitTags, tagConsts, tagConst, emitOrder,
    sortFieldsCanonically, prepare, sortKeyed, List.mergeSort,
    List.MergeSort.Internal.splitInTwo, List.merge, keyLe, extendedFlag, List.zipIdx,
    Outcome.bind]
example : 0 < setV1.length ∧ (NoneTagged setV1 → NoneTagged setV2Adds) := by decide

end SetWitness

/-! ### non-vacuity: three versions of a message -/

def msgV1 : Ty :=
  .seq 1 2 (some 1) (.cons .m (.int (some 0) (some 255) false 8 false) (.cons .o .bool .nil))

def addsV2 : Fields :=
  .cons .o (.str .ia5 none none false) (.cons (.d (.int 5)) (.int (some 0) (some 7) false 8 false) .nil)

def msgV2 : Ty :=
  .seq 1 4 (some 1) (.cons .m (.int (some 0) (some 255) false 8 false) (.cons .o .bool
    (.cons .o (.str .ia5 none none false)
      (.cons (.d (.int 5)) (.int (some 0) (some 7) false 8 false) .nil))))

def valV1 : Val := .seq (.cons (.int 77) (.cons (.some (.bool true)) .nil))
def valV2 : Val :=
  .seq ((Vals.cons (.int 77) (.cons (.some (.bool true)) .nil)).append
    (.cons (.some (.str [0x41#8, 0x42#8])) (.cons (.int 3) .nil)))

example : addExtensions msgV1 addsV2 = some msgV2 := rfl
example : WF msgV1 valV1 = true ∧ (enc msgV1 valV1).isOk = true := by decide +kernel
example : WF msgV2 valV2 = true ∧ (enc msgV2 valV2).isOk = true := by decide +kernel
example : msgV1.consistent = true := by decide +kernel
example : extendVal addsV2 valV1 =
    .seq (.cons (.int 77) (.cons (.some (.bool true)) (.cons .none (.cons (.int 5) .nil)))) := rfl

def choV1 : Ty := .choice 2 2 true (.cons .m .bool (.cons .m .null .nil))
def choAdds : Fields := .cons .m (.oct none none false) .nil
def choV2 : Ty := .choice 2 3 true (.cons .m .bool (.cons .m .null (.cons .m (.oct none none false) .nil)))

example : addExtensions choV1 choAdds = some choV2 := rfl
example : WF choV1 (.choice 0 (.bool true)) = true := by decide +kernel
example : (enc choV2 (.choice 2 (.oct [0xAB#8]))).isOk = true := by decide +kernel
-- `seq_bwd_partial`: the V2 value splits into V1's components and the unknown additions
example : (Vals.cons (.int 77) (.cons (.some (.bool true)) .nil)).length
    = (Fields.cons .m (.int (some 0) (some 255) false 8 false) (.cons .o .bool .nil)).length := rfl
-- `choice_bwd_known_partial` / `choice_bwd_unknown`: alternative 0 is known to V1, alternative 2 is not
example : (enc choV2 (.choice 0 (.bool true))).isOk = true := by decide +kernel
example : (2 : Nat) ≤ 2 ∧ (2 : Nat) ≤ U64_MAX ∧ (2 : Nat) ≤ 2 := by decide
-- `enum_fwd`, `enum_bwd_known`, `enum_bwd_unknown`
example : (3 : Nat) ≤ U64_MAX ∧ (2 : Nat) < 3 ∧ (3 : Nat) ≤ 4 ∧ (4 : Nat) ≤ U64_MAX := by decide
example : enc (.enum 3 3 true) (.enum 2) = ok [false, true, false] := by decide +kernel
example : addEnumValues (.enum 3 3 true) 2 = some (.enum 3 5 true) := rfl
example : enc (.enum 3 5 true) (.enum 4) = ok ([true] ++ [false, false, false, false, false, false, true]) := by
  decide +kernel

/-! ### the full statements (hypothesis `Typed`: no exclusion of the findings) and their refutation

  The `_partial` theorems above exclude, through `WF`, the regions of the C01 findings.  With
  `Typed` instead the statements are false for the current code; refuted on the smallest witness:
  a hand-written MANDATORY extension addition of SEQUENCE OF type (written inline, read as an open
  type).  In the regions of F-frag (≥ 16K items) and of fragmented open types (≥ 16K octets; for
  `seq_bwd` also the payload of an UNKNOWN addition, which `skip_unknown_extension_additions`
  steps over with a single length determinant) the witnesses are too large to evaluate here; see
  `C01.frag_ignored` for the symbolic form of F-frag. -/

def seq_fwd_full : Prop :=
  ∀ (so fc k : Nat) (fields adds : Fields) (v : Val) (t2 : Ty) (bits pre post : Bits),
    addExtensions (.seq so fc (some k) fields) adds = some t2 →
    Typed (.seq so fc (some k) fields) v = true → enc (.seq so fc (some k) fields) v = ok bits →
    dec t2 (pre ++ bits ++ post) pre.length = ok (extendVal adds v, pre.length + bits.length)

def seq_bwd_full : Prop :=
  ∀ (so fc k : Nat) (fields adds : Fields) (vs avs : Vals) (t2 : Ty) (bits pre post : Bits),
    addExtensions (.seq so fc (some k) fields) adds = some t2 →
    (Ty.seq so fc (some k) fields).consistent = true → vs.length = fields.length →
    Typed t2 (.seq (vs.append avs)) = true → enc t2 (.seq (vs.append avs)) = ok bits →
    dec (.seq so fc (some k) fields) (pre ++ bits ++ post) pre.length
      = ok (.seq vs, pre.length + bits.length)

def choice_fwd_full : Prop :=
  ∀ (std total : Nat) (alts adds : Fields) (v : Val) (t2 : Ty) (bits pre post : Bits),
    addExtensions (.choice std total true alts) adds = some t2 →
    Typed (.choice std total true alts) v = true → enc (.choice std total true alts) v = ok bits →
    dec t2 (pre ++ bits ++ post) pre.length = ok (v, pre.length + bits.length)

def badAdds : Fields := .cons .o .bool .nil
/-- `SEQUENCE { a BOOLEAN, ..., b SEQUENCE OF BOOLEAN }` with `b` mandatory -/
def badFields : Fields := .cons .m .bool (.cons .m (.seqOf none none false .bool) .nil)
def badV1 : Ty := .seq 0 2 (some 0) badFields
def badV2 : Ty := .seq 0 (2 + badAdds.length) (some 0) (badFields.append badAdds)
def badVal : Vals := .cons (.bool true) (.cons (.list (.cons (.bool true) .nil)) .nil)
def badBits : Bits := [true, true] ++ [false, false, false, false, false, false, false] ++ [true] ++
  [false, false, false, false, false, false, false, true, true]
/-- the same with the new addition absent: bitmap `10` -/
def badBits2 : Bits := [true, true] ++ [false, false, false, false, false, false, true] ++
  [true, false] ++ [false, false, false, false, false, false, false, true, true]

theorem seq_fwd_full_false : ¬ seq_fwd_full := fun h => by
  have := h 0 2 0 badFields badAdds (.seq badVal) badV2 badBits [] [] rfl (by decide +kernel)
    (by decide +kernel)
  have hok := congrArg Outcome.isOk this
  revert hok
  decide +kernel

theorem seq_bwd_full_false : ¬ seq_bwd_full := fun h => by
  have := h 0 2 0 badFields badAdds badVal (.cons .none .nil) badV2 badBits2 [] [] rfl
    (by decide +kernel) (by decide +kernel) (by decide +kernel) (by decide +kernel)
  have hok := congrArg Outcome.isOk this
  revert hok
  decide +kernel

theorem choice_fwd_full_false : ¬ choice_fwd_full := fun h => by
  have := h 1 1 (.cons .m badV1 .nil) (.cons .m .null .nil) (.choice 0 (.seq badVal))
    (.choice 1 (1 + 1) true ((Fields.cons .m badV1 .nil).append (.cons .m .null .nil)))
    ([false] ++ badBits) [] [] rfl (by decide +kernel) (by decide +kernel)
  have hok := congrArg Outcome.isOk this
  revert hok
  decide +kernel

end Asn1Verif.Props.C05
