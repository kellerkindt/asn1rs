import Asn1Verif.Bits.Slice
/-
  The byte/mask/shift code of the L0 mirror equals the naive bit-vector semantics: every copying
  function satisfies `CopySpec`, copies of adjacent bit runs compose (`CopySpec.append`), and
  `CopySpec` determines its result (`CopySpec.unique`).
-/
namespace Asn1Verif.Bits
open Asn1Verif Outcome

theorem byte_len_eq : Consts.BYTE_LEN = 8 := rfl

theorem getBit_eq_getElem (bs : List Byte) (j : Nat) (h : j / 8 < bs.length) :
    getBit bs j = (bs[j / 8]).getMsbD (j % 8) := by
  unfold getBit
  rw [List.getD_eq_getElem?_getD, List.getElem?_eq_getElem h, Option.getD_some]

theorem getBit_add_mul (bs : List Byte) (q r : Nat) (hr : r < 8) :
    getBit bs (q * 8 + r) = (bs.getD q 0#8).getMsbD r := by
  unfold getBit
  rw [Nat.mul_comm, Nat.mul_add_div (by decide), Nat.div_eq_of_lt hr, Nat.add_zero,
    Nat.mul_add_mod, Nat.mod_eq_of_lt hr]

theorem getBit_of_ge (bs : List Byte) (j : Nat) (h : bs.length * 8 ≤ j) : getBit bs j = false := by
  unfold getBit
  rw [List.getD_eq_getElem?_getD, List.getElem?_eq_none (by omega), Option.getD_none,
    BitVec.getMsbD_zero]

theorem getBit_append_replicate (bs : List Byte) (k j : Nat) :
    getBit (bs ++ List.replicate k 0#8) j = getBit bs j := by
  unfold getBit
  simp only [List.getD_eq_getElem?_getD]
  by_cases h : j / 8 < bs.length
  · rw [List.getElem?_append_left h]
  · rw [List.getElem?_append_right (by omega)]
    rw [List.getElem?_eq_none (l := bs) (by omega)]
    simp only [List.getElem?_replicate]
    split <;> simp

theorem getBit_modify (bs : List Byte) (k : Nat) (f : Byte → Byte) (j : Nat) (hk : k < bs.length) :
    getBit (bs.modify k f) j = if j / 8 = k then (f bs[k]).getMsbD (j % 8) else getBit bs j := by
  unfold getBit
  simp only [List.getD_eq_getElem?_getD, List.getElem?_modify]
  by_cases h : j / 8 = k
  · subst h
    rw [List.getElem?_eq_getElem hk]; simp
  · cases h' : bs[j / 8]? <;> simp [h, Ne.symm h]

theorem ext_getBit (a b : List Byte) (hl : a.length = b.length)
    (h : ∀ j, getBit a j = getBit b j) : a = b := by
  apply List.ext_getElem hl
  intro i h1 h2
  apply BitVec.eq_of_getMsbD_eq
  intro k hk
  have := h (i * 8 + k)
  rwa [getBit_add_mul _ _ _ hk, getBit_add_mul _ _ _ hk, List.getD_eq_getElem?_getD,
    List.getD_eq_getElem?_getD, List.getElem?_eq_getElem h1, List.getElem?_eq_getElem h2] at this

theorem mask_getMsbD (k m : Nat) (hk : k < 8) : (1#8 <<< (7 - k)).getMsbD m = decide (m = k) := by
  rw [← BitVec.twoPow_eq, BitVec.getMsbD_twoPow, decide_eq_true (by omega : 7 - k < 8),
    Bool.true_and, show 8 - (7 - k) - 1 = k by omega]

theorem byte_put (d : Byte) (b : Bool) (k m : Nat) (hk : k < 8) (hm : m < 8) :
    (if b then d ||| (1#8 <<< (7 - k)) else d &&& ~~~(1#8 <<< (7 - k))).getMsbD m =
      if m = k then b else d.getMsbD m := by
  cases b
  · rw [if_neg Bool.false_ne_true, BitVec.getMsbD_and, BitVec.getMsbD_not, mask_getMsbD k m hk]
    by_cases h : m = k <;> simp [h, hm]
  · rw [if_pos rfl, BitVec.getMsbD_or, mask_getMsbD k m hk]
    by_cases h : m = k <;> simp [h]

@[simp] theorem length_setBit (bs : List Byte) (i : Nat) (b : Bool) :
    (setBit bs i b).length = bs.length := List.length_modify ..

theorem getBit_setBit (bs : List Byte) (i j : Nat) (b : Bool) (hi : i < bs.length * 8) :
    getBit (setBit bs i b) j = if j = i then b else getBit bs j := by
  unfold setBit
  rw [getBit_modify _ _ _ _ (by omega)]
  by_cases h8 : j / 8 = i / 8
  · rw [if_pos h8, byte_put _ _ _ _ (Nat.mod_lt _ (by decide)) (Nat.mod_lt _ (by decide)),
      getBit_eq_getElem bs j (by omega)]
    simp only [h8]
    by_cases h : j = i
    · rw [if_pos h, if_pos (by rw [h])]
    · rw [if_neg h, if_neg (by omega)]
  · rw [if_neg h8, if_neg (fun h => h8 (by rw [h]))]

theorem sliceReadBit_eq (bs : List Byte) (pos : Nat) :
    sliceReadBit bs pos =
      if pos < bs.length * 8 then ok (getBit bs pos, pos + 1) else err .endOfStream := by
  unfold sliceReadBit; rw [byte_len_eq]
  by_cases h : pos < bs.length * 8
  · rw [if_pos h, if_neg (Nat.not_le.2 h)]
  · rw [if_neg h, if_pos (Nat.le_of_not_lt h)]

/-- `dst'` is `dst` with the `len` bits at `dp` replaced by those of `src` at `sp`, nothing else changed -/
def CopySpec (src : List Byte) (sp : Nat) (dst : List Byte) (dp len : Nat) (dst' : List Byte) :
    Prop :=
  dst'.length = dst.length ∧
    ∀ j, getBit dst' j = if dp ≤ j ∧ j < dp + len then getBit src (sp + (j - dp)) else getBit dst j

theorem CopySpec.unique {src sp dst dp len a b} (ha : CopySpec src sp dst dp len a)
    (hb : CopySpec src sp dst dp len b) : a = b :=
  ext_getBit a b (ha.1.trans hb.1.symm) (fun j => (ha.2 j).trans (hb.2 j).symm)

theorem CopySpec.zero {src sp dst dp} : CopySpec src sp dst dp 0 dst :=
  ⟨rfl, fun j => by rw [if_neg (by omega)]⟩

theorem CopySpec.append {src sp dst dp a b len d1 d2} (h1 : CopySpec src sp dst dp a d1)
    (h2 : CopySpec src (sp + a) d1 (dp + a) b d2) (hl : len = a + b) :
    CopySpec src sp dst dp len d2 := by
  subst hl
  refine ⟨h2.1.trans h1.1, fun j => ?_⟩
  rw [h2.2, h1.2]
  by_cases c2 : dp + a ≤ j ∧ j < dp + a + b
  · rw [if_pos c2, if_pos (by omega)]; congr 1; omega
  · rw [if_neg c2]
    by_cases c1 : dp ≤ j ∧ j < dp + a
    · rw [if_pos c1, if_pos (by omega)]
    · rw [if_neg c1, if_neg (by omega)]

theorem CopySpec.of_coords {src sp dst dp len dst'} (hl : dst'.length = dst.length)
    (h : ∀ q r, r < 8 → (dst'.getD q 0#8).getMsbD r =
      if dp ≤ q * 8 + r ∧ q * 8 + r < dp + len then getBit src (sp + (q * 8 + r - dp))
      else (dst.getD q 0#8).getMsbD r) : CopySpec src sp dst dp len dst' :=
  ⟨hl, fun j => by
    have := h (j / 8) (j % 8) (Nat.mod_lt _ (by decide))
    rwa [Nat.div_add_mod'] at this⟩

theorem modify_spec {src sp dst dp k lo len} {f : Byte → Byte} (hk : k < dst.length)
    (hdp : dp = k * 8 + lo) (hlen : lo + len ≤ 8)
    (hf : ∀ r, r < 8 → (f dst[k]).getMsbD r =
      if lo ≤ r ∧ r < lo + len then getBit src (sp + (r - lo)) else dst[k].getMsbD r) :
    CopySpec src sp dst dp len (dst.modify k f) := by
  subst hdp
  refine .of_coords (List.length_modify ..) fun q r hr => ?_
  rw [List.getD_eq_getElem?_getD, List.getElem?_modify]
  by_cases hq : k = q
  · subst hq
    rw [List.getD_eq_getElem?_getD, List.getElem?_eq_getElem hk]
    simp only [Nat.add_assoc, Nat.add_le_add_iff_left, Nat.add_lt_add_iff_left,
      Nat.add_sub_add_left, if_true, Option.map_eq_map, Option.map_some, Option.getD_some]
    exact hf r hr
  · rw [if_neg (by omega)]
    simp [hq]

@[simp] theorem length_copyLoop (src : List Byte) (sp : Nat) (dst : List Byte) (dp n : Nat) :
    (copyLoop src sp dst dp n).length = dst.length := by
  induction n generalizing sp dst dp with
  | zero => rfl
  | succ n ih => simp [copyLoop, ih]

theorem setBit_spec {src sp dst dp} (h : dp < dst.length * 8) :
    CopySpec src sp dst dp 1 (setBit dst dp (getBit src sp)) := by
  refine ⟨length_setBit .., fun j => ?_⟩
  rw [getBit_setBit _ _ _ _ h]
  by_cases c : j = dp
  · subst c; rw [if_pos rfl, if_pos (by omega), Nat.sub_self, Nat.add_zero]
  · rw [if_neg c, if_neg (by omega)]

theorem copyLoop_spec {src sp dst dp n} (h : dp + n ≤ dst.length * 8) :
    CopySpec src sp dst dp n (copyLoop src sp dst dp n) := by
  induction n generalizing sp dst dp with
  | zero => exact .zero
  | succ n ih =>
    exact (setBit_spec (by omega)).append (ih (by rw [length_setBit]; omega)) (Nat.add_comm n 1)

theorem ff_getMsbD (j : Nat) : (0xFF#8).getMsbD j = decide (j < 8) :=
  BitVec.getMsbD_allOnes (v := 8)

theorem byte_left (d b : Byte) (off r : Nat) (hr : r < 8) :
    ((d &&& (0xFF#8 <<< (8 - off))) ||| (b >>> off)).getMsbD r =
      if off ≤ r then b.getMsbD (r - off) else d.getMsbD r := by
  simp only [BitVec.getMsbD_or, BitVec.getMsbD_and, BitVec.getMsbD_shiftLeft,
    BitVec.getMsbD_ushiftRight, ff_getMsbD]
  by_cases h : r < off
  · have : r + (8 - off) < 8 := by omega
    simp [h, this, Nat.not_le.2 h]
  · have : ¬ (r + (8 - off) < 8) := by omega
    simp [h, this, hr, Nat.le_of_not_lt h]

theorem byte_right (d b : Byte) (off r : Nat) (hr : r < 8) :
    ((d &&& (0xFF#8 >>> off)) ||| (b <<< (8 - off))).getMsbD r =
      if r < off then b.getMsbD (8 - off + r) else d.getMsbD r := by
  simp only [BitVec.getMsbD_or, BitVec.getMsbD_and, BitVec.getMsbD_shiftLeft,
    BitVec.getMsbD_ushiftRight, ff_getMsbD]
  by_cases h : r < off
  · simp [h, hr, Nat.add_comm]
  · have : r - off < 8 := by omega
    have h2 : b.getMsbD (r + (8 - off)) = false := BitVec.getMsbD_of_ge _ _ (by omega)
    simp [h, hr, this, h2]

@[simp] theorem length_bulkLoop (src : List Byte) (si : Nat) (dst : List Byte) (di off n : Nat) :
    (bulkLoop src si dst di off n).length = dst.length := by
  induction n generalizing si dst di with
  | zero => rfl
  | succ n ih => simp [bulkLoop, ih]

/-- first store of an iteration of the unaligned byte loop: the leading `8 - off` source bits -/
theorem bulkLeft_spec {src si dst di off} (ho8 : off ≤ 8) (hd : di < dst.length) :
    CopySpec src (si * 8) dst (di * 8 + off) (8 - off) (dst.modify di (fun d =>
      (d &&& (0xFF#8 <<< (8 - off))) ||| (src.getD si 0#8 >>> off))) :=
  modify_spec hd rfl (by omega) fun r hr => by
    rw [byte_left _ _ _ _ hr, getBit_add_mul _ _ _ (Nat.lt_of_le_of_lt (Nat.sub_le ..) hr)]
    simp only [show r < off + (8 - off) by omega, and_true]

/-- second store: the remaining `off` bits, into the next destination byte -/
theorem bulkRight_spec {src si dst di off} (ho8 : off ≤ 8) (hd : di + 1 < dst.length) :
    CopySpec src (si * 8 + (8 - off)) dst (di * 8 + off + (8 - off)) off
      (dst.modify (di + 1) (fun d =>
        (d &&& (0xFF#8 >>> off)) ||| (src.getD si 0#8 <<< (8 - off)))) :=
  modify_spec (lo := 0) hd (by omega) (by omega) fun r hr => by
    simp only [Nat.zero_le, true_and, Nat.zero_add, Nat.sub_zero]
    rw [byte_right _ _ _ _ hr]
    by_cases h : r < off
    · rw [if_pos h, if_pos h, Nat.add_assoc, getBit_add_mul _ _ _ (by omega)]
    · rw [if_neg h, if_neg h]

theorem bulkLoop_spec {src si dst di off n} (ho : 0 < off) (ho8 : off < 8)
    (hd : di * 8 + off + n * 8 ≤ dst.length * 8) :
    CopySpec src (si * 8) dst (di * 8 + off) (n * 8) (bulkLoop src si dst di off n) := by
  induction n generalizing si dst di with
  | zero => exact .zero
  | succ n ih =>
    have hl := bulkLeft_spec (src := src) (si := si) (dst := dst) (di := di) (Nat.le_of_lt ho8)
      (by omega)
    have hr := bulkRight_spec (src := src) (si := si) (di := di) (Nat.le_of_lt ho8)
      (Nat.lt_of_lt_of_eq (by omega) hl.1.symm)
    have hstep := hl.append hr (Nat.sub_add_cancel (Nat.le_of_lt ho8)).symm
    have hrest := ih (si := si + 1) (di := di + 1) (by rw [hstep.1]; omega)
    rw [Nat.succ_mul, Nat.succ_mul, Nat.add_right_comm] at hrest
    exact hstep.append hrest (Nat.succ_mul ..|>.trans (Nat.add_comm ..))

theorem copyFromSlice_spec {src si dst di n} (hd : di + n ≤ dst.length) (hs : si + n ≤ src.length) :
    CopySpec src (si * 8) dst (di * 8) (n * 8) (copyFromSlice src si dst di n) := by
  refine .of_coords (by simp [copyFromSlice]; omega) fun q r hr => ?_
  unfold copyFromSlice
  simp only [List.getD_eq_getElem?_getD, List.getElem?_append, List.getElem?_take,
    List.getElem?_drop, List.length_append, List.length_take, List.length_drop]
  rw [Nat.min_eq_left (by omega), Nat.min_eq_left (by omega)]
  by_cases h1 : q < di
  · rw [if_pos (by omega), if_pos h1, if_pos h1, if_neg (by omega)]
  · by_cases h2 : q < di + n
    · obtain ⟨t, rfl⟩ := Nat.exists_eq_add_of_le (Nat.le_of_not_lt h1)
      rw [if_pos h2, if_neg h1, if_pos (by omega), if_pos (by omega), Nat.add_sub_cancel_left,
        Nat.add_mul, Nat.add_assoc, Nat.add_sub_cancel_left, ← Nat.add_assoc, ← Nat.add_mul,
        getBit_add_mul _ _ _ hr, List.getD_eq_getElem?_getD]
    · rw [if_neg h2, if_neg (by omega), Nat.add_sub_cancel' (Nat.le_of_not_lt h2)]

theorem bitStringCopy_ok {src sp dst dp len} (hd : dp + len ≤ dst.length * 8)
    (hs : sp + len ≤ src.length * 8) :
    bitStringCopy src sp dst dp len = ok (copyLoop src sp dst dp len) := by
  unfold bitStringCopy
  rw [byte_len_eq, if_neg (Nat.not_lt.2 hd), if_neg (Nat.not_lt.2 hs)]

theorem bitStringCopy_err_space {src sp dst dp len} (hd : dst.length * 8 < dp + len) :
    bitStringCopy src sp dst dp len = err .insufficientSpace := by
  unfold bitStringCopy; rw [byte_len_eq, if_pos hd]

theorem bitStringCopy_err_data {src sp dst dp len} (hd : dp + len ≤ dst.length * 8)
    (hs : src.length * 8 < sp + len) : bitStringCopy src sp dst dp len = err .endOfStream := by
  unfold bitStringCopy; rw [byte_len_eq, if_neg (Nat.not_lt.2 hd), if_pos hs]

theorem bulkBytes_spec {src sp dst dp n} (hsp : sp % 8 = 0) (hd : dp + n * 8 ≤ dst.length * 8)
    (hs : sp + n * 8 ≤ src.length * 8) :
    CopySpec src sp dst dp (n * 8)
      (if dp % 8 = 0 then copyFromSlice src (sp / 8) dst (dp / 8) n
       else bulkLoop src (sp / 8) dst (dp / 8) (dp % 8) n) := by
  have es : sp / 8 * 8 = sp := Nat.div_mul_cancel (Nat.dvd_of_mod_eq_zero hsp)
  have ed := Nat.div_add_mod' dp 8
  split
  next h =>
    have := copyFromSlice_spec (src := src) (si := sp / 8) (dst := dst) (di := dp / 8) (n := n)
      (by omega) (by omega)
    rw [h, Nat.add_zero] at ed
    rwa [es, ed] at this
  next h =>
    have := bulkLoop_spec (src := src) (si := sp / 8) (dst := dst) (n := n)
      (Nat.pos_of_ne_zero h) (Nat.mod_lt _ (by decide)) (by rw [ed]; exact hd)
    rwa [es, ed] at this

/-- head up to a source byte boundary, `n` whole bytes, tail of `r` bits: three adjacent copies, so by
    `CopySpec.unique` the result is that of the bit-by-bit copy -/
theorem bulkPhases_eq {src sp dst dp head n r} (hal : (sp + head) % 8 = 0)
    (hd : dp + (head + n * 8 + r) ≤ dst.length * 8)
    (hs : sp + (head + n * 8 + r) ≤ src.length * 8) :
    let dst0 := if head ≠ 0 then copyLoop src sp dst dp head else dst
    let dst1 :=
      if (dp + head) % 8 = 0 then copyFromSlice src ((sp + head) / 8) dst0 ((dp + head) / 8) n
      else bulkLoop src ((sp + head) / 8) dst0 ((dp + head) / 8) ((dp + head) % 8) n
    (if r = 0 then ok dst1
      else bitStringCopy src (sp + head + n * 8) dst1 (dp + head + n * 8) r) =
      ok (copyLoop src sp dst dp (head + n * 8 + r)) := by
  intro dst0 dst1
  have h0 : CopySpec src sp dst dp head dst0 := by
    unfold dst0
    split
    · exact copyLoop_spec (by omega)
    next h => rw [Classical.not_not.1 h]; exact .zero
  have h1 : CopySpec src (sp + head) dst0 (dp + head) (n * 8) dst1 :=
    bulkBytes_spec hal (by rw [h0.1]; omega) (by omega)
  have key : ∀ {d}, CopySpec src (sp + (head + n * 8)) dst1 (dp + (head + n * 8)) r d →
      ok d = ok (copyLoop src sp dst dp (head + n * 8 + r)) := fun h2 =>
    congrArg ok (((h0.append h1 rfl).append h2 rfl).unique (copyLoop_spec hd))
  rw [Nat.add_assoc sp, Nat.add_assoc dp]
  split
  next h => exact key (h ▸ .zero)
  next h =>
    have hd2 : dp + (head + n * 8) + r ≤ dst1.length * 8 := by
      rw [h1.1, h0.1, Nat.add_assoc]; exact hd
    rw [bitStringCopy_ok hd2 (by rw [Nat.add_assoc]; exact hs)]
    exact key (copyLoop_spec hd2)

/-- the bulk copy computes what the bit-by-bit copy computes, on every input -/
theorem bitStringCopyBulked_eq (src : List Byte) (sp : Nat) (dst : List Byte) (dp len : Nat) :
    bitStringCopyBulked src sp dst dp len = bitStringCopy src sp dst dp len := by
  have hal : (sp + (8 - sp % 8) % 8) % 8 = 0 := by omega
  by_cases hlen : len ≤ Consts.BULK_THRESHOLD
  · exact if_pos hlen
  refine (if_neg hlen).trans (ite_congr rfl (fun _ => rfl) fun hd =>
    ite_congr rfl (fun _ => rfl) fun hs => ?_)
  have h7 : (8 - sp % 8) % 8 ≤ len :=
    Nat.le_trans (Nat.le_of_lt (Nat.mod_lt _ (by decide)))
      (Nat.le_trans (by decide : 8 ≤ Consts.BULK_THRESHOLD) (Nat.le_of_not_le hlen))
  -- name the head length, so that `rw [hl]` below does not rewrite inside it
  generalize hh : (8 - sp % 8) % 8 = head at hal h7
  have hl : head + (len - head) / 8 * 8 + (len - head) % 8 = len := by
    rw [Nat.add_assoc, Nat.div_add_mod', Nat.add_sub_cancel' h7]
  have := bulkPhases_eq (src := src) (dst := dst) (dp := dp) hal
    (by rw [hl]; exact Nat.le_of_not_lt hd) (by rw [hl]; exact Nat.le_of_not_lt hs)
  rw [hl] at this
  subst hh
  exact this

theorem bitStringCopyBulked_ok {src sp dst dp len} (hd : dp + len ≤ dst.length * 8)
    (hs : sp + len ≤ src.length * 8) :
    bitStringCopyBulked src sp dst dp len = ok (copyLoop src sp dst dp len) :=
  (bitStringCopyBulked_eq ..).trans (bitStringCopy_ok hd hs)

end Asn1Verif.Bits
