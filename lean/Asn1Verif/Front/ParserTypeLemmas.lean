import Asn1Verif.Front.ParserLeafLemmas
import Asn1Verif.Front.ParserEnumLemmas
import Asn1Verif.Front.ParserLitLemmas
/-
  parse ∘ print for types, the parts below the induction: lengths (the recursion budget), the OPTIONAL /
  DEFAULT part of a component, one iteration of the component and alternative loops.
-/
namespace Asn1Verif.Front.Syn
open Except

theorem kwClass_heads :
    kwClass "BOOLEAN" = .boolean ∧ kwClass "INTEGER" = .integer ∧ kwClass "NULL" = .null ∧
    kwClass "OCTET" = .octet ∧ kwClass "BIT" = .bit ∧ kwClass "ENUMERATED" = .enumerated ∧
    kwClass "CHOICE" = .choice ∧ kwClass "SEQUENCE" = .sequence ∧ kwClass "SET" = .set ∧
    kwClass "UTF8String" = .utf8string ∧ kwClass "IA5String" = .ia5string ∧
    kwClass "NumericString" = .numericstring ∧ kwClass "PrintableString" = .printablestring ∧
    kwClass "VisibleString" = .visiblestring := by decide +kernel

/-- the keywords that may follow a type are not `SIZE` -/
theorem eqIC_SIZE :
    eqIC "OPTIONAL" "SIZE" = false ∧ eqIC "DEFAULT" "SIZE" = false ∧ eqIC "OF" "SIZE" = false ∧
    eqIC "END" "SIZE" = false := by decide +kernel

theorem length_printConstants {α : Type} (f : α → Token) (cs : List (String × α)) :
    cs.length ≤ (printConstants f cs).length := by
  cases cs with
  | nil => simp [printConstants]
  | cons c tl =>
    simp only [printConstants, List.length_cons]
    suffices h : ∀ l : List (String × α), l.length ≤ (printConstantsLoop f l).length by
      have := h (c :: tl); simp only [List.length_cons] at this; omega
    intro l
    induction l with
    | nil => simp
    | cons x xs ih =>
      obtain ⟨n, v⟩ := x
      cases xs with
      | nil => simp [printConstantsLoop]
      | cons y ys =>
        simp only [printConstantsLoop, List.length_append, List.length_cons, List.length_nil] at ih ⊢
        omega

theorem length_printEnumLoop (vs : List EnumVariant) (ext : Option Nat) (i : Nat) :
    2 * vs.length ≤ (printEnumLoop vs ext i).length + 1 := by
  induction vs generalizing i with
  | nil => simp
  | cons v tl ih =>
    have hitem : 1 ≤ (printEnumItem v).length := by
      unfold printEnumItem; cases v.number <;> simp
    cases tl with
    | nil =>
      simp only [printEnumLoop, List.length_append, List.length_cons, List.length_nil]
      split <;> simp <;> omega
    | cons v2 tl2 =>
      have := ih (i + 1)
      simp only [printEnumLoop, List.length_append, List.length_cons] at this ⊢
      split <;> simp at this ⊢ <;> omega

/-- the tokens between the type of a component and the `,`/`}` that ends it -/
def presenceToks (opt : Bool) (d : Option UConst) : List Token :=
  (if opt then [.text "OPTIONAL"] else []) ++
    (match d with
     | none => []
     | some d => .text "DEFAULT" :: printDefault d)

theorem presenceToks_restOk (opt : Bool) (d : Option UConst) (c : Char) (more : List Token)
    (hc : c = ',' ∨ c = '}') : RestOk (presenceToks opt d ++ .sep c :: more) := by
  cases opt with
  | true => exact RestOk.text _ _ eqIC_SIZE.1
  | false =>
    cases d with
    | none =>
      cases hc with
      | inl h => subst h; exact RestOk.sep _ _ (by decide) (by decide)
      | inr h => subst h; exact RestOk.sep _ _ (by decide) (by decide)
    | some d => exact RestOk.text _ _ eqIC_SIZE.2.1

theorem readLiteral_ref (s : String) (h : defaultWf (.ref s) = true) (rest : List Token) :
    readLiteral (.text s :: rest) = .ok (.unsupportedText, .text s :: rest) := by
  simp only [defaultWf, Bool.and_eq_true, Bool.not_eq_true'] at h
  simp only [tok, readLiteral, h.1.1, h.1.2, h.2, Bool.or_self]

theorem fieldTail_print (opt : Bool) (d : Option UConst) (hod : opt = true → d = none)
    (hd : ∀ x, d = some x → defaultWf x = true) (c : Char) (hc : c = ',' ∨ c = '}')
    (more : List Token) :
    fieldTail (presenceToks opt d ++ .sep c :: more) = .ok ((opt, d, c == ','), more) := by
  cases opt with
  | true =>
    cases hod rfl
    simp only [tok, presenceToks, List.append_nil, fieldTail]
    rcases hc with rfl | rfl <;> rfl
  | false =>
    cases d with
    | none => rcases hc with rfl | rfl <;> rfl
    | some x =>
      have hx := hd x rfl
      cases x with
      | lit v =>
        simp only [tok, presenceToks, fieldTail, eqIC_keywords, printDefault,
          readLiteral_print v hx (.sep c :: more)]
        rcases hc with rfl | rfl <;> rfl
      | ref s =>
        simp only [tok, presenceToks, fieldTail, eqIC_keywords, printDefault,
          readLiteral_ref s hx (.sep c :: more)]
        rcases hc with rfl | rfl <;> rfl

theorem componentLoop_brace (f n : Nat) (ts : List Token) :
    componentLoop (f + 1) n (.sep '}' :: ts) = .ok ((.nil, none), ts) := rfl

theorem componentLoop_marker (f n : Nat) (last : Bool) (ts : List Token) :
    componentLoop (f + 1) n (.sep '.' :: .sep '.' :: .sep '.' :: .sep (closing last) :: ts) =
      (afterItem (componentLoop f n) .nil last ts >>= fun r =>
        .ok ((r.1.1, match r.1.2 with | some k => some k | none => some (n - 1)), r.2)) := by
  cases last <;> rfl

theorem componentLoop_field (f n : Nat) (name : String) (tag : Option Tag) (htag : tagWf tag = true)
    (head : String) (tailToks : List Token) (ty' : UTy) (opt : Bool) (d : Option UConst)
    (hod : opt = true → d = none) (hd : ∀ x, d = some x → defaultWf x = true)
    (last : Bool) (more : List Token)
    (hty : parseRoleGiven f head (tailToks ++ (presenceToks opt d ++ .sep (closing last) :: more)) =
      .ok (ty', presenceToks opt d ++ .sep (closing last) :: more)) :
    componentLoop (f + 1) n
        (.text name :: (printTag tag ++ .text head ::
          (tailToks ++ (presenceToks opt d ++ .sep (closing last) :: more)))) =
      (afterItem (componentLoop f (n + 1)) .nil last more >>= fun r =>
        .ok ((.cons name tag (if opt then .optional ty' else ty') d r.1.1, r.1.2), r.2)) := by
  -- by evaluation the loop arrives at each call in turn
  show (nextWithOptTag _ >>= _) = _
  rw [nextWithOptTag_print tag htag head]
  show (parseRoleGiven f head _ >>= _) = _
  rw [hty]
  show (fieldTail _ >>= _) = _
  rw [fieldTail_print opt d hod hd _ (closing_cases last) more]
  cases last <;> rfl

theorem choiceLoop_marker (f n : Nat) (last : Bool) (ts : List Token) :
    choiceLoop (f + 1) (n + 1) false
        (.sep '.' :: .sep '.' :: .sep '.' :: .sep (closing last) :: ts) =
      (afterItem (choiceLoop f (n + 1) true) .nil last ts >>= fun r =>
        .ok ((r.1.1, some n), r.2)) := by
  cases last <;> rfl

theorem choiceLoop_alt (f n : Nat) (seen : Bool) (name : String) (tag : Option Tag)
    (htag : tagWf tag = true) (head : String) (tailToks : List Token) (ty' : UTy)
    (last : Bool) (more : List Token)
    (hty : parseRoleGiven f head (tailToks ++ .sep (closing last) :: more) =
      .ok (ty', .sep (closing last) :: more)) :
    choiceLoop (f + 1) n seen
        (.text name :: (printTag tag ++ .text head :: (tailToks ++ .sep (closing last) :: more))) =
      (afterItem (choiceLoop f (n + 1) seen) .nil last more >>= fun r =>
        .ok ((.cons name tag ty' r.1.1, r.1.2), r.2)) := by
  show (nextWithOptTag _ >>= _) = _
  rw [nextWithOptTag_print tag htag head]
  show (parseRoleGiven f head _ >>= _) = _
  rw [hty]
  cases last <;> rfl

end Asn1Verif.Front.Syn
