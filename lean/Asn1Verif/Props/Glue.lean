import Asn1Verif.Per.GlueOct
import Asn1Verif.Props.C10
import Asn1Verif.Props.C11
/-
  Glue — the abstraction step between C11 (L0, bytes) and C10 (L1, bit lists), by theorems.
  (Not a numbered property: it strengthens the tie between C11 and C10.)

  `Per/Prim.lean` (L1) mirrors `src/protocol/per/unaligned/mod.rs` on the abstraction
      writers return the bits they append / readers consume from the front of the remaining input,
  with `natBits w v` standing for `write_bits_with_offset(&v.to_be_bytes(), 64 - w)`, `bytesBits`
  for `write_bits`, `rdNat w` for `read_bits_with_offset(&mut [0u8; 8], 64 - w)` + `from_be_bytes`.
  `Per/Concrete.lean` mirrors the *same* Rust functions directly on the L0 operations of
  `Bits/Buffer.lean` (`BitBuffer` for writing, `BitsView` = `Bits<'a>` for reading), with the same
  calls and arguments.  This file proves that the two mirrors agree:

    WRITE  `WriteRefines (Per.wF args) (Concrete.wF args)`: on every `BitBuffer` satisfying the
           C11 invariant the concrete writer succeeds iff the L1 writer does, appends exactly the
           L1 bits to `abs`, keeps the invariant and the read cursor; same error class otherwise;
           a panic iff the L1 model panics.
    READ   `ReadRefines (Per.rF args) (Concrete.rF args)`: on every `BitsView` satisfying its
           invariant the concrete reader returns the L1 value on `remaining v`, with the cursor at
           `len - rest.length` and `remaining` of the new view equal to the L1 rest; same error
           class otherwise; a panic iff the L1 model panics.

  Hypotheses: only the ranges of the Rust argument types (`Option<u64>` upper bound `≤ u64::MAX`,
  `i64` bounds inside `i64`, `std_variants ≤ u64::MAX`).  No bound on lengths: the OCTET STRING
  statements include the 16K fragment loops and `read_bytes_chunked` (strong induction).

  Lemmas: `Per/GlueBits.lean` (numbers ↔ bytes ↔ bits), `Per/GlueSign.lean` (sign extension by
  masks), `Per/GlueWrite.lean`, `Per/GlueRead.lean`, `Per/GlueOct.lean`.
-/
namespace Asn1Verif.Props.Glue
open Asn1Verif Asn1Verif.Bits Asn1Verif.Per Asn1Verif.Per.Glue Outcome

/-! ## 1. numbers ↔ bytes ↔ bits -/

/-- **key lemma, writing.** What `write_bits_with_offset(&v.to_be_bytes(), 64 - w)` appends, the
    low `w` bits of the 8 big-endian bytes, is `natBits w v` (most significant bit first).
    No range hypothesis on `v`: both sides only see the low 64 bits. -/
theorem to_be_bytes_low_bits (w v : Nat) (hw : w ≤ 64) :
    bitsOf (Concrete.toBeBytes v) (64 - w) w = natBits w v := bitsOf_toBeBytes w v hw

/-- `write_bits(&v.to_be_bytes()[8 - k ..])` appends the low `8k` bits -/
theorem to_be_bytes_tail (k v : Nat) (hk : k ≤ 8) :
    bytesBits ((Concrete.toBeBytes v).drop (8 - k)) = natBits (8 * k) v := by
  have := bytesBits_toBeBytes_drop (8 - k) v (Nat.sub_le _ _)
  rwa [Nat.sub_sub_self hk] at this

/-- a one-byte source, `write_bits_with_offset(&[m], 8 - w)` -/
theorem byte_low_bits (w m : Nat) (hw : w ≤ 8) :
    bitsOf [BitVec.ofNat 8 m] (8 - w) w = natBits w m := bitsOf_beBytes 1 w m hw

/-- the L1 notation for the bits of a byte slice is the L0 notation -/
theorem bytesBits_is_bitsOf (bytes : List Byte) :
    bytesBits bytes = bitsOf bytes 0 (8 * bytes.length) := bytesBits_eq_bitsOf bytes

/-- `from_be_bytes` is the big-endian value of the bits -/
theorem from_be_bytes_value (bytes : List Byte) :
    Concrete.fromBeBytes bytes = bitsToNat (bytesBits bytes) := (bitsToNat_bytesBits bytes).symm

theorem from_be_to_be (v : Nat) (h : v ≤ U64_MAX) :
    Concrete.fromBeBytes (Concrete.toBeBytes v) = v :=
  (fromBeBytes_toBeBytes v).trans (Nat.mod_eq_of_lt (by rw [U64_MAX_eq] at h; omega))

/-- **key lemma, reading.** Copying `w` bits into a zeroed `n`-byte array at bit offset `8n - w`
    (what `read_bits_with_offset(&mut [0u8; n], 8n - w)` does, C11 `CopySpec`) and `from_be_bytes`
    give the value of the bits read. -/
theorem read_into_zeroed (src : List Byte) (sp n w : Nat) (dst' : List Byte) (hw : w ≤ 8 * n)
    (h : CopySpec src sp (Concrete.zeroBytes n) (8 * n - w) w dst') :
    Concrete.fromBeBytes dst' = bitsToNat (bitsOf src sp w) := fromBeBytes_of_copy hw h

/-- `i64::to_be_bytes` (bytes of the 64-bit two's complement pattern `BitVec.ofInt 64`) is
    `to_be_bytes` of `value as u64` -/
theorem i64_to_be_bytes (v : Int) :
    Concrete.toBeBytesI64 v = Concrete.toBeBytes (i64AsU64 v) := toBeBytesI64_eq v

/-- `i64::from_be_bytes` (`BitVec.toInt` of the pattern) is `u64::from_be_bytes(..) as i64` -/
theorem i64_from_be_bytes (bytes : List Byte) (h : bytes.length = 8) :
    Concrete.fromBeBytesI64 bytes = u64AsI64 (Concrete.fromBeBytes bytes) :=
  fromBeBytesI64_eq bytes (by have := fromBeBytes_lt bytes; rw [h] at this; exact this)

theorem i64_bytes_roundtrip (v : Int) (h1 : I64_MIN ≤ v) (h2 : v ≤ I64_MAX) :
    Concrete.fromBeBytesI64 (Concrete.toBeBytesI64 v) = v := fromBeBytesI64_toBeBytesI64 v h1 h2

/-- the sign extension of `read_2s_compliment_binary_integer` as coded (whole bytes `= 0xFF`, then
    `bytes[k] |= 0x80 >> i`): every bit in front of bit `off` is set, nothing else changes -/
theorem sign_extension_bits (dst : List Byte) (hlen : dst.length = 8) (off : Nat) (hoff : off < 64)
    (j : Nat) :
    getBit (Concrete.orLoop (Concrete.fillFF dst (off / 8)) (off / 8) (off % 8)) j =
      if j < off then true else getBit dst j := getBit_signExtend dst hlen off hoff j

/-- the probe `bytes[k] & (0x80 >> i) != 0` tests bit `i` of the byte -/
theorem sign_probe (x : Byte) (i : Nat) (hi : i < 8) :
    (x &&& (0x80#8 >>> i) ≠ 0#8) ↔ x.getMsbD i = true := byte_probe x i hi

example : (3 : Nat) ≤ 64 ∧ bitsOf (Concrete.toBeBytes 5) (64 - 3) 3 = [true, false, true] := by
  decide +kernel
example : Concrete.toBeBytesI64 (-2) =
    [0xff#8, 0xff#8, 0xff#8, 0xff#8, 0xff#8, 0xff#8, 0xff#8, 0xfe#8] := by decide +kernel
example : Concrete.fromBeBytesI64 [0xff#8, 0xff#8, 0xff#8, 0xff#8, 0xff#8, 0xff#8, 0xff#8, 0xfe#8]
    = -2 := by decide +kernel

/-! ## 2. the refinement statements -/

/-- WRITE: the concrete writer `c` (on a `BitBuffer`) refines the L1 writer result `m` -/
def WriteRefines (m : Outcome Bits) (c : BitBuffer → Outcome BitBuffer) : Prop :=
  ∀ b : BitBuffer, b.Inv →
    match m with
    | .ok bits => ∃ b', c b = ok b' ∧ b'.Inv ∧ b'.abs = b.abs ++ bits ∧ b'.rp = b.rp
    | .err k => c b = err k
    | .panic => c b = panic

/-- WRITE, for a writer that also returns a value (`write_length_determinant`) -/
def WriteRefinesV {α : Type} (m : Outcome (Bits × α)) (c : BitBuffer → Outcome (α × BitBuffer)) :
    Prop :=
  ∀ b : BitBuffer, b.Inv →
    match m with
    | .ok (bits, a) => ∃ b', c b = ok (a, b') ∧ b'.Inv ∧ b'.abs = b.abs ++ bits ∧ b'.rp = b.rp
    | .err k => c b = err k
    | .panic => c b = panic

/-- READ: the concrete reader `c` (on a `BitsView`) refines the L1 reader `m`.
    `remaining v` = bits `pos … len-1` of the slice. -/
def ReadRefines {α : Type} (m : Rd α) (c : BitsView → Outcome (α × BitsView)) : Prop :=
  ∀ v : BitsView, v.Inv →
    match m (remaining v) with
    | .ok (a, rest) =>
        c v = ok (a, { v with pos := v.len - rest.length }) ∧
        BitsView.Inv { v with pos := v.len - rest.length } ∧
        remaining { v with pos := v.len - rest.length } = rest
    | .err k => c v = err k
    | .panic => c v = panic

theorem remaining_def (v : BitsView) : remaining v = (bitsOf v.slice 0 v.len).drop v.pos := rfl

/-- `remaining` is the window `pos … len` of the slice -/
theorem remaining_window (v : BitsView) (h : v.Inv) :
    remaining v = bitsOf v.slice v.pos (v.len - v.pos) := by
  rw [remaining, bitsOf_drop _ _ h.2, Nat.zero_add]

/-! ### consequences in the usual form -/

theorem WriteRefines.ok {m : Outcome Bits} {c : BitBuffer → Outcome BitBuffer} {bits : Bits}
    (h : WriteRefines m c) (hm : m = .ok bits) (b : BitBuffer) (hb : b.Inv) :
    ∃ b', c b = .ok b' ∧ b'.Inv ∧ b'.abs = b.abs ++ bits ∧ b'.rp = b.rp := by
  have := h b hb; rw [hm] at this; exact this

theorem WriteRefines.err {m : Outcome Bits} {c : BitBuffer → Outcome BitBuffer} {k : ErrKind}
    (h : WriteRefines m c) (hm : m = .err k) (b : BitBuffer) (hb : b.Inv) : c b = .err k := by
  have := h b hb; rw [hm] at this; exact this

theorem ReadRefines.ok {α : Type} {m : Rd α} {c : BitsView → Outcome (α × BitsView)}
    (h : ReadRefines m c) (v : BitsView) (hv : v.Inv) {a : α} {rest : Bits}
    (hm : m (remaining v) = .ok (a, rest)) :
    c v = .ok (a, { v with pos := v.len - rest.length }) ∧
      remaining { v with pos := v.len - rest.length } = rest := by
  have := h v hv; rw [hm] at this; exact ⟨this.1, this.2.2⟩

theorem ReadRefines.err {α : Type} {m : Rd α} {c : BitsView → Outcome (α × BitsView)}
    (h : ReadRefines m c) (v : BitsView) (hv : v.Inv) {k : ErrKind}
    (hm : m (remaining v) = .err k) : c v = .err k := by
  have := h v hv; rw [hm] at this; exact this

/-- a byte-level reader that refines a total L1 reader (C10 `…_read_total`) never panics on any
    view, and on success its cursor has moved forward and not beyond the declared length -/
theorem ReadRefines.total {α : Type} {m : Rd α} {c : BitsView → Outcome (α × BitsView)}
    (h : ReadRefines m c) (ht : C10.ReadTotal m) (v : BitsView) (hv : v.Inv) :
    c v ≠ .panic ∧ ∀ a v', c v = .ok (a, v') →
      v'.slice = v.slice ∧ v'.len = v.len ∧ v.pos ≤ v'.pos ∧ v'.pos ≤ v.len := by
  have hr := h v hv
  obtain ⟨hnp, hsuf⟩ := ht (remaining v)
  cases hm : m (remaining v) with
  | ok p =>
    obtain ⟨a, rest⟩ := p
    rw [hm] at hr
    obtain ⟨pre, hpre⟩ := hsuf a rest hm
    have hl : (remaining v).length = pre.length + rest.length := by rw [hpre]; simp
    rw [length_remaining] at hl
    refine ⟨by rw [hr.1]; simp, fun a' v' e => ?_⟩
    rw [hr.1] at e
    injection e with e; injection e with _ e
    subst e
    have := hv.2
    exact ⟨rfl, rfl, by simp only; omega, by simp only; omega⟩
  | err k => rw [hm] at hr; rw [hr]; exact ⟨by simp, fun _ _ e => by cases e⟩
  | panic => exact absurd hm hnp

/-! ## 3. the functions, one by one -/

theorem optU64_getD {ub : Option Nat} (h : C10.OptU64 ub) : ub.getD I64MAXu ≤ U64_MAX :=
  optGetD_le h

/-! ### 11.3 non-negative-binary-integer in a field (`Some((lower, upper))` branch) -/

theorem nnbi_field_write (lb ub : Option Nat) (value : Nat) (hub : C10.OptU64 ub) :
    WriteRefines (Per.wNNBIc lb ub value) (Concrete.wNNBIc lb ub value) :=
  fun b hb => wNNBIc_refines lb ub value b hb (optU64_getD hub)

theorem nnbi_field_read (lb ub : Option Nat) (hub : C10.OptU64 ub) :
    ReadRefines (Per.rNNBIc lb ub) (Concrete.rNNBIc lb ub) :=
  fun v hv => (rNNBIc_refines lb ub v hv (optU64_getD hub)).spelled

/-! ### 11.9 length determinant -/

theorem len_write (lb ub : Option Nat) (value : Nat) (hub : C10.OptU64 ub) :
    WriteRefinesV (Per.wLen lb ub value) (Concrete.wLen lb ub value) :=
  fun b hb => wLen_refines lb ub value b hb (optU64_getD hub)

theorem len_read (lb ub : Option Nat) (hub : C10.OptU64 ub) :
    ReadRefines (Per.rLen lb ub) (Concrete.rLen lb ub) :=
  fun v hv => (rLen_refines lb ub v hv (optU64_getD hub)).spelled

/-! ### 11.5 constrained whole number -/

theorem constrained_write (lb ub value : Int) (hl : I64_MIN ≤ lb) (hu : ub ≤ I64_MAX) :
    WriteRefines (Per.wConstrained lb ub value) (Concrete.wConstrained lb ub value) :=
  fun b hb => wConstrained_refines lb ub value b hb hl hu

theorem constrained_read (lb ub : Int) (hl : I64_MIN ≤ lb) (hu : ub ≤ I64_MAX) :
    ReadRefines (Per.rConstrained lb ub) (Concrete.rConstrained lb ub) :=
  fun v hv => (rConstrained_refines lb ub v hv hl hu).spelled

/-! ### 11.6 normally small non-negative whole number (= normally small length) -/

theorem small_write (value : Nat) : WriteRefines (Per.wSmall value) (Concrete.wSmall value) :=
  fun b hb => wSmall_refines value b hb

theorem small_read : ReadRefines Per.rSmall Concrete.rSmall :=
  fun v hv => (rSmall_refines v hv).spelled

/-! ### enumeration / choice index -/

theorem index_write (std : Nat) (ext : Bool) (index : Nat) (hstd : std ≤ U64_MAX) :
    WriteRefines (Per.wIndex std ext index) (Concrete.wIndex std ext index) :=
  fun b hb => wIndex_refines std ext index b hb hstd

theorem index_read (std : Nat) (ext : Bool) (hstd : std ≤ U64_MAX) :
    ReadRefines (Per.rIndex std ext) (Concrete.rIndex std ext) :=
  fun v hv => (rIndex_refines std ext v hv hstd).spelled

/-! ### 11.4 2's-complement-binary-integer -/

theorem twos_write (bitLen : Nat) (value : Int) :
    WriteRefines (Per.w2s bitLen value) (Concrete.w2s bitLen value) :=
  fun b hb => w2s_refines bitLen value b hb

/-- includes the sign extension by byte and bit masks as coded -/
theorem twos_read (bitLen : Nat) : ReadRefines (Per.r2s bitLen) (Concrete.r2s bitLen) :=
  fun v hv => (r2s_refines bitLen v hv).spelled

/-! ### 11.3 non-negative-binary-integer, general (both branches) -/

theorem nnbi_write (lb ub : Option Nat) (value : Nat) (hub : C10.OptU64 ub) :
    WriteRefines (Per.wNNBI lb ub value) (Concrete.wNNBI lb ub value) :=
  fun b hb => wNNBI_refines lb ub value b hb (optU64_getD hub)

theorem nnbi_read (lb ub : Option Nat) (hub : C10.OptU64 ub) :
    ReadRefines (Per.rNNBI lb ub) (Concrete.rNNBI lb ub) :=
  fun v hv => (rNNBI_refines lb ub v hv (optU64_getD hub)).spelled

/-! ### 11.7 semi-constrained, 11.8 unconstrained whole number -/

theorem semi_write (lb value : Int) (hl : I64_MIN ≤ lb) (hv : value ≤ I64_MAX) :
    WriteRefines (Per.wSemi lb value) (Concrete.wSemi lb value) :=
  fun b hb => wSemi_refines lb value b hb hl hv

theorem semi_read (lb : Int) : ReadRefines (Per.rSemi lb) (Concrete.rSemi lb) :=
  fun v hv => (rSemi_refines lb v hv).spelled

theorem unconstrained_write (value : Int) :
    WriteRefines (Per.wUnconstrained value) (Concrete.wUnconstrained value) :=
  fun b hb => wUnconstrained_refines value b hb

theorem unconstrained_read : ReadRefines Per.rUnconstrained Concrete.rUnconstrained :=
  fun v hv => (rUnconstrained_refines v hv).spelled

/-! ### 17 octet string, with the 16K fragment loops and `read_bytes_chunked` -/

/-- the `written_bytes` loop alone, entered after `written ≤ src.len()` bytes -/
theorem octets_write_loop (src : List Byte) (written : Nat) (hw : written ≤ src.length) :
    WriteRefines (Per.wOctFrag (src.drop written)) (Concrete.wOctLoop src written) :=
  fun b hb => wOctLoop_refines src _ written b rfl hw hb

theorem octets_write (lb ub : Option Nat) (ext : Bool) (src : List Byte) (hub : C10.OptU64 ub) :
    WriteRefines (Per.wOctets lb ub ext src) (Concrete.wOctets lb ub ext src) :=
  fun b hb => wOctets_refines lb ub ext src b hb (optU64_getD hub)

/-- `read_bytes_chunked` reads `n` whole bytes or fails with end-of-stream, for every positive
    chunk size (so the literal `64 * 1024` in the Rust function does not matter) -/
theorem read_bytes_chunked (chunk : Nat) (hc : 0 < chunk) (n : Nat) (v : BitsView)
    (buffer : List Byte) (hv : v.Inv) :
    ((remaining v).length < 8 * n ∧
      Concrete.readBytesChunked chunk v buffer n = err .endOfStream) ∨
    (8 * n ≤ (remaining v).length ∧ ∃ v',
      Concrete.readBytesChunked chunk v buffer n =
        ok (buffer ++ bitsBytes ((remaining v).take (8 * n)), v') ∧
      v'.slice = v.slice ∧ v'.len = v.len ∧ v'.Inv ∧
      remaining v' = (remaining v).drop (8 * n)) :=
  readBytesChunked_spec chunk hc n v buffer hv

theorem octets_read_loop (acc : List Byte) :
    ReadRefines (Per.rOctFrag acc) (Concrete.rOctLoop acc) :=
  fun v hv => (rOctLoop_refines _ v acc rfl hv).spelled

theorem octets_read (lb ub : Option Nat) (ext : Bool) (hub : C10.OptU64 ub) :
    ReadRefines (Per.rOctets lb ub ext) (Concrete.rOctets lb ub ext) :=
  fun v hv => (rOctets_refines lb ub ext v hv (optU64_getD hub)).spelled

/-! ## 4. corollaries: C10 at byte level -/

/-- the bytes of a buffer after a write, viewed from where the write started, hold exactly the
    appended bits -/
theorem view_of_written (b b' : BitBuffer) (bits : Bits) (hinv' : b'.Inv)
    (habs : b'.abs = b.abs ++ bits) :
    BitsView.Inv ⟨b'.buffer, b.wp, b'.wp⟩ ∧ remaining ⟨b'.buffer, b.wp, b'.wp⟩ = bits := by
  have hlen : b'.wp = b.wp + bits.length := BitBuffer.wp_of_abs habs
  refine ⟨⟨by have := hinv'.1; simp only; omega, by simp only; omega⟩, ?_⟩
  show b'.abs.drop b.wp = bits
  rw [habs, List.drop_left' b.length_abs]

/-- C10 `constrained_pattern` at byte level: on a buffer with the invariant,
    `write_constrained_whole_number(lb, ub, v)` appends exactly the X.691 bits -/
theorem concrete_constrained_pattern (lb ub v : Int) (b : BitBuffer) (hb : b.Inv)
    (hl : I64_MIN ≤ lb) (hu : ub ≤ I64_MAX) (h1 : lb ≤ v) (h2 : v ≤ ub) :
    ∃ b', Concrete.wConstrained lb ub v b = ok b' ∧ b'.Inv ∧
      b'.abs = b.abs ++ X691.constrained lb ub v ∧ b'.rp = b.rp :=
  (constrained_write lb ub v hl hu).ok (C10.constrained_pattern lb ub v h1 h2) b hb

/-- C10 `constrained_rejects` at byte level -/
theorem concrete_constrained_rejects (lb ub v : Int) (b : BitBuffer) (hb : b.Inv)
    (hl : I64_MIN ≤ lb) (hu : ub ≤ I64_MAX) (h : ¬ (lb ≤ v ∧ v ≤ ub)) :
    ∃ k, Concrete.wConstrained lb ub v b = err k := by
  obtain ⟨k, hk⟩ := C10.constrained_rejects lb ub v h
  exact ⟨k, (constrained_write lb ub v hl hu).err hk b hb⟩

/-- C10 `constrained_roundtrip` at byte level, end to end: write into a buffer, read the written
    bytes back through a `Bits` view placed where the write started — the value comes back and the
    cursor stands at the end of what was written -/
theorem concrete_constrained_roundtrip (lb ub v : Int) (b : BitBuffer) (hb : b.Inv)
    (hl : I64_MIN ≤ lb) (hu : ub ≤ I64_MAX) (h1 : lb ≤ v) (h2 : v ≤ ub) :
    ∃ b', Concrete.wConstrained lb ub v b = ok b' ∧
      Concrete.rConstrained lb ub ⟨b'.buffer, b.wp, b'.wp⟩ = ok (v, ⟨b'.buffer, b'.wp, b'.wp⟩) := by
  obtain ⟨b', e, hinv', habs, _⟩ := concrete_constrained_pattern lb ub v b hb hl hu h1 h2
  obtain ⟨hvi, hrem⟩ := view_of_written b b' _ hinv' habs
  have hrt := C10.constrained_roundtrip lb ub v [] h1 h2 hl hu
  rw [List.append_nil, ← hrem] at hrt
  have := (constrained_read lb ub hl hu).ok _ hvi hrt
  refine ⟨b', e, ?_⟩
  rw [this.1]; simp

/-- C10 `len_pattern_partial` at byte level (bits and announced fragment) -/
theorem concrete_len_pattern_partial (lb ub : Option Nat) (n : Nat) (b : BitBuffer) (hb : b.Inv)
    (hub : C10.OptU64 ub) (hd : ¬ LenDeviates lb ub) (h : C10.LenAdm lb ub n) :
    ∃ b', Concrete.wLen lb ub n b = ok ((X691.len lb ub n).2, b') ∧ b'.Inv ∧
      b'.abs = b.abs ++ (X691.len lb ub n).1 ∧ b'.rp = b.rp := by
  have := len_write lb ub n hub b hb
  rw [C10.len_pattern_partial lb ub n hd h] at this
  exact this

/-- C10 `index_pattern` at byte level -/
theorem concrete_index_pattern (std : Nat) (ext : Bool) (i : Nat) (b : BitBuffer) (hb : b.Inv)
    (hs : std ≤ U64_MAX) (h : i < std ∨ ext = true) (hi : i ≤ U64_MAX) :
    ∃ b', Concrete.wIndex std ext i b = ok b' ∧ b'.Inv ∧
      b'.abs = b.abs ++ X691.index std ext i ∧ b'.rp = b.rp :=
  (index_write std ext i hs).ok (C10.index_pattern std ext i h hi) b hb

/-- C10 `twos_pattern` at byte level -/
theorem concrete_twos_pattern (w : Nat) (v : Int) (b : BitBuffer) (hb : b.Inv) (h1 : 1 ≤ w)
    (h2 : w ≤ 64) :
    ∃ b', Concrete.w2s w v b = ok b' ∧ b'.Inv ∧ b'.abs = b.abs ++ X691.twos w v ∧ b'.rp = b.rp :=
  (twos_write w v).ok (C10.twos_pattern w v h1 h2) b hb

/-- C10 `octets_pattern_partial` at byte level: every length, every number of fragments -/
theorem concrete_octets_pattern_partial (lb ub : Option Nat) (ext : Bool) (s : List Byte)
    (b : BitBuffer) (hb : b.Inv) (hub : C10.OptU64 ub) (hd : ¬ LenDeviates lb ub)
    (hn : s.length ≤ I64MAXu) (h : C10.StrAdm lb ub ext s.length) :
    ∃ b', Concrete.wOctets lb ub ext s b = ok b' ∧ b'.Inv ∧
      b'.abs = b.abs ++ X691.octets lb ub ext s ∧ b'.rp = b.rp :=
  (octets_write lb ub ext s hub).ok (C10.octets_pattern_partial lb ub ext s hd hn h) b hb

/-- C10 `octets_selfconsistent` at byte level, end to end and in *every* region of the bounds:
    whatever `write_octetstring` accepts, `read_octetstring` reads back from the written bytes -/
theorem concrete_octets_roundtrip (lb ub : Option Nat) (ext : Bool) (s : List Byte) (b b' : BitBuffer)
    (hb : b.Inv) (hub : C10.OptU64 ub) (hw : Concrete.wOctets lb ub ext s b = ok b') :
    Concrete.rOctets lb ub ext ⟨b'.buffer, b.wp, b'.wp⟩ = ok (s, ⟨b'.buffer, b'.wp, b'.wp⟩) := by
  have href := octets_write lb ub ext s hub b hb
  cases hm : Per.wOctets lb ub ext s with
  | ok bits =>
    rw [hm] at href
    obtain ⟨b'', e, hinv', habs, _⟩ := href
    rw [hw] at e
    injection e with e; subst e
    obtain ⟨hvi, hrem⟩ := view_of_written b b' bits hinv' habs
    have hrt := C10.octets_selfconsistent lb ub ext s bits [] hub hm
    rw [List.append_nil, ← hrem] at hrt
    have := (octets_read lb ub ext hub).ok _ hvi hrt
    rw [this.1]; simp
  | err k => rw [hm] at href; rw [hw] at href; cases href
  | panic => rw [hm] at href; rw [hw] at href; cases href

/-- C10 `…_read_total` at byte level: on *any* view (any bytes, any cursor, any declared length)
    the byte-level readers do not panic and do not move the cursor backwards or past the declared
    length -/
theorem concrete_readers_total (v : BitsView) (hv : v.Inv) :
    (∀ lb ub, C10.OptU64 ub → Concrete.rNNBI lb ub v ≠ panic) ∧
    (∀ lb ub, C10.OptU64 ub → Concrete.rLen lb ub v ≠ panic) ∧
    (∀ w, Concrete.r2s w v ≠ panic) ∧
    (∀ lb ub, I64_MIN ≤ lb → ub ≤ I64_MAX → Concrete.rConstrained lb ub v ≠ panic) ∧
    Concrete.rSmall v ≠ panic ∧
    (∀ std ext, std ≤ U64_MAX → Concrete.rIndex std ext v ≠ panic) ∧
    (∀ lb ub ext, C10.OptU64 ub → Concrete.rOctets lb ub ext v ≠ panic) :=
  ⟨fun lb ub h => ((nnbi_read lb ub h).total (C10.nnbi_read_total lb ub) v hv).1,
   fun lb ub h => ((len_read lb ub h).total (C10.len_read_total lb ub) v hv).1,
   fun w => ((twos_read w).total (C10.twos_read_total w) v hv).1,
   fun lb ub hl hu => ((constrained_read lb ub hl hu).total (C10.constrained_read_total lb ub) v hv).1,
   (small_read.total C10.small_read_total v hv).1,
   fun std ext hs => ((index_read std ext hs).total (C10.index_read_total std ext) v hv).1,
   fun lb ub ext h => ((octets_read lb ub ext h).total (C10.octets_read_total lb ub ext) v hv).1⟩

/-! ## non-vacuity: concrete instances -/

-- buffers satisfying the invariant: the empty one, and one with 3 bits written
example : BitBuffer.Inv {} := BitBuffer.inv_default
example : ∃ b', Concrete.wConstrained (-3) 4 1 {} = ok b' ∧ b'.Inv ∧ b'.abs = [true, false, false] := by
  obtain ⟨b', e, i, a, _⟩ :=
    concrete_constrained_pattern (-3) 4 1 {} BitBuffer.inv_default (by decide) (by decide)
      (by decide) (by decide)
  exact ⟨b', e, i, by rw [a]; decide⟩
-- views satisfying the invariant
example : BitsView.Inv ⟨[0xAA#8, 0xBB#8], 3, 12⟩ := ⟨by decide, by decide⟩
-- argument ranges
example : C10.OptU64 (some 70000) ∧ C10.OptU64 none :=
  ⟨C10.optU64_some (by decide), C10.optU64_none⟩
-- the two mirrors evaluated on the same requests
example : Concrete.wConstrained (-3) 4 1 {} = ok ⟨[0x80#8], 3, 0⟩ ∧
    Per.wConstrained (-3) 4 1 = ok [true, false, false] := by decide +kernel
example : Concrete.rConstrained (-3) 4 ⟨[0x80#8], 0, 3⟩ = ok (1, ⟨[0x80#8], 3, 3⟩) := by
  decide +kernel
example : Concrete.wNNBI none none 300 {} = ok ⟨[0x02#8, 0x01#8, 0x2c#8], 24, 0⟩ := by
  decide +kernel
example : Concrete.wLen none none 100000 {} = ok (some 65536, ⟨[0xc4#8], 8, 0⟩) := by decide +kernel
example : Concrete.w2s 5 (-4) {} = ok ⟨[0xe0#8], 5, 0⟩ := by decide +kernel
-- sign extension: bits 1…5 of `1111 0000` are `11100` = -4 in 5 bits
example : Concrete.r2s 5 ⟨[0xf0#8], 1, 6⟩ = ok (-4, ⟨[0xf0#8], 6, 6⟩) := by decide +kernel
example : Concrete.r2s 5 ⟨[0xf0#8], 1, 5⟩ = err .endOfStream := by decide +kernel
example : Concrete.wIndex 5 true 7 {} = ok ⟨[0x82#8], 8, 0⟩ := by decide +kernel
example : Concrete.wIndex 5 false 5 {} = err .invalidChoiceIndex := by decide +kernel
example : Concrete.wOctets (some 1) (some 20) true [0xab#8] {} = ok ⟨[0x02#8, 0xac#8], 14, 0⟩ := by
  decide +kernel
-- (the readers with loops are defined by well-founded recursion, which `decide` does not unfold:
--  their instance comes from the end-to-end theorem)
example : Concrete.rOctets (some 1) (some 20) true ⟨[0x02#8, 0xac#8], 0, 14⟩ =
    ok ([0xab#8], ⟨[0x02#8, 0xac#8], 14, 14⟩) :=
  concrete_octets_roundtrip (some 1) (some 20) true [0xab#8] {} ⟨[0x02#8, 0xac#8], 14, 0⟩
    BitBuffer.inv_default (C10.optU64_some (by decide)) (by decide +kernel)


/-! ## the range hypotheses cannot be dropped (they are the Rust argument types)

  Both mirrors are total on `Nat`/`Int`; outside the Rust types they differ, e.g. for an upper
  bound of `2^64` (not a `u64`) the L1 model writes a field of `bitWidth (2^64) = 65` bits, the
  byte-level code — `leading_zeros` of a 64-bit word, 8 bytes of `to_be_bytes` — writes 64. -/
example : ¬ C10.OptU64 (some (2 ^ 64)) ∧
    Per.wNNBIc none (some (2 ^ 64)) 0 = ok (List.replicate 65 false) ∧
    Concrete.wNNBIc none (some (2 ^ 64)) 0 {} = ok ⟨List.replicate 8 0#8, 64, 0⟩ :=
  ⟨fun h => absurd (h _ rfl) (by decide), by decide +kernel, by decide +kernel⟩

end Asn1Verif.Props.Glue
