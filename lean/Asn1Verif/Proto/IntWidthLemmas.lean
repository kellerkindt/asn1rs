import Asn1Verif.Proto.Schema
import Asn1Verif.Proto.RoundTripLemmas
import Asn1Verif.Codegen.IntTypeLemmas
/-
  C17 / C18: the integer encoding `write_number` / `read_number` select from the constraint constants
  (`intClass`, `Proto/Codec.lean`) against the Rust type the converter selects for the same
  constraint (`cascade`, `Codegen/IntType.lean`), from which the generated schema takes its scalar
  type (`definition_type_to_protobuf_type`).  The constants are the ones
  `write_integer_constraint_type` emits for that Rust type; see `generatedTy` for how they relate to
  those of the compiled code.
-/
namespace Asn1Verif.Proto
open Asn1Verif Asn1Verif.Consts Asn1Verif.Codegen.IntType Outcome
open Asn1Verif.Uper (castInt Ty Val Vals Fields Kind)

/-- `definition_type_to_protobuf_type` on the integer variants of `RustType` -/
def Schema.ptypeOfRust : RustInt → Schema.PType
  | .u8 | .u16 | .u32 => .uint32
  | .i8 | .i16 | .i32 => .sint32
  | .u64 => .uint64
  | .i64 => .sint64

/-- the proto3 scalar type whose encoding `write_tagged_uint32 / uint64 / sint32 / sint64` is -/
def IntClass.ptype : IntClass → Schema.PType
  | .u32 => .uint32
  | .u64 => .uint64
  | .s32 => .sint32
  | .s64 => .sint64

/-- a range whose lower bound exceeds its upper bound contains no value; the front end does not
    reject it -/
def RootNonEmpty : Option Int → Option Int → Prop
  | some a, some b => a ≤ b
  | _, _ => True

instance (min max : Option Int) : Decidable (RootNonEmpty min max) := by
  cases min <;> cases max <;> simp only [RootNonEmpty] <;> infer_instance

def generatedClass (min max : Option Int) (ext : Bool) : IntClass :=
  intClass (cascade min max ext).constMin (cascade min max ext).constMax (cascade min max ext).ext

theorem intClass_ext (min max : Option Int) :
    intClass min max true = .u64 ∨ intClass min max true = .s64 := by
  unfold intClass
  split
  · exact Or.inl (by simp)
  · exact Or.inr (by simp)

theorem intFits_ext (min max : Option Int) (i : Int) (h0 : I64_MIN ≤ i) (h1 : i ≤ I64_MAX) :
    intFits (intClass min max true) i = true := by
  rcases intClass_ext min max with h | h <;> rw [h] <;> simp [intFits, h0, h1]

/-- a value of a 64-bit Rust type, in the `i64` view of `Number::to_i64` -/
theorem castInt64_range (s : Bool) (i : Int) (h : castInt 64 s i = i) : I64_MIN ≤ i ∧ i ≤ I64_MAX := by
  simp only [castInt, I64_MIN, I64_MAX] at *
  have h1 : i % 2 ^ 64 < 2 ^ 64 := Int.emod_lt_of_pos _ (by decide)
  have h2 : 0 ≤ i % 2 ^ 64 := Int.emod_nonneg _ (by decide)
  cases s <;> simp only [if_true, Bool.false_eq_true, if_false] at h <;> split at h <;> omega

theorem castInt_fits_u32 (w : Nat) (i : Int) (hw : w = 8 ∨ w = 16 ∨ w = 32) (h : castInt w false i = i) :
    intFits .u32 i = true := by
  simp only [intFits, Bool.and_eq_true, decide_eq_true_eq]
  rcases hw with rfl | rfl | rfl <;> simp only [castInt, Bool.false_eq_true, if_false] at h <;>
    (split at h <;> first | omega | (rename_i h64; simp at h64))

theorem castInt_fits_s32 (w : Nat) (i : Int) (hw : w = 8 ∨ w = 16 ∨ w = 32) (h : castInt w true i = i) :
    intFits .s32 i = true := by
  simp only [intFits, Bool.and_eq_true, decide_eq_true_eq]
  rcases hw with rfl | rfl | rfl <;> simp only [castInt, if_true] at h <;> split at h <;> omega

theorem castInt_fits_64 (s : Bool) (c : IntClass) (i : Int) (hc : c = .u64 ∨ c = .s64)
    (h : castInt 64 s i = i) : intFits c i = true := by
  obtain ⟨h0, h1⟩ := castInt64_range s i h
  rcases hc with rfl | rfl <;> simp [intFits, h0, h1]

theorem fits_of_ptype {c : IntClass} {k : RustInt} (h : c.ptype = Schema.ptypeOfRust k) (i : Int)
    (hv : castInt k.bits k.signed i = i) : intFits c i = true := by
  cases k <;> cases c <;> cases h
  · exact castInt_fits_s32 8 i (by decide) hv
  · exact castInt_fits_u32 8 i (by decide) hv
  · exact castInt_fits_s32 16 i (by decide) hv
  · exact castInt_fits_u32 16 i (by decide) hv
  · exact castInt_fits_s32 32 i (by decide) hv
  · exact castInt_fits_u32 32 i (by decide) hv
  · exact castInt_fits_64 true _ i (Or.inr rfl) hv
  · exact castInt_fits_64 false _ i (Or.inl rfl) hv

theorem intClass_u32 {mn mx : Int} (h0 : 0 ≤ mn) (h1 : mx ≤ 4294967295) :
    intClass (some mn) (some mx) false = .u32 :=
  (if_pos h0).trans (if_pos ⟨rfl, h1⟩)

theorem intClass_u64 {mn mx : Int} (h0 : 0 ≤ mn) (h1 : 4294967295 < mx) :
    intClass (some mn) (some mx) false = .u64 :=
  (if_pos h0).trans (if_neg fun h => absurd h.2 (Int.not_le.mpr h1))

theorem intClass_s32 {mn mx : Int} (h0 : mn < 0) (h1 : -2147483648 ≤ mn) (h2 : mx ≤ 2147483647) :
    intClass (some mn) (some mx) false = .s32 :=
  (if_neg (Int.not_le.mpr h0)).trans (if_pos ⟨rfl, h1, h2⟩)

theorem intClass_s64 {mn mx : Int} (h0 : mn < 0) (h1 : mn < -2147483648 ∨ 2147483647 < mx) :
    intClass (some mn) (some mx) false = .s64 :=
  (if_neg (Int.not_le.mpr h0)).trans (if_neg fun h => by
    have h2 : -2147483648 ≤ mn := h.2.1
    have h3 : mx ≤ 2147483647 := h.2.2
    omega)

theorem class_of_canon {t : IntTy} (h : Canon t) :
    (intClass t.constMin t.constMax t.ext).ptype = Schema.ptypeOfRust t.kind := by
  have hc := consts_facts
  cases t with
  | u8 a b e | u16 a b e | u32 a b e => obtain ⟨rfl, h⟩ := h; exact congrArg _ (intClass_u32 (by omega) (by omega))
  | u64 a b e =>
    cases a <;> cases b <;> simp only [Canon] at h
    · subst h; rfl
    · obtain ⟨rfl, h⟩ := h; exact congrArg _ (intClass_u64 (by omega) (by omega))
  | i8 a b e | i16 a b e | i32 a b e =>
    obtain ⟨rfl, h⟩ := h; exact congrArg _ (intClass_s32 (by omega) (by omega) (by omega))
  | i64 a b e => obtain ⟨rfl, h⟩ := h; exact congrArg _ (intClass_s64 (by omega) (by omega))

theorem ext_signed_min_neg (min max : Option Int) (hroot : RootNonEmpty min max)
    (h : ¬ (0 ≤ min.getD 0 ∧ 0 ≤ max.getD 0)) : min.getD I64_MIN < 0 := by
  cases min with
  | none => decide
  | some a => cases max <;> simp only [RootNonEmpty, Option.getD_some, Option.getD_none] at * <;> omega

/-- **Width and sign agree**, for every constraint with `i64` bounds and a non-empty root: the
    encoding the codec selects from the emitted constants is that of the scalar type the schema
    declares for the Rust type the converter selected. -/
theorem generatedClass_schema (min max : Option Int) (ext : Bool)
    (hmin : OptInI64 min) (hmax : OptInI64 max) (hroot : RootNonEmpty min max) :
    (generatedClass min max ext).ptype = Schema.ptypeOfRust (cascade min max ext).kind := by
  cases ext
  · exact class_of_canon (canon_fixedCascade min max hmin hmax)
  · -- extensible: `u64` for a non-negative lower constant, else `s64`
    rw [generatedClass, cascade_true, extCascade_eq min max hmin hmax]
    split
    · rfl
    split
    · exact congrArg _ ((if_pos ‹_ ∧ _›.1).trans (if_neg fun h => nomatch h.1))
    · have := ext_signed_min_neg min max hroot ‹_›
      exact congrArg _ ((if_neg (Int.not_le.mpr this)).trans (if_neg fun h => nomatch h.1))

/-- **Nothing is cut**, empty root included: every value the selected Rust type can hold lies in the
    range of the encoding selected for it, so `as u32` / `as i32` in `write_number` are the identity
    and `varintToInt_intToVarint` applies. -/
theorem generatedClass_fits (min max : Option Int) (ext : Bool)
    (hmin : OptInI64 min) (hmax : OptInI64 max) (i : Int)
    (hv : castInt (cascade min max ext).kind.bits (cascade min max ext).kind.signed i = i) :
    intFits (generatedClass min max ext) i = true := by
  cases ext
  · exact fits_of_ptype (class_of_canon (canon_fixedCascade min max hmin hmax)) i hv
  · have h64 : (extCascade min max).kind.bits = 64 := by rw [extCascade_kind]; split <;> rfl
    rw [cascade_true, h64] at hv
    rw [generatedClass, cascade_true, extCascade_ext]
    exact intFits_ext _ _ i (castInt64_range _ i hv).1 (castInt64_range _ i hv).2

/-- the descriptor that goes with the Rust type of the converter's own run (`cascade`, the run the
    schema is generated from): constants as `write_integer_constraint_type` would emit them, its
    width, and `T::from_i64(-1).to_i64() < 0` (true for `u64` as well: the codec sees a `u64`
    through `to_i64`).  The compiled code carries the constants of the macro's second run instead
    (`Codegen.ConstsModel.intConsts`, i.e. `reconvert` of this type): the same descriptor unless the
    constraint is extensible with an open end, which the second run closes (`Props/C08Consts`) —
    e.g. `(MIN..0, ...)` is `u64` with no `MIN` here and `i64` with `MIN = i64::MIN` there. -/
def generatedTy (min max : Option Int) (ext : Bool) : Uper.Ty :=
  let ty := cascade min max ext
  .int ty.constMin ty.constMax ty.ext ty.kind.bits (ty.kind.signed || ty.kind.bits == 64)

/-- the sign flag of the descriptor does not matter for a 64-bit type (`castInt` is the `i64` view) -/
theorem castInt_descSigned (k : RustInt) (i : Int) :
    castInt k.bits (k.signed || k.bits == 64) i = castInt k.bits k.signed i := by
  cases k <;> simp [castInt, RustInt.bits, RustInt.signed]

theorem generatedTy_fits (min max : Option Int) (ext : Bool)
    (hmin : OptInI64 min) (hmax : OptInI64 max) (i : Int)
    (hv : castInt (cascade min max ext).kind.bits
      ((cascade min max ext).kind.signed || (cascade min max ext).kind.bits == 64) i = i) :
    intFits (generatedClass min max ext) i = true :=
  generatedClass_fits min max ext hmin hmax i (by rw [← castInt_descSigned]; exact hv)

theorem ptype_int_of_sign (k : RustInt) (mn mx : Option Int) (e : Bool)
    (h : k.signed = true ↔ mn.getD 0 < 0) :
    Schema.ptype (.int mn mx e k.bits (k.signed || k.bits == 64)) = Schema.ptypeOfRust k := by
  cases k <;> try rfl
  · exact (if_pos rfl).trans (if_pos (h.mp rfl))
  · exact (if_pos rfl).trans (if_neg fun h' => nomatch h.mpr h')

/-- `Schema.ptype` has to guess `u64`/`i64` from the lower bound; here the guess is
    `definition_type_to_protobuf_type` of the converter's Rust type -/
theorem ptype_generatedTy (min max : Option Int) (ext : Bool)
    (hmin : OptInI64 min) (hmax : OptInI64 max) (hroot : RootNonEmpty min max) :
    Schema.ptype (generatedTy min max ext) = Schema.ptypeOfRust (cascade min max ext).kind := by
  refine ptype_int_of_sign _ _ _ _ ?_
  cases ext
  · have hc := canon_fixedCascade min max hmin hmax
    rcases hc.cases with h | ⟨a, b, hs⟩
    · rw [cascade_false, h]; decide
    · rw [cascade_false, IntTy.constMin, hs]; exact (hc.kind_spec hs).1
  · rw [cascade_true, extCascade_eq min max hmin hmax]
    split
    · decide
    split
    · exact iff_of_false Bool.false_ne_true (Int.not_lt.mpr ‹_ ∧ _›.1)
    · exact iff_of_true rfl (ext_signed_min_neg min max hroot ‹_›)

theorem sint32_eq_sint64 (v : Int) (h0 : -(2 ^ 30) ≤ v) (h1 : v < 2 ^ 30) :
    sint32ToVarint (BitVec.ofInt 32 v) = sint64ToVarint (BitVec.ofInt 64 v) := by
  have e32 : zigzag32 (BitVec.ofInt 32 v) = zigzag 31 (BitVec.ofInt 32 v) := rfl
  have e64 : zigzag64 (BitVec.ofInt 64 v) = zigzag 63 (BitVec.ofInt 64 v) := rfl
  have z32 := zigzag_ofInt 31 v (by omega) (by omega)
  have z64 := zigzag_ofInt 63 v (by omega) (by omega)
  -- the 32-bit zig-zag value is below `2^31`: its sign extension adds nothing
  have hr : (if 0 ≤ v then 2 * v else -2 * v - 1).toNat < 2 ^ 31 := by split <;> omega
  generalize (if 0 ≤ v then 2 * v else -2 * v - 1).toNat = r at *
  rw [sint32ToVarint, sint64ToVarint, e32, e64, z64, BitVec.toNat_signExtend, BitVec.toNat_setWidth,
    BitVec.msb_eq_decide, z32, Nat.mod_eq_of_lt (by omega), if_neg (by simp only [decide_eq_true_eq]; omega)]
  rfl

/-- what the repair of F-proto-int-ext changes on the wire for values the old code wrote correctly
    under a non-negative lower bound (uint32 → uint64): nothing.  Under a negative one
    (sint32 → sint64) that is `sint32_eq_sint64`, for `-2^30 ≤ v < 2^30`. -/
theorem intToVarint_u32_eq_u64 (v : Int) (h0 : 0 ≤ v) (h1 : v < 2 ^ 32) :
    intToVarint .u32 v = intToVarint .u64 v := by
  show (v % 2 ^ 32).toNat = (v % 2 ^ 64).toNat
  rw [Int.emod_eq_of_lt h0 h1, Int.emod_eq_of_lt h0 (by omega)]

/-- the transparent wrapper `X ::= T`, a one-component message -/
def wrap (t : Ty) : Ty := .seq 0 1 none (.cons .m t .nil)
def wrapV (v : Val) : Val := .seq (.cons v .nil)

theorem encode_wrap_int (mn mx : Option Int) (e : Bool) (w : Nat) (s : Bool) (i : Int) (bytes : List Byte)
    (h : encode (wrap (.int mn mx e w s)) (wrapV (.int i)) = ok bytes) :
    castInt w s i = i ∧ bytes.length ≤ 20 := by
  by_cases hc : castInt w s i = i
  · refine ⟨hc, ?_⟩
    simp [encode, wrap, wrapV, encodeI, encFieldsI, encI, hc] at h
    subst h
    simp only [itemsBytes, Item.encode, List.append_nil, List.length_append, writeTag]
    have := writeVarint_length_le (tagValue 1 .varint)
    have := writeVarint_length_le (intToVarint (intClass mn mx e) i)
    omega
  · simp [encode, wrap, wrapV, encodeI, encFieldsI, encI, hc] at h

theorem protoEq_wrap_int (mn mx : Option Int) (e : Bool) (w : Nat) (s : Bool) (i : Int) (v' : Val)
    (h : Val.protoEq (wrap (.int mn mx e w s)) (wrapV (.int i)) v' = true) : v' = wrapV (.int i) := by
  cases v' with
  | seq bs =>
    cases bs with
    | nil => simp [Val.protoEq, Vals.protoEq, wrap, wrapV] at h
    | cons b rest =>
      cases rest with
      | nil =>
        simp only [Val.protoEq, Vals.protoEq, wrap, wrapV, Bool.and_true] at h
        -- `==` on `Val` is `Val.beq`; on an INTEGER it is decided here (`Uper.Val.eq_of_beq` would
        -- bring the PER lemma modules in for this one step)
        have hb : Uper.Val.beq (.int i) b = true := h
        cases b <;> simp only [Uper.Val.beq, beq_iff_eq, Bool.false_eq_true] at hb
        rw [hb]; rfl
      | cons _ _ => simp [Val.protoEq, Vals.protoEq, wrap, wrapV] at h
  | _ => simp [Val.protoEq, wrap, wrapV] at h

theorem wrap_int_roundtrip (fx : Option Fix) (mn mx : Option Int) (e : Bool) (w : Nat) (s : Bool) (i : Int)
    (bytes : List Byte) (hfit : castInt w s i = i → intFits (intClass mn mx e) i = true)
    (henc : encode (wrap (.int mn mx e w s)) (wrapV (.int i)) = ok bytes) :
    decode fx (wrap (.int mn mx e w s)) bytes = ok (wrapV (.int i)) := by
  obtain ⟨hc, hl⟩ := encode_wrap_int mn mx e w s i bytes henc
  have hok : rtOK (wrap (.int mn mx e w s)) (wrapV (.int i)) = true := by
    simp [rtOK, rtOKFields, wrap, wrapV, Fields.length, Fields.noOptNull, hfit hc]
  obtain ⟨v', hd, hp⟩ := roundtrip fx _ _ bytes hok henc (by simp only [U64_MAX]; omega)
  rw [hd, protoEq_wrap_int mn mx e w s i v' hp]
end Asn1Verif.Proto
