import Asn1Verif.Uper.ScopeLemmas
import Asn1Verif.Uper.SeqReadLemmas
import Asn1Verif.Uper.ReadTotal
/-
  The reader half of the scope machine (`Uper/Scope.lean`), for a reader whose window is the whole input
  (`len = inp.length`, what `UperReader::from((bytes, bit_len))` sets up and no function changes): the bridge
  to the position-based L1 readers of `Impl`, the bit-field entry, `with_buffer`, and the uniform shape
  `rcomp` of one `T::read_value`.
-/
namespace Asn1Verif.Uper
open Asn1Verif Outcome Per

/-- for the test vectors of `Props/Scope.lean` -/
instance Scope.decEqVals : DecidableEq Vals := fun a b =>
  decidable_of_iff (Vals.beq a b = true) ⟨Vals.eq_of_beq a b, fun h => h ▸ Vals.beq_refl a⟩

namespace Scope

@[simp] theorem vis_self (inp : Bits) : vis inp inp.length = inp := by simp [vis]

theorem liftR_full {α : Type} (rd : Per.Rd α) (inp : Bits) (r : R) (hl : r.len = inp.length) :
    liftR rd inp r = liftL1 rd inp r.pos >>= fun x => ok (x.1, { r with pos := x.2 }) := by
  unfold liftR
  rw [hl, vis_self]
  cases liftL1 rd inp r.pos <;> rfl

theorem liftR_mk {α : Type} (rd : Per.Rd α) (inp : Bits) (pos : Nat) (sc : Option Scope) :
    liftR rd inp ⟨pos, inp.length, sc⟩ =
      liftL1 rd inp pos >>= fun x => ok (x.1, ⟨x.2, inp.length, sc⟩) := liftR_full rd inp _ rfl

theorem bitAtR_mk (inp : Bits) (pos : Nat) (sc : Option Scope) (p : Nat) :
    bitAtR inp ⟨pos, inp.length, sc⟩ p = bitAt inp p := by
  simp only [bitAtR, vis_self]

theorem bitAt_ok_lt {inp : Bits} {p : Nat} {b : Bool} (h : bitAt inp p = ok b) : p < inp.length := by
  unfold bitAt at h
  cases hg : inp[p]? with
  | none => simp [hg] at h
  | some x =>
    by_cases hp : p < inp.length
    · exact hp
    · rw [List.getElem?_eq_none (by omega)] at hg; cases hg

/-! ### the window never changes, the cursor stays inside it (also behind a failed bit-field entry) -/

theorem rLenUncErrAdv_le (bs : Bits) : rLenUncErrAdv bs ≤ bs.length := by
  match bs with
  | [] => simp [rLenUncErrAdv]
  | false :: _ => simp [rLenUncErrAdv]
  | [true] => simp [rLenUncErrAdv]
  | true :: _ :: _ => simp [rLenUncErrAdv]

theorem rSmallErrAdv_le (bs : Bits) : rSmallErrAdv bs ≤ bs.length := by
  match bs with
  | [] => simp [rSmallErrAdv]
  | false :: _ => simp [rSmallErrAdv]
  | true :: rest =>
    simp only [rSmallErrAdv, List.length_cons]
    have := rLenUncErrAdv_le rest
    split <;> omega

def R.Inside (inp : Bits) (r : R) : Prop := r.len = inp.length ∧ r.pos ≤ inp.length

theorem liftR_inside {α : Type} {rd : Per.Rd α} {inp : Bits} {r : R} {a : α} {r1 : R}
    (hl : r.len = inp.length) (h : liftR rd inp r = ok (a, r1)) : r1.Inside inp := by
  rw [liftR_full rd inp r hl] at h
  obtain ⟨x, hx, h⟩ := bind_eq_ok.1 h
  cases h
  exact ⟨hl, liftL1_le hx⟩

theorem readFromAll_snd (a b : Nat) (inp : Bits) (r : R) :
    (readFromAll a b inp r).2 = { r with scope := some (.allBitField (if a < b then a + 1 else a) b) } := by
  by_cases h : a < b <;> simp only [readFromAll, h, if_true, if_false]

theorem entry_inside (inp : Bits) (r : R) (isOpt : Bool) (hr : r.Inside inp) :
    (readBitFieldEntry inp r isOpt).2.Inside inp := by
  have hsc : ∀ sc, R.Inside inp { r with scope := sc } := fun _ => hr
  unfold readBitFieldEntry
  cases r.scope with
  | none =>
    dsimp only
    split
    · cases hn : liftR rdBit inp r with
      | ok x => exact liftR_inside hr.1 hn
      | err k => exact hr
      | panic => exact hr
    · exact hr
  | some s =>
    cases s with
    | optBitField a b => simp only [readFromField]; split <;> (try split) <;> first | exact hr | exact hsc _
    | allBitField a b => simp only [readFromField, readFromAll_snd]; exact hsc _
    | extensibleSequenceEmpty => exact hr
    | extensibleSequence bp obf calls nExt =>
      simp only [readFromField]
      split
      · cases bitAtR inp r bp with
        | panic => exact hr
        | err k => exact hr
        | ok b =>
          cases b with
          | false => exact hsc _
          | true =>
            dsimp only
            cases hn : liftR rSmall inp r with
            | panic => exact hr
            | err k =>
              -- (R2): the cursor behind the primitive reads that succeeded
              have := rSmallErrAdv_le ((vis inp r.len).drop r.pos)
              rw [hr.1, vis_self, List.length_drop] at this
              refine ⟨hr.1, ?_⟩
              have := hr.2
              simp only [hr.1, vis_self]
              omega
            | ok x =>
              have hx := liftR_inside hr.1 hn
              dsimp only
              split
              · exact hx
              · rw [readFromAll_snd]
                exact ⟨hx.1, by show min _ x.2.len ≤ _; rw [hx.1]; exact Nat.min_le_right _ _⟩
      · cases obf with
        | none => exact hsc _
        | some x => dsimp only; split <;> exact hsc _

theorem entryQ_inside {inp : Bits} {r : R} {isOpt : Bool} {p : Option Bool} {r0 : R}
    (hr : r.Inside inp) (h : entryQ inp r isOpt = ok (p, r0)) : r0.Inside inp := by
  have := entry_inside inp r isOpt hr
  unfold entryQ at h
  split at h
  · rename_i heq
    cases h
    rw [heq] at this
    exact this
  · cases h
  · cases h

/-- the content inside `with_buffer`: `g` at the cursor, or (extension part, callee goes through
    `with_buffer`) a length determinant, `g` behind it, cursor to the announced end -/
def rbody {α : Type} (wrap : Bool) (g : RdP α) (inp : Bits) (r0 : R) : Outcome (α × R) :=
  if wrap && openTy r0.scope then
    liftL1 (rLen none none) inp r0.pos >>= fun x =>
      g inp x.2 >>= fun y => ok (y.1, { r0 with pos := min (x.2 + x.1 * 8) inp.length })
  else g inp r0.pos >>= fun y => ok (y.1, { r0 with pos := y.2 })

/-- one `T::read_value`: the bit-field entry (`?`, or swallowed by `read_sequence`), then the content -/
def rcomp (swallow wrap : Bool) (g : RdP Val) (inp : Bits) (r : R) : Outcome (Val × R) :=
  (if swallow then ok (readBitFieldEntry inp r false).2
   else entryQ inp r false >>= fun x => ok x.2) >>= fun r0 => rbody wrap g inp r0

/-- a closure that reads like `g` at the cursor and keeps the scope -/
def InPlace {α : Type} (f : R → Outcome (α × R)) (g : RdP α) (inp : Bits) : Prop :=
  ∀ r1 : R, r1.Inside inp → f r1 = g inp r1.pos >>= fun y => ok (y.1, { r1 with pos := y.2 })

theorem enter_leave {α : Type} {f : R → Outcome (α × R)} {g : RdP α} {inp : Bits} (r0 : R)
    (hr : r0.Inside inp) (hf : InPlace f g inp) :
    (r0.enter inp >>= fun x => f x.1 >>= fun y => ok (y.1, y.2.leave x.2)) = rbody true g inp r0 := by
  unfold R.enter rbody
  by_cases ho : openTy r0.scope = true
  · simp only [ho, if_true, Bool.true_and, liftR_full _ inp r0 hr.1, bind_assoc, bind_ok]
    refine bind_congr fun x hx => ?_
    rw [hf ⟨x.2, r0.len, r0.scope⟩ ⟨hr.1, liftL1_le hx⟩, bind_assoc]
    simp only [bind_ok, R.leave, hr.1]
  · simp only [ho, Bool.false_eq_true, if_false, Bool.and_false, bind_ok]
    rw [hf _ hr, bind_assoc]
    rfl

theorem readLeaf_eq {g : RdP Val} {inp : Bits} {r : R} (hl : r.len = inp.length)
    (hp : r.pos ≤ inp.length) :
    readLeaf g inp r = rcomp false true g inp r := by
  unfold readLeaf rcomp
  simp only [Bool.false_eq_true, if_false, bind_assoc, bind_ok]
  refine bind_congr fun x he => ?_
  rw [← enter_leave (f := fun r1 => g (vis inp r1.len) r1.pos >>= fun y => ok (y.1, { r1 with pos := y.2 }))
    x.2 (entryQ_inside ⟨hl, hp⟩ he) (by intro r1 h1; simp only [h1.1, vis_self])]
  refine bind_congr fun y _ => ?_
  rw [bind_assoc]
  rfl

theorem rcomp_none (swallow wrap : Bool) (g : RdP Val) (inp : Bits) (pos : Nat) :
    rcomp swallow wrap g inp ⟨pos, inp.length, none⟩ =
      g inp pos >>= fun y => ok (y.1, ⟨y.2, inp.length, none⟩) := by
  unfold rcomp rbody
  cases swallow <;>
    simp [readBitFieldEntry, entryQ, openTy]

end Scope
end Asn1Verif.Uper
