import Asn1Verif.Der.BasicLemmas
/-
  C20 — DER primitives round trip: identifier, length, BOOLEAN, INTEGER, ENUMERATED.

  Helper lemmas live in `Der/BasicLemmas.lean`, the model (mirror of
  `src/protocol/basic/distinguished/mod.rs` and `src/rw/der.rs`) in `Der/Basic.lean`.

  Every round trip has the shape `read (write x ++ post) = ok (x, post)` for an arbitrary
  continuation `post`: the reader returns the written value *and* leaves exactly `post`, i.e. it
  consumes exactly the bytes written; back-to-back composition follows by induction
  (`numbers_back_to_back`).  All quantifiers are unbounded (every `u64`, every `i64`, …).

  Writers never fail on a `Vec<u8>`; `…_writer_total` shows that the two checked subtractions
  of the writer (in `write_length` and in `write_number`) never underflow, so the plain functions used below are what the code computes.

  Tag numbers: the writer ORs `number as u8` into the identifier octet and the reader takes the
  low six bits as the number, so the round trip holds exactly for `number < 64`
  (`identifier_roundtrip_iff`); the property's quantifier is `number < 31`
  (`identifier_roundtrip_lt31`).  The statement for all numbers is false (`identifier_any_number_false`).
-/
namespace Asn1Verif.Props.C20
open Asn1Verif Asn1Verif.Der Outcome

/-! ### what `leading_zeros` means in the model -/

/-- `lz64` (the model of `u64::leading_zeros`, defined through `Nat.log2`) has the defining
    property of a leading-zero count, and `lz64 n / 8` equals the explicit eight-way comparison
    cascade; the correspondence stream checks the same against the real instruction -/
theorem leading_zeros_model (n : Nat) (h : n < 2 ^ 64) :
    ((n = 0 → lz64 n = 64) ∧
     (n ≠ 0 → lz64 n ≤ 63 ∧ 2 ^ (63 - lz64 n) ≤ n ∧ n < 2 ^ (63 - lz64 n + 1))) ∧
    lz64 n / 8 =
      (if n = 0 then 8 else if n < 2 ^ 8 then 7 else if n < 2 ^ 16 then 6 else if n < 2 ^ 24 then 5
       else if n < 2 ^ 32 then 4 else if n < 2 ^ 40 then 3 else if n < 2 ^ 48 then 2
       else if n < 2 ^ 56 then 1 else 0) := by
  by_cases h0 : n = 0
  · subst h0; exact ⟨⟨fun _ => rfl, fun h => absurd rfl h⟩, rfl⟩
  have hl : n.log2 < 64 := (Nat.log2_lt h0).mpr h
  refine ⟨⟨fun h => absurd h h0, fun _ => ?_⟩, ?_⟩
  · rw [lz64_eq h0, show 63 - (63 - n.log2) = n.log2 by omega]
    exact ⟨Nat.sub_le .., Nat.log2_self_le h0, Nat.lt_log2_self⟩
  · -- each comparison is one of `log2 n`, which leaves two step functions on `0..63` to compare
    have steps : ∀ l, l < 64 → (63 - l) / 8 =
        if l < 8 then 7 else if l < 16 then 6 else if l < 24 then 5 else if l < 32 then 4
        else if l < 40 then 3 else if l < 48 then 2 else if l < 56 then 1 else 0 := by
      decide +kernel
    rw [if_neg h0, lz64_eq h0]
    simp only [← Nat.log2_lt h0]
    exact steps _ hl

/-! ### length (X.690 8.1.3) -/

/-- every `u64` length is read back unchanged and the reader stops exactly behind it -/
theorem length_roundtrip (n : Nat) (post : List Byte) (h : n < 2 ^ 64) :
    readLength (writeLength n ++ post) = ok (n, post) :=
  readLength_write n post h

/-- `write_length` never panics (`8 - leading_zeros/8` does not underflow), for any argument -/
theorem length_writer_total (n : Nat) : writeLengthC n = ok (writeLength n) :=
  writeLengthC_eq n

/-- the writer's output is the X.690 definite form: one octet up to 127, otherwise
    `0x80 | k` followed by the `k = 8 - ⌊lz/8⌋` significant bytes, most significant first -/
theorem length_encoding (n : Nat) :
    (n ≤ 127 → writeLength n = [0x00#8 ||| u8 n]) ∧
    (127 < n → writeLength n = (0x80#8 ||| u8 (intLen n)) :: beBytes (intLen n) n) :=
  ⟨writeLength_short n, fun h => by rw [writeLength_long n h, writeIntegerU64_eq]⟩

/-! ### identifier octet (X.690 8.1.2, low tag numbers) -/

/-- all four classes, every number below 64 -/
theorem identifier_roundtrip (t : Tag) (post : List Byte) (h : t.number < 64) :
    readIdentifier (writeIdentifier t ++ post) = ok (t, post) :=
  readIdentifier_write t post h

/-- the property's quantifier: class × number < 31 -/
theorem identifier_roundtrip_lt31 (c : TagClass) (n : Nat) (post : List Byte) (h : n < 31) :
    readIdentifier (writeIdentifier ⟨c, n⟩ ++ post) = ok (⟨c, n⟩, post) :=
  readIdentifier_write ⟨c, n⟩ post (by simp only; omega)

/-- `number < 64` is exactly the domain on which the identifier round-trips -/
theorem identifier_roundtrip_iff (t : Tag) (post : List Byte) :
    readIdentifier (writeIdentifier t ++ post) = ok (t, post) ↔ t.number < 64 := by
  constructor
  · intro h
    obtain ⟨_, _, _, hlt⟩ := readIdentifier_ok h
    exact hlt
  · exact readIdentifier_write t post

/-- the statement without the bound on the tag number … -/
def IdentifierRoundTripAnyNumber : Prop :=
  ∀ (t : Tag) (post : List Byte), readIdentifier (writeIdentifier t ++ post) = ok (t, post)

/-- … is false for the current code: `Universal(64)` is written as `0x40` and read as
    `Application(0)` -/
theorem identifier_any_number_false : ¬ IdentifierRoundTripAnyNumber := by
  intro h
  have := (identifier_roundtrip_iff ⟨.universal, 64⟩ []).mp (h _ _)
  exact absurd this (by decide)

example : readIdentifier (writeIdentifier ⟨.universal, 64⟩) = ok (⟨.application, 0⟩, []) := by
  decide +kernel
example : readIdentifier (writeIdentifier ⟨.application, 300⟩) = ok (⟨.application, 44⟩, []) := by
  decide +kernel

/-! ### BOOLEAN content octet (X.690 8.2) -/

theorem boolean_octet_roundtrip (v : Bool) (post : List Byte) :
    readBoolean (writeBoolean v ++ post) = ok (v, post) := by
  cases v <;> rfl

/-- any non-zero octet is `true`, only `0x00` is `false` -/
theorem boolean_octet_any_nonzero (b : Byte) (post : List Byte) :
    readBoolean (b :: post) = ok (decide (b ≠ 0#8), post) := by
  rw [readBoolean_cons]
  by_cases h : b = 0#8 <;> simp [h]

/-! ### INTEGER content octets (zero-extended big endian; not X.690 8.3 two's complement) -/

/-- the number of bytes the integer writers emit is the length `write_number` announces:
    `max(8 - ⌊lz/8⌋, 1) = 8 - min(⌊lz/8⌋, 7)` -/
theorem integer_len (n : Nat) (v : Int) :
    (writeIntegerU64 n).length = max (8 - lz64 n / 8) 1 ∧
    (writeIntegerI64 v).length = max (8 - lz64 (i64AsU64 v) / 8) 1 := by
  rw [length_writeIntegerU64, length_writeIntegerI64, number_len, number_len]
  exact ⟨rfl, rfl⟩

/-- every `u64`, read with the byte count the writer emitted -/
theorem integer_u64_roundtrip (n : Nat) (post : List Byte) (h : n < 2 ^ 64) :
    readIntegerU64 (writeIntegerU64 n).length (writeIntegerU64 n ++ post) = ok (n, post) := by
  rw [length_writeIntegerU64]; exact readIntegerU64_write n post h

/-- every `i64` (negative values travel as their 8-byte two's complement pattern) -/
theorem integer_i64_roundtrip (v : Int) (post : List Byte)
    (h1 : -(2 ^ 63 : Int) ≤ v) (h2 : v < 2 ^ 63) :
    readIntegerI64 (writeIntegerI64 v).length (writeIntegerI64 v ++ post) = ok (v, post) := by
  rw [length_writeIntegerI64, readIntegerI64_write, u64AsI64_i64AsU64 v h1 h2]

/-- a declared byte count above 8 is an error, not a panic; this is the only error besides a
    short source -/
theorem integer_byte_len_limit (k : Nat) (inp : List Byte) (h : 8 < k) :
    readIntegerU64 k inp = err .lengthExceedsLimit ∧ readIntegerI64 k inp = err .lengthExceedsLimit := by
  rw [readIntegerI64_eq, readIntegerU64_eq, if_pos h]
  exact ⟨rfl, rfl⟩

/-! ### `BasicWriter::write_number` / `BasicReader::read_number` (tag, length, content) -/

/-- every value of every Rust integer type (`u8 … u64`, `i8 … i64`) under every tag with
    number < 64; `u64` values ≥ 2^63 go through `as i64` and back -/
theorem number_roundtrip (t : NumTy) (tag : Tag) (v : Int) (post : List Byte)
    (ht : t.Valid) (hv : t.InRange v) (htag : tag.number < 64) :
    readNumber t tag (writeNumber t tag v ++ post) = ok (v, post) := by
  rw [readNumber_write t tag v post htag, fromI64_toI64 t v ht.bits_le.1 ht.bits_le.2 hv]

theorem number_roundtrip_i64 (tag : Tag) (v : Int) (post : List Byte)
    (h1 : -(2 ^ 63 : Int) ≤ v) (h2 : v < 2 ^ 63) (htag : tag.number < 64) :
    readNumber .i64 tag (writeNumber .i64 tag v ++ post) = ok (v, post) :=
  number_roundtrip .i64 tag v post (by decide) (by simp [NumTy.InRange, NumTy.i64]; omega) htag

theorem number_roundtrip_u64 (tag : Tag) (n : Nat) (post : List Byte)
    (h : n < 2 ^ 64) (htag : tag.number < 64) :
    readNumber .u64 tag (writeNumber .u64 tag n ++ post) = ok ((n : Int), post) :=
  number_roundtrip .u64 tag n post (by decide) (by simp [NumTy.InRange, NumTy.u64]; omega) htag

/-- `write_number` never panics (`8 - leading_zeros/8` and the nested `write_length`) -/
theorem number_writer_total (t : NumTy) (tag : Tag) (v : Int) :
    writeNumberC t tag v = ok (writeNumber t tag v) :=
  writeNumberC_eq t tag v

/-- shape of the written element: identifier, length = number of content octets, content -/
theorem number_encoding (t : NumTy) (tag : Tag) (v : Int) :
    writeNumber t tag v = writeIdentifier tag ++
      (writeLength (writeIntegerI64 (t.toI64 v)).length ++ writeIntegerI64 (t.toI64 v)) := by
  rw [writeNumber_eq, length_writeIntegerI64]

/-! ### back-to-back composition: any number of values in one writer, read by one reader -/

def writeNumbers (t : NumTy) (tag : Tag) : List Int → List Byte
  | [] => []
  | v :: vs => writeNumber t tag v ++ writeNumbers t tag vs

def readNumbers (t : NumTy) (tag : Tag) : Nat → List Byte → Outcome (List Int × List Byte)
  | 0, inp => ok ([], inp)
  | k + 1, inp => do
    let (v, r) ← readNumber t tag inp
    let (vs, r') ← readNumbers t tag k r
    ok (v :: vs, r')

theorem numbers_back_to_back (t : NumTy) (tag : Tag) (vs : List Int) (post : List Byte)
    (ht : t.Valid) (hv : ∀ v ∈ vs, t.InRange v) (htag : tag.number < 64) :
    readNumbers t tag vs.length (writeNumbers t tag vs ++ post) = ok (vs, post) := by
  induction vs with
  | nil => rfl
  | cons v vs ih =>
    simp only [writeNumbers, List.length_cons, readNumbers, List.append_assoc]
    rw [number_roundtrip t tag v _ ht (hv v (by simp)) htag]
    simp only [bind_ok]
    rw [ih (fun w hw => hv w (by simp [hw]))]
    rfl

/-! ### BOOLEAN element -/

theorem boolean_roundtrip (tag : Tag) (v : Bool) (post : List Byte) (htag : tag.number < 64) :
    readBooleanTlv tag (writeBooleanTlv tag v ++ post) = ok (v, post) := by
  rw [writeBooleanTlv, List.append_assoc, List.append_assoc,
    readBooleanTlv_header tag 1 _ htag (by decide), if_pos rfl]
  exact boolean_octet_roundtrip v post

/-- "booleans accept any non-zero octet as true": identifier, length 1, then *any* content octet
    `c`; the result is `c ≠ 0` and the reader stops behind the octet -/
theorem boolean_any_nonzero (tag : Tag) (c : Byte) (post : List Byte) (htag : tag.number < 64) :
    readBooleanTlv tag (writeIdentifier tag ++ (writeLength 1 ++ c :: post))
      = ok (decide (c ≠ 0#8), post) := by
  rw [readBooleanTlv_header tag 1 _ htag (by decide), if_pos rfl]
  exact boolean_octet_any_nonzero c post

/-- a length other than 1 is rejected (error, never a panic) -/
theorem boolean_wrong_length (tag : Tag) (n : Nat) (rest : List Byte)
    (htag : tag.number < 64) (hn : n < 2 ^ 64) (h1 : n ≠ 1) :
    readBooleanTlv tag (writeIdentifier tag ++ (writeLength n ++ rest)) = err .other := by
  rw [readBooleanTlv_header tag n _ htag hn, if_neg h1]

/-! ### ENUMERATED (an INTEGER of type `u64` under the enumeration's tag) -/

/-- every index of every enumeration (`VARIANT_COUNT` is a `u64`) -/
theorem enumerated_roundtrip (tag : Tag) (count i : Nat) (post : List Byte)
    (hi : i < count) (hc : count ≤ 2 ^ 64) (htag : tag.number < 64) :
    readEnumerated tag count (writeEnumerated tag i ++ post) = ok (i, post) := by
  unfold readEnumerated writeEnumerated
  rw [number_roundtrip_u64 tag i post (by omega) htag]
  simp only [bind_ok, Int.toNat_natCast]
  rw [if_pos hi]

theorem enumerated_writer_total (tag : Tag) (i : Nat) :
    writeEnumeratedC tag i = ok (writeEnumerated tag i) :=
  writeEnumeratedC_eq tag i

/-- whatever the bytes are, an accepted index is below the variant count -/
theorem enumerated_index_in_range (tag : Tag) (count : Nat) (inp rest : List Byte) (i : Nat)
    (h : readEnumerated tag count inp = ok (i, rest)) : i < count := by
  unfold readEnumerated at h
  obtain ⟨⟨v, r⟩, _, h⟩ := bind_eq_ok.mp h
  simp only at h
  split at h
  · rename_i hlt
    cases h
    exact hlt
  · cases h

/-! ### the reader on arbitrary bytes (feeds C04) -/

/-- no input whatsoever makes any DER read operation panic (in particular the
    `unreachable!()` of `read_identifier` is unreachable and `8 - byte_len` cannot underflow) -/
theorem reader_never_panics (inp : List Byte) (k : Nat) (t : NumTy) (tag : Tag) (count : Nat) :
    readIdentifier inp ≠ .panic ∧ readLength inp ≠ .panic ∧ readBoolean inp ≠ .panic ∧
    readIntegerU64 k inp ≠ .panic ∧ readIntegerI64 k inp ≠ .panic ∧
    readNumber t tag inp ≠ .panic ∧ readBooleanTlv tag inp ≠ .panic ∧
    readEnumerated tag count inp ≠ .panic :=
  ⟨readIdentifier_ne_panic inp, readLength_ne_panic inp, readBoolean_ne_panic inp,
   readIntegerU64_ne_panic k inp, readIntegerI64_ne_panic k inp, readNumber_ne_panic t tag inp,
   readBooleanTlv_ne_panic tag inp, readEnumerated_ne_panic tag count inp⟩

/-- a successful `read_length` on arbitrary bytes took 1..9 bytes from the front of the source
    and returns a `u64` -/
theorem read_length_consumes (inp rest : List Byte) (n : Nat) (h : readLength inp = ok (n, rest)) :
    ∃ got, inp = got ++ rest ∧ 1 ≤ got.length ∧ got.length ≤ 9 ∧ n < 2 ^ 64 := by
  cases inp with
  | nil => cases h
  | cons b rs =>
    rw [readLength_cons] at h
    split at h
    · cases h
      have := (b &&& ~~~ 0x80#8).isLt
      exact ⟨[b], rfl, by simp, by simp, by omega⟩
    · obtain ⟨got, rfl, e2, e3, rfl⟩ := readIntegerU64_ok h
      refine ⟨b :: got, rfl, by simp, by simp; omega, ?_⟩
      exact Nat.lt_of_lt_of_le (fromBe_lt got)
        (Nat.pow_le_pow_right (by decide) (by omega) : _ ≤ 256 ^ 8)

/-- a successful `read_number` on arbitrary bytes took 2..18 bytes from the front of the source
    (never reads past it, never rewinds) and returns a value of the requested Rust type -/
theorem read_number_consumes (t : NumTy) (tag : Tag) (inp rest : List Byte) (v : Int)
    (h : readNumber t tag inp = ok (v, rest)) :
    ∃ got x, inp = got ++ rest ∧ 2 ≤ got.length ∧ got.length ≤ 18 ∧ v = t.fromI64 x := by
  unfold readNumber at h
  obtain ⟨⟨identifier, r1⟩, h1, h⟩ := bind_eq_ok.mp h
  simp only at h
  split at h
  · cases h
  · obtain ⟨⟨len, r2⟩, h2, h⟩ := bind_eq_ok.mp h
    obtain ⟨⟨x, r3⟩, h3, h⟩ := bind_eq_ok.mp h
    cases h
    rw [readIntegerI64_eq] at h3
    obtain ⟨⟨n, r⟩, h4, h⟩ := bind_eq_ok.mp h3
    cases h
    obtain ⟨b, rfl, _, _⟩ := readIdentifier_ok h1
    obtain ⟨g2, rfl, l2a, l2b, _⟩ := read_length_consumes _ _ _ h2
    obtain ⟨g3, rfl, l3, l3b, _⟩ := readIntegerU64_ok h4
    exact ⟨b :: (g2 ++ g3), _, by simp, by simp; omega, by simp; omega, rfl⟩

/-! ### non-vacuity: concrete instances satisfying the hypotheses, evaluated by the kernel -/

example : (18446744073709551615 : Nat) < 2 ^ 64 := by decide +kernel
example : writeLength 18446744073709551615 =
    [0x88#8, 0xff#8, 0xff#8, 0xff#8, 0xff#8, 0xff#8, 0xff#8, 0xff#8, 0xff#8] := by
  decide +kernel
example : writeLength 128 = [0x81#8, 0x80#8] ∧ writeLength 127 = [0x7f#8] := by decide +kernel
example : readLength (writeLength 65536 ++ [0xAA#8]) = ok (65536, [0xAA#8]) := by decide +kernel
example : (⟨.private_, 63⟩ : Tag).number < 64 := by decide +kernel
example : writeIdentifier ⟨.private_, 63⟩ = [0xff#8] := by decide +kernel
example : NumTy.u64.Valid ∧ NumTy.u64.InRange 18446744073709551615 ∧ ¬ NumTy.u64.InRange (-1) := by
  decide +kernel
example : (⟨true, 8⟩ : NumTy).Valid ∧ (⟨true, 8⟩ : NumTy).InRange (-128) := by decide +kernel
example : writeNumber .u64 ⟨.universal, 2⟩ 18446744073709551615 =
    [0x02#8, 0x08#8, 0xff#8, 0xff#8, 0xff#8, 0xff#8, 0xff#8, 0xff#8, 0xff#8, 0xff#8] := by
  decide +kernel
example : writeNumber .i64 ⟨.universal, 2⟩ 128 = [0x02#8, 0x01#8, 0x80#8] := by decide +kernel
example : writeNumber .i64 ⟨.universal, 2⟩ 0 = [0x02#8, 0x01#8, 0x00#8] := by decide +kernel
example : readNumber .i64 ⟨.universal, 2⟩ [0x02#8, 0x01#8, 0x80#8, 0x07#8] = ok (128, [0x07#8]) := by
  decide +kernel
example : writeBooleanTlv ⟨.universal, 1⟩ true = [0x01#8, 0x01#8, 0x01#8] := by decide +kernel
example : readBooleanTlv ⟨.universal, 1⟩ [0x01#8, 0x01#8, 0xff#8] = ok (true, []) := by decide +kernel
example : (2 : Nat) < 3 ∧ (3 : Nat) ≤ 2 ^ 64 := by decide +kernel
example : readEnumerated ⟨.universal, 10⟩ 3 (writeEnumerated ⟨.universal, 10⟩ 2) = ok (2, []) := by
  decide +kernel
example : readEnumerated ⟨.universal, 10⟩ 3 [0x0a#8, 0x01#8, 0x03#8] = err .invalidChoiceIndex := by
  decide +kernel
example : readNumbers .i64 ⟨.universal, 2⟩ 2 (writeNumbers .i64 ⟨.universal, 2⟩ [-1, 300]) =
    ok ([-1, 300], []) := by decide +kernel
-- `len as u32`: a declared length of 2^32 + 1 is read as 1 content octet (modelled as it is)
example : readNumber .i64 ⟨.universal, 2⟩
    [0x02#8, 0x85#8, 0x01#8, 0x00#8, 0x00#8, 0x00#8, 0x01#8, 0x7f#8] = ok (127, []) := by
  decide +kernel

end Asn1Verif.Props.C20
