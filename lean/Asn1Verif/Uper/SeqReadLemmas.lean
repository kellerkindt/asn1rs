import Asn1Verif.Uper.SeqLemmas
/-
  The SEQUENCE/SET part of the reader mirror (`dec`, `decFields`): what one component step does, depending
  on its presence bit, and what follows for the decoded value tree over field lists of any length.  None of
  this needs the bit-level round trip.
-/
namespace Asn1Verif.Uper
open Asn1Verif Outcome Per

theorem decFields_cons_root (k : Kind) (t : Ty) (rest : Fields) (n optIdx addIdx : Nat)
    (ctx : SeqCtx) (inp : Bits) (pos : Nat) :
    decFields (.cons k t rest) (n + 1) optIdx addIdx ctx inp pos =
      ((if k.isOptional then bitAt inp (ctx.presPos + optIdx) else ok true) >>= fun present =>
       (if present then dec t inp pos >>= fun xp => ok (k.wrap xp.1, xp.2)
        else ok (k.absent, pos)) >>= fun vp =>
       decFields rest n (if k.isOptional then optIdx + 1 else optIdx) addIdx ctx inp vp.2 >>=
         fun r => ok (.cons vp.1 r.1, r.2)) := by
  simp only [decFields, Nat.zero_lt_succ, gt_iff_lt, if_true, Nat.add_sub_cancel]

theorem decFields_cons_add_noext (k : Kind) (t : Ty) (rest : Fields) (optIdx addIdx : Nat)
    (ctx : SeqCtx) (inp : Bits) (pos : Nat) (hx : ctx.extBit = false) :
    decFields (.cons k t rest) 0 optIdx addIdx ctx inp pos =
      ((match k with
        | .m => dec t inp pos
        | k => ok (k.absent, pos)) >>= fun vp =>
       decFields rest 0 optIdx (addIdx + 1) ctx inp vp.2 >>= fun r => ok (.cons vp.1 r.1, r.2)) := by
  simp only [decFields, Nat.lt_irrefl, gt_iff_lt, if_false, hx, Bool.false_eq_true]
  rfl

theorem decFields_cons_add_ext (k : Kind) (t : Ty) (rest : Fields) (optIdx addIdx : Nat)
    (ctx : SeqCtx) (inp : Bits) (pos : Nat) (hx : ctx.extBit = true) :
    decFields (.cons k t rest) 0 optIdx addIdx ctx inp pos =
      ((match ctx.addWin with
        | some w => ok (w, pos)
        | none => readExtHeader inp pos) >>= fun wp =>
       (if addIdx < wp.1.2 then bitAt inp (wp.1.1 + addIdx) else ok false) >>= fun present =>
       (if present || !k.isOptional then
          (if k.isOptional || t.buffersOnRead then readOpen (dec t) inp wp.2 else dec t inp wp.2) >>=
            fun xp => ok (k.wrap xp.1, xp.2)
        else ok (k.absent, wp.2)) >>= fun vp =>
       decFields rest 0 optIdx (addIdx + 1) { ctx with addWin := some wp.1 } inp vp.2 >>=
         fun r => ok (.cons vp.1 r.1, r.2)) := by
  simp only [decFields, Nat.lt_irrefl, gt_iff_lt, if_false, hx, if_true]
  rfl

theorem bind_cons_ok {x : Outcome (Val × Nat)} {f : Nat → Outcome (Vals × Nat)} {vs : Vals} {p : Nat}
    (h : (x >>= fun vp => f vp.2 >>= fun r => ok (Vals.cons vp.1 r.1, r.2)) = ok (vs, p)) :
    ∃ v q vs', x = ok (v, q) ∧ f q = ok (vs', p) ∧ vs = .cons v vs' := by
  obtain ⟨⟨v, q⟩, hx, h⟩ := bind_eq_ok.1 h
  obtain ⟨⟨vs', p'⟩, hf, h⟩ := bind_eq_ok.1 h
  cases h
  exact ⟨v, q, vs', hx, hf, rfl⟩

theorem bitAt_eq {inp : Bits} {p : Nat} {b : Bool} (h : inp[p]? = some b) : bitAt inp p = ok b := by
  simp [bitAt, h]

theorem addBit_absent {inp : Bits} {win nRead addIdx : Nat}
    (hb : nRead ≤ addIdx ∨ inp[win + addIdx]? = some false) :
    (if addIdx < nRead then bitAt inp (win + addIdx) else ok false) = ok false := by
  rcases hb with hb | hb
  · rw [if_neg (by omega)]
  · rw [bitAt_eq hb, ite_self]

theorem optCount_shift (k : Kind) (t : Ty) (rest : Fields) (optIdx i : Nat) :
    optIdx + (Fields.cons k t rest).optCount (i + 1) =
      (if k.isOptional then optIdx + 1 else optIdx) + rest.optCount i := by
  simp only [Fields.optCount]
  split <;> omega

/-- an OPTIONAL/DEFAULT component `i` comes out absent (`none`, resp. the default value) when it is a root
    component whose presence bit (number `optCount i`) is `0`, or an addition and the extension bit is `0`
    or its bit in the bitmap window is `0` or not announced -/
theorem decFields_absent : ∀ (fields : Fields) (rl optIdx addIdx : Nat) (ctx : SeqCtx) (inp : Bits)
    (pos : Nat) (vs : Vals) (p : Nat), decFields fields rl optIdx addIdx ctx inp pos = ok (vs, p) →
    ∀ (i : Nat) (k : Kind) (t : Ty), fields.get? i = some (k, t) → k.isOptional = true →
    (if i < rl then inp[ctx.presPos + optIdx + fields.optCount i]? = some false
     else ctx.extBit = false ∨ ∃ win nRead, ctx.addWin = some (win, nRead) ∧
       (nRead ≤ addIdx + (i - rl) ∨ inp[win + (addIdx + (i - rl))]? = some false)) →
    vs.get? i = some k.absent
  | .nil => fun _ _ _ _ _ _ _ _ _ _ _ _ hg => nomatch hg
  | .cons k0 t0 rest => fun rl optIdx addIdx ctx inp pos vs p h i k t hg hk hb => by
    cases rl with
    | succ n =>
      rw [decFields_cons_root] at h
      obtain ⟨present, hpres, h⟩ := bind_eq_ok.1 h
      obtain ⟨v, q, vs', hv, hr, rfl⟩ := bind_cons_ok h
      cases i with
      | zero =>
        cases hg
        have hb : inp[ctx.presPos + optIdx]? = some false := hb
        rw [if_pos hk, bitAt_eq hb] at hpres
        cases hpres
        cases hv
        rfl
      | succ i =>
        refine decFields_absent rest _ _ _ _ _ _ _ _ hr i k t hg hk ?_
        rw [Nat.add_assoc, optCount_shift, ← Nat.add_assoc] at hb
        simpa only [Nat.add_lt_add_iff_right, Nat.add_sub_add_right] using hb
    | zero =>
      rw [if_neg (Nat.not_lt_zero i), Nat.sub_zero] at hb
      cases hx : ctx.extBit with
      | false =>
        rw [decFields_cons_add_noext _ _ _ _ _ _ _ _ hx] at h
        obtain ⟨v, q, vs', hv, hr, rfl⟩ := bind_cons_ok h
        cases i with
        | zero =>
          cases hg
          cases k0 <;> cases hk <;> cases hv <;> rfl
        | succ i => exact decFields_absent rest _ _ _ _ _ _ _ _ hr i k t hg hk (Or.inl hx)
      | true =>
        obtain ⟨win, nRead, hw, hb⟩ := hb.resolve_left (by simp [hx])
        rw [decFields_cons_add_ext _ _ _ _ _ _ _ _ hx, hw] at h
        simp only [bind_ok] at h
        obtain ⟨present, hpres, h⟩ := bind_eq_ok.1 h
        obtain ⟨v, q, vs', hv, hr, rfl⟩ := bind_cons_ok h
        cases i with
        | zero =>
          cases hg
          rw [addBit_absent (addIdx := addIdx) hb] at hpres
          cases hpres
          simp only [hk, Bool.not_true, Bool.or_self, Bool.false_eq_true, if_false] at hv
          cases hv
          rfl
        | succ i =>
          refine decFields_absent rest _ _ _ _ _ _ _ _ hr i k t hg hk (Or.inr ⟨win, nRead, rfl, ?_⟩)
          rwa [Nat.sub_zero, Nat.add_assoc, Nat.add_comm 1 i]

theorem liftL1_rdBit (inp : Bits) (pos : Nat) :
    liftL1 rdBit inp pos =
      match inp[pos]? with
      | some b => ok (b, pos + 1)
      | none => err .endOfStream := by
  unfold liftL1
  by_cases h : pos < inp.length
  · rw [List.drop_eq_getElem_cons h, List.getElem?_eq_getElem h]
    simp only [rdBit, List.length_drop, ok.injEq, Prod.mk.injEq, true_and]
    omega
  · rw [List.drop_eq_nil_of_le (by omega), List.getElem?_eq_none (by omega)]
    rfl

theorem dec_seq (so fc : Nat) (ea : Option Nat) (fields : Fields) (inp : Bits) (pos : Nat) :
    dec (.seq so fc ea fields) inp pos =
      ((match ea with
        | some _ => liftL1 rdBit inp pos
        | none => ok (false, pos)) >>= fun xp =>
       if inp.length - xp.2 < fields.optCount (rootCountOf ea fields) then err .endOfStream
       else
         decFields fields (rootCountOf ea fields) 0 0
           { presPos := xp.2, extBit := xp.1, nLocal := fields.length - rootCountOf ea fields }
           inp (xp.2 + fields.optCount (rootCountOf ea fields)) >>= fun r => ok (.seq r.1, r.2)) := by
  simp only [dec]
  rfl

theorem dec_seq_ok {so fc : Nat} {ea : Option Nat} {fields : Fields} {inp : Bits} {pos : Nat}
    {val : Val} {p : Nat} (h : dec (.seq so fc ea fields) inp pos = ok (val, p)) :
    ∃ vs x, val = .seq vs ∧ (if ea.isSome then inp[pos]? = some x else x = false) ∧
      decFields fields (rootCountOf ea fields) 0 0
        { presPos := pos + (if ea.isSome then 1 else 0), extBit := x,
          nLocal := fields.length - rootCountOf ea fields }
        inp (pos + (if ea.isSome then 1 else 0) + fields.optCount (rootCountOf ea fields)) =
        ok (vs, p) := by
  rw [dec_seq] at h
  obtain ⟨⟨x, q⟩, hxp, h⟩ := bind_eq_ok.1 h
  split at h
  · cases h
  · obtain ⟨⟨vs, p'⟩, hr, h⟩ := bind_eq_ok.1 h
    cases h
    refine ⟨vs, x, rfl, ?_⟩
    cases ea with
    | none => cases hxp; exact ⟨rfl, hr⟩
    | some k0 =>
      simp only [liftL1_rdBit] at hxp
      split at hxp
      · cases hxp; exact ⟨‹_›, hr⟩
      · cases hxp

theorem skipUnknown_done (win nRead idx : Nat) (inp : Bits) (pos : Nat) (h : nRead ≤ idx) :
    skipUnknown win nRead idx inp pos = ok ((), pos) := by
  rw [skipUnknown, dif_neg (by omega)]

end Asn1Verif.Uper
