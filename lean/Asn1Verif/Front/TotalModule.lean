import Asn1Verif.Front.TotalType
/-
  Totality (see TotalBase) at module level (`read_oid`, `read_imports`, `read_definition`,
  `read_value_reference`, the body loop of `Model::try_from`), and the top-level theorems: with the
  budget `tokens.length + 1` that `parseModule` supplies the pseudo error `fuel` is unreachable, and
  every larger budget gives the same answer.
-/
namespace Asn1Verif.Front.Syn
open Except

theorem oidLoop_post₂ (fuel : Nat) (ts : List Token) (h : ts.length < fuel) :
    Post₂ (oidLoop (fuel + 1) ts) (oidLoop fuel ts) (fun (_, r) => r.length ≤ ts.length) := by
  induction fuel generalizing ts with
  | zero => omega
  | succ fuel ih =>
    cases ts with
    | nil => exact .ok (Nat.le_refl _)
    | cons t ts =>
      -- every recursive call is made on `ts` or on what is left of it
      have ih' : ∀ ts' : List Token, ts'.length ≤ ts.length →
          Post₂ (oidLoop (fuel + 1) ts') (oidLoop fuel ts')
            (fun (_, r) => r.length ≤ ts.length + 1) :=
        fun ts' h' => (ih ts' (Nat.lt_of_le_of_lt h' (Nat.lt_of_succ_lt_succ h))).mono
          fun ⟨_, r⟩ hr => by omega
      unfold oidLoop
      refine .ite (.ok (Nat.le_succ _)) ?_
      split
      · exact .error
      refine .ite ?_ ?_
      · split
        · exact .error
        · exact (ih' ts (Nat.le_refl _)).bind₂ fun _ _ h1 => .pure h1
      · refine nextIsSep_cases '(' ts (fun ts0 h0 => ?_)
          ((ih' ts (Nat.le_refl _)).bind₂ fun _ _ h1 => .pure h1)
        refine (nextTextOrErr_post ts0).same.bind fun r h1 => ?_
        split
        split
        · exact .error
        · refine (nextSepEq_post ')' _).same.bind fun ts3 h3 => ?_
          exact (ih' ts3 (by omega)).bind₂ fun _ _ h4 => .pure h4

theorem maybeReadOid_post₂ (fuel : Nat) (ts : List Token) (h : ts.length ≤ fuel) :
    Post₂ (maybeReadOid (fuel + 1) ts) (maybeReadOid fuel ts)
      (fun (_, r) => r.length ≤ ts.length) := by
  unfold maybeReadOid
  refine nextIsSep_cases '{' ts (fun ts1 h1 => ?_) (.ok (Nat.le_refl _))
  exact (oidLoop_post₂ fuel ts1 (by omega)).bind₂ fun _ ts2 h2 => .pure (by omega)

theorem skipUntilAfter_post (kw : String) (ts : List Token) :
    Post (skipUntilAfter kw ts) (fun r => r.length < ts.length) := by
  induction ts with
  | nil => exact .error
  | cons t r ih =>
    unfold skipUntilAfter
    exact .ite (.ok (Nat.lt_succ_self _)) (ih.mono fun _ hx => Nat.lt_succ_of_lt hx)

theorem importsLoop_post₂ (fuel : Nat) (what : List String) (ts : List Token)
    (h : ts.length < fuel) :
    Post₂ (importsLoop (fuel + 1) what ts) (importsLoop fuel what ts)
      (fun (_, r) => r.length ≤ ts.length) := by
  induction fuel generalizing what ts with
  | zero => omega
  | succ fuel ih =>
    cases ts with
    | nil => exact .error
    | cons t ts =>
      have hfuel : ts.length < fuel := Nat.lt_of_succ_lt_succ h
      have ih' : ∀ what (ts' : List Token), ts'.length ≤ ts.length →
          Post₂ (importsLoop (fuel + 1) what ts') (importsLoop fuel what ts')
            (fun (_, r) => r.length ≤ ts.length + 1) :=
        fun what ts' h' => (ih what ts' (by omega)).mono fun ⟨_, r⟩ hr => by omega
      unfold importsLoop
      refine .ite (.ok (Nat.le_succ _)) ?_
      split
      · exact .error
      refine (nextOrErr_post ts).same.bind₂ fun _ ts1 h1 =>
        .ite (ih' _ ts1 (by omega)) (.ite ?_ (ih' _ ts1 (by omega)))
      refine (nextTextOrErr_post ts1).same.bind₂ fun frm ts2 h2 => ?_
      refine (maybeReadOid_post₂ fuel ts2 (by omega)).bind₂ fun oid ts3 h3 => ?_
      exact (ih' [] ts3 (by omega)).bind₂ fun _ _ h4 => .pure h4

theorem readDefinition_post₂ (fuel : Nat) (name : String) (ts : List Token) (h : ts.length ≤ fuel) :
    Post₂ (readDefinition (fuel + 1) name ts) (readDefinition fuel name ts)
      (fun (_, r) => r.length ≤ ts.length) := by
  unfold readDefinition
  refine (nextSepEq_post ':' ts).same.bind fun ts1 h1 => ?_
  refine (nextSepEq_post ':' ts1).same.bind fun ts2 h2 => ?_
  refine (nextSepEq_post '=' ts2).same.bind fun ts3 h3 => ?_
  refine (nextWithOptTag_post ts3).same.bind₂ fun tt ts4 h4 => ?_
  obtain ⟨t, tag⟩ := tt
  cases t with
  | sep c => exact .error
  | text text =>
    exact (parseRoleGiven_post₂ fuel text ts4 (by omega)).bind₂ fun _ ts5 h5 =>
      .pure (by omega)

theorem readValueReference_post₂ (fuel : Nat) (name : String) (ts : List Token)
    (h : ts.length ≤ fuel) :
    Post₂ (readValueReference (fuel + 1) name ts) (readValueReference fuel name ts)
      (fun (_, r) => r.length ≤ ts.length) := by
  unfold readValueReference
  refine (parseRole_post₂ fuel ts h).bind₂ fun ty ts1 h1 => Post.same ?_
  refine (nextSepEq_post ':' ts1).bind fun ts2 h2 => ?_
  refine (nextSepEq_post ':' ts2).bind fun ts3 h3 => ?_
  refine (nextSepEq_post '=' ts3).bind fun ts4 h4 => ?_
  refine (readLiteral_post ts4).bind₂ fun l ts5 h5 => ?_
  cases l with
  | lit v => exact .pure (by omega)
  | unsupportedText => exact .error

theorem bodyLoop_post₂ (fuel : Nat) (ts : List Token) (h : ts.length < fuel) :
    Post₂ (bodyLoop (fuel + 1) ts) (bodyLoop fuel ts) (fun _ => True) := by
  induction fuel generalizing ts with
  | zero => omega
  | succ fuel ih =>
    cases ts with
    | nil => exact .error
    | cons t ts =>
      have hfuel : ts.length < fuel := Nat.lt_of_succ_lt_succ h
      have rest : ∀ ts' : List Token, ts'.length ≤ ts.length → ∀ k : Body → Body,
          Post₂ (bodyLoop (fuel + 1) ts' >>= fun b => pure (k b))
            (bodyLoop fuel ts' >>= fun b => pure (k b)) (fun _ => True) :=
        fun ts' h' k => (ih ts' (by omega)).bind fun _ _ => .pure trivial
      unfold bodyLoop
      refine .ite (.ok trivial) (.ite ?_ (.ite ?_ ?_))
      · exact (importsLoop_post₂ fuel [] ts hfuel).bind₂ fun _ ts1 h1 => rest ts1 h1 _
      · split
        · exact .error
        · exact (readDefinition_post₂ fuel _ ts (by omega)).bind₂ fun _ ts1 h1 => rest ts1 h1 _
      · split
        · exact .error
        · exact (readValueReference_post₂ fuel _ ts (by omega)).bind₂ fun _ ts1 h1 => rest ts1 h1 _

theorem parseModuleFuel_post₂ (fuel : Nat) (ts : List Token) (h : ts.length < fuel) :
    Post₂ (parseModuleFuel (fuel + 1) ts) (parseModuleFuel fuel ts) (fun _ => True) := by
  unfold parseModuleFuel
  refine Post₂.bind₂ (P := fun (_, r) => r.length < ts.length) (Post.same ?_) fun name ts1 h1 => ?_
  · split
    · exact .pure (Nat.lt_succ_self _)
    · exact .error
  refine (maybeReadOid_post₂ fuel ts1 (by omega)).bind₂ fun oid ts2 h2 => ?_
  refine (skipUntilAfter_post "BEGIN" ts2).same.bind fun ts3 h3 => ?_
  exact (bodyLoop_post₂ fuel ts3 (by omega)).bind fun _ _ => .pure trivial

/-- the parser terminates on every token list -/
theorem parseModule_ne_fuel (ts : List Token) : parseModule ts ≠ .error .fuel :=
  (parseModuleFuel_post₂ (ts.length + 1) ts (Nat.lt_succ_self _)).post.ne_fuel

/-- the recursion budget is a device of the mirror, not an observable of the parser -/
theorem parseModuleFuel_eq_parseModule (fuel : Nat) (ts : List Token) (h : ts.length < fuel) :
    parseModuleFuel fuel ts = parseModule ts := by
  induction fuel with
  | zero => omega
  | succ fuel ih =>
    rcases Nat.lt_succ_iff_lt_or_eq.mp h with hf | hf
    · rw [(parseModuleFuel_post₂ fuel ts hf).1, ih hf]
    · rw [parseModule, hf]

end Asn1Verif.Front.Syn
