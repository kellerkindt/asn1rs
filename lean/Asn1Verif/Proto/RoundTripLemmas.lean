import Asn1Verif.Proto.ReaderLemmas
/-
  Round trip of the protobuf mirror (C17): what the reader makes of the octets the writer produced.
  `Matches` / `AllMatch` tie the entries of the reader's index to the items the writer emitted.  A
  type written as one field reads its value back from that field (`ReadsOne`); from that, a component
  reads back from the entries it wrote at the head of the index (`ReadsBack`), and a message from
  its whole index (`ReadsFields`).  Each is proved per constructor from the others at the parts of
  the type; the `reads*_all` close the mutual recursion.
-/
namespace Asn1Verif.Proto
open Asn1Verif Outcome
open Asn1Verif.Uper (Ty Val Vals Fields Kind utf8Decode castInt)

/-- what the wire format can carry -/
def Item.WF : Item → Prop
  | .varint n v => n < 2 ^ 29 ∧ v < 2 ^ 64
  | .bytes n p => n < 2 ^ 29 ∧ p.length < 2 ^ 64

def Matches (src : List Byte) (e : Entry) (it : Item) : Prop :=
  e.tag = it.num ∧ e.fmt = it.fmt ∧ sliceOf src e.start e.stop = ok it.payload

inductive AllMatch (src : List Byte) : List Entry → List Item → Prop where
  | nil : AllMatch src [] []
  | cons {e : Entry} {it : Item} {es : List Entry} {l : List Item} :
      Matches src e it → AllMatch src es l → AllMatch src (e :: es) (it :: l)

theorem sliceOf_split {src : List Byte} {a b : Nat} {p : List Byte} (h : sliceOf src a b = ok p) :
    src.drop a = p ++ src.drop b ∧ b = a + p.length ∧ b ≤ src.length := by
  obtain ⟨hl, hab, hb⟩ := sliceOf_length h
  rw [sliceOf_inb ⟨hab, hb⟩] at h
  cases h
  have hd : src.drop b = (src.drop a).drop (b - a) := by rw [List.drop_drop]; congr 1; omega
  exact ⟨by rw [hd, List.take_append_drop], by omega, hb⟩

theorem sliceOf_of_drop {src : List Byte} {a : Nat} {p post : List Byte} (ha : a ≤ src.length)
    (h : src.drop a = p ++ post) : sliceOf src a (a + p.length) = ok p := by
  have hl : (src.drop a).length = p.length + post.length := by rw [h, List.length_append]
  rw [List.length_drop] at hl
  rw [sliceOf_inb ⟨Nat.le_add_right _ _, by omega⟩, Nat.add_sub_cancel_left, h, List.take_left]

theorem sliceOf_drop_left {src : List Byte} {a b : Nat} {x y : List Byte} (h : sliceOf src a b = ok (x ++ y)) :
    sliceOf src (a + x.length) b = ok y := by
  obtain ⟨hd, hb, hle⟩ := sliceOf_split h
  rw [List.length_append] at hb
  rw [hb, ← Nat.add_assoc]
  apply sliceOf_of_drop (post := src.drop b) (by omega)
  rw [← List.drop_drop, hd, List.append_assoc, List.drop_left]

theorem sliceOf_take_left {src : List Byte} {a b : Nat} {x y : List Byte} (h : sliceOf src a b = ok (x ++ y)) :
    sliceOf src a (a + x.length) = ok x := by
  obtain ⟨hd, hb, hle⟩ := sliceOf_split h
  rw [List.length_append] at hb
  exact sliceOf_of_drop (by omega) ((List.append_assoc _ _ _).symm.trans hd.symm).symm

def Item.lenPrefix : Item → List Byte
  | .varint _ _ => []
  | .bytes _ p => writeVarint p.length

theorem Item.encode_eq (it : Item) : it.encode = writeTag it.num it.fmt ++ (it.lenPrefix ++ it.payload) := by
  cases it <;> rfl

theorem Item.encode_ne_nil (it : Item) : it.encode ≠ [] := by
  rw [Item.encode_eq]
  exact fun h => writeVarint_ne_nil _ (List.append_eq_nil_iff.1 h).1

theorem Item.WF.num_lt {it : Item} (h : it.WF) : it.num < 2 ^ 29 := by
  cases it <;> exact h.1

theorem contentOffLen_item {it : Item} (h : it.WF) (post : List Byte) :
    contentOffLen (it.lenPrefix ++ (it.payload ++ post)) it.fmt = ok (it.lenPrefix.length, it.payload.length) := by
  cases it with
  | varint n v => exact contentOffLen_varint v post h.2
  | bytes n p => rw [← List.append_assoc]; exact contentOffLen_writeBytes p post h.2

theorem contentEndOf_ok (fx : Option Fix) {cp len stop : Nat} (h : cp + len ≤ stop) (hs : stop ≤ U64_MAX) :
    contentEndOf fx cp len stop = ok (cp + len) := by
  cases fx with
  | none => exact if_pos (Nat.le_trans h hs)
  | some f => exact if_pos h

/-- one round of `index_enclosed` over a written field -/
theorem indexLoop_step (fx : Option Fix) {src : List Byte} (hlen : src.length ≤ U64_MAX) {it : Item}
    (hwf : it.WF) {pos stop : Nat} {tail : List Byte} (hs : sliceOf src pos stop = ok (it.encode ++ tail))
    (fuel : Nat) (acc : List Entry) :
    ∃ e, Matches src e it ∧
      indexLoop fx src stop (fuel + 1) pos acc = indexLoop fx src stop fuel (pos + it.encode.length) (acc ++ [e]) := by
  obtain ⟨_, hstop, hle⟩ := sliceOf_split hs
  have hel : it.encode.length = (writeTag it.num it.fmt).length + it.lenPrefix.length + it.payload.length := by
    rw [Item.encode_eq, List.length_append, List.length_append, Nat.add_assoc]
  have htag : 0 < (writeTag it.num it.fmt).length := writeVarint_length_pos _
  rw [List.length_append] at hstop
  rw [Item.encode_eq, List.append_assoc, List.append_assoc] at hs
  -- the content lies behind tag and length prefix
  have hpay := sliceOf_take_left (sliceOf_drop_left (x := writeTag it.num it.fmt ++ it.lenPrefix)
    ((List.append_assoc _ _ _).symm ▸ hs))
  rw [List.length_append, ← Nat.add_assoc] at hpay
  refine ⟨⟨it.num, it.fmt, _, _⟩, ⟨rfl, rfl, hpay⟩, ?_⟩
  rw [indexLoop, if_pos (by omega), hs]
  simp only [bind_ok, readTag_writeTag hwf.num_lt, contentOffLen_item hwf, List.length_append,
    Nat.add_sub_cancel]
  rw [contentEndOf_ok fx (by omega) (by omega), hel, Nat.add_assoc pos, Nat.add_assoc pos]
  rfl

theorem indexLoop_items (fx : Option Fix) {src : List Byte} (hlen : src.length ≤ U64_MAX) :
    ∀ (l : List Item) (pos stop fuel : Nat) (acc : List Entry),
    sliceOf src pos stop = ok (itemsBytes l) → (∀ it ∈ l, it.WF) → l.length < fuel →
    ∃ es, indexLoop fx src stop fuel pos acc = ok (acc ++ es) ∧ AllMatch src es l
  | [], pos, stop, fuel + 1, acc, hs, _, _ => by
    obtain ⟨_, hstop, _⟩ := sliceOf_split hs
    refine ⟨[], ?_, AllMatch.nil⟩
    rw [indexLoop, if_neg (by rw [hstop]; exact Nat.lt_irrefl _), List.append_nil]
  | it :: r, pos, stop, fuel + 1, acc, hs, hwf, hfuel => by
    obtain ⟨e, hm, hstep⟩ := indexLoop_step fx hlen (hwf it List.mem_cons_self) hs fuel acc
    obtain ⟨es, he, hms⟩ := indexLoop_items fx hlen r (pos + it.encode.length) stop fuel (acc ++ [e])
      (sliceOf_drop_left hs) (fun x hx => hwf x (List.mem_cons_of_mem _ hx)) (Nat.lt_of_succ_lt_succ hfuel)
    exact ⟨e :: es, by rw [hstep, he, List.append_assoc]; rfl, AllMatch.cons hm hms⟩

/-- the value lies in the range of the integer encoding the writer selects -/
def intFits (c : IntClass) (i : Int) : Bool :=
  match c with
  | .u32 => decide (0 ≤ i) && decide (i < 2 ^ 32)
  | .u64 => decide (I64_MIN ≤ i) && decide (i ≤ I64_MAX)
  | .s32 => decide (-(2 ^ 31) ≤ i) && decide (i < 2 ^ 31)
  | .s64 => decide (I64_MIN ≤ i) && decide (i ≤ I64_MAX)

theorem varintToInt_intToVarint (c : IntClass) (i : Int) (h : intFits c i = true) :
    varintToInt c (intToVarint c i) = i := by
  cases c with
  | u32 =>
    simp only [intFits, Bool.and_eq_true, decide_eq_true_eq] at h
    simp only [varintToInt, intToVarint]
    rw [Int.emod_eq_of_lt h.1 h.2, Nat.mod_eq_of_lt (by omega), Int.toNat_of_nonneg h.1]
  | u64 =>
    simp only [intFits, Bool.and_eq_true, decide_eq_true_eq] at h
    simp only [I64_MIN, I64_MAX] at h
    have hn : intToVarint .u64 i = (i % 2 ^ 64).toNat := rfl
    rw [hn]
    simp only [varintToInt, u64AsI64]
    by_cases hlt : (i % 2 ^ 64).toNat % 2 ^ 64 < 2 ^ 63
    · rw [if_pos hlt]; omega
    · rw [if_neg hlt]; omega
  | s32 =>
    simp only [intFits, Bool.and_eq_true, decide_eq_true_eq] at h
    simp only [varintToInt, intToVarint, varintToSint32_sint32ToVarint, BitVec.toInt_ofInt]
    exact Int.bmod_eq_of_le (by omega) (by omega)
  | s64 =>
    simp only [intFits, Bool.and_eq_true, decide_eq_true_eq] at h
    simp only [I64_MIN, I64_MAX] at h
    simp only [varintToInt, intToVarint, varintToSint64_sint64ToVarint, BitVec.toInt_ofInt]
    exact Int.bmod_eq_of_le (by omega) (by omega)

mutual
theorem Val.beq_refl : ∀ v : Val, Val.beq v v = true
  | .bool _ | .null | .int _ | .enum _ | .str _ | .oct _ | .bits _ | .none => by simp [Val.beq]
  | .list vs | .seq vs => by simp [Val.beq, Vals.beq_refl vs]
  | .choice _ v | .some v => by simp [Val.beq, Val.beq_refl v]
theorem Vals.beq_refl : ∀ vs : Vals, Vals.beq vs vs = true
  | .nil => by simp [Vals.beq]
  | .cons v vs => by simp [Vals.beq, Val.beq_refl v, Vals.beq_refl vs]
end

theorem Val.eq_self (v : Val) : (v == v) = true := Val.beq_refl v

def allWith (f : Val → Bool) : Vals → Bool
  | .nil => true
  | .cons v vs => f v && allWith f vs

mutual
/-- the decidable region in which the round trip is proved (see `Props/C17.lean`) -/
def rtOK : Ty → Val → Bool
  | .int min max ext _ _, v =>
    match v with
    | .int i => intFits (intClass min max ext) i
    | _ => true
  | .enum _ _ _, v =>
    match v with
    | .enum i => decide (i < 2 ^ 32)
    | _ => true
  | .bits _ _ _, v =>
    match v with
    | .bits bs => decide (bs.length < 2 ^ 64)
    | _ => true
  | .seqOf _ _ _ elem, v =>
    Ty.single elem &&
    match v with
    | .list vs => allWith (fun x => rtOK elem x) vs
    | _ => true
  | .seq _ _ _ fields, v =>
    decide (fields.length < 2 ^ 29) && Fields.noOptNull fields &&
    match v with
    | .seq vs => rtOKFields fields vs
    | _ => true
  | .choice _ _ _ alts, v =>
    match v with
    | .choice i x => decide (i + 1 < 2 ^ 29) && rtOKAlt alts i x
    | _ => true
  | .bool, _ => true
  | .null, _ => true
  | .str _ _ _ _, _ => true
  | .oct _ _ _, _ => true
def rtOKAlt : Fields → Nat → Val → Bool
  | .nil, _, _ => true
  | .cons _ t _, 0, x => Ty.single t && rtOK t x
  | .cons _ _ rest, i + 1, x => rtOKAlt rest i x
def rtOKFields : Fields → Vals → Bool
  | .cons k t rest, vs =>
    match vs with
    | .cons v vs =>
      (match k, v with
       | .o, .some x => rtOK t x
       | .o, _ => true
       | _, v => rtOK t v) && rtOKFields rest vs
    | .nil => true
  | .nil, _ => true
end

variable (fx : Option Fix) (src : List Byte)

/-- the field's content is found through an index entry (whatever its number, as long as the reader
    expects that number) or handed over as the range of a list element -/
def ReadsOne (t : Ty) : Prop :=
  ∀ (v : Val) (c : Nat) (l : List Item) (c' : Nat), rtOK t v = true → encI t v c = ok (l, c') →
  ∃ it, l = [it] ∧ c' = c + 1 ∧ it.num = c + 1 ∧
    ∀ s e, sliceOf src s e = ok it.payload →
      ∃ v', Val.protoEq t v v' = true ∧
        (∀ n rest, dec fx src t (.enclosed n (⟨n, it.fmt, s, e⟩ :: rest)) = ok (v', .enclosed (n + 1) rest)) ∧
        dec fx src t (.root s e) = ok (v', .root s e)

def ReadsBack (t : Ty) : Prop :=
  ∀ (v : Val) (c : Nat) (l : List Item) (c' : Nat), rtOK t v = true → encI t v c = ok (l, c') →
  ∀ (es rest : List Entry), AllMatch src es l → (∀ e ∈ rest, c' + 1 ≤ e.tag) →
  ∃ v', dec fx src t (.enclosed (c + 1) (es ++ rest)) = ok (v', .enclosed (c' + 1) rest) ∧
    Val.protoEq t v v' = true

def ReadsFields (fs : Fields) : Prop :=
  ∀ (vs : Vals) (c : Nat) (ls : List (List Item)) (c' : Nat), rtOKFields fs vs = true →
  Fields.noOptNull fs = true → encFieldsI fs vs c = ok (ls, c') →
  ∀ (es : List Entry), AllMatch src es ls.flatten →
  ∃ vs', decFields fx src fs (.enclosed (c + 1) es) = ok (vs', .enclosed (c' + 1) []) ∧
    Vals.protoEq fs vs vs' = true

variable {fx} {src}

/-- the state hands out `s..e` next, as the leading index entry under the expected number or as the
    range of a list element, and goes on as `st'` -/
inductive Next (f : Fmt) (s e : Nat) : RState → RState → Prop where
  | head (n : Nat) (rest : List Entry) : Next f s e (.enclosed n (⟨n, f, s, e⟩ :: rest)) (.enclosed (n + 1) rest)
  | root : Next f s e (.root s e) (.root s e)

theorem nextTagRange_next {f : Fmt} {s e : Nat} {st st' : RState} (h : Next f s e st st')
    {filter : Option Fmt} (hf : filter = none ∨ filter = some f) :
    nextTagRange true filter st = (some (s, e), st') := by
  cases h with
  | head n rest => simp only [nextTagRange, findEntry, hf, and_self, if_true]
  | root => rfl

theorem nextReader_next {f : Fmt} {s e : Nat} {st st' : RState} (h : Next f s e st st') {p : List Byte}
    (hs : sliceOf src s e = ok p) : nextReader src f st = ok (p, st') := by
  simp only [nextReader, nextTagRange_next h (Or.inr rfl), Option.getD, hs, bind_ok]

/-- `Next` covers the two conjuncts `ReadsOne` spells out -/
theorem readsOne_intro {t : Ty}
    (h : ∀ (v : Val) (c : Nat) (l : List Item) (c' : Nat), rtOK t v = true → encI t v c = ok (l, c') →
      ∃ it, l = [it] ∧ c' = c + 1 ∧ it.num = c + 1 ∧
        ∀ s e, sliceOf src s e = ok it.payload →
          ∃ v', Val.protoEq t v v' = true ∧
            ∀ st st', Next it.fmt s e st st' → dec fx src t st = ok (v', st')) : ReadsOne fx src t := by
  intro v c l c' hok henc
  obtain ⟨it, h1, h2, h3, h4⟩ := h v c l c' hok henc
  refine ⟨it, h1, h2, h3, fun s e hs => ?_⟩
  obtain ⟨v', hp, hd⟩ := h4 s e hs
  exact ⟨v', hp, fun n rest => hd _ _ (.head n rest), hd _ _ .root⟩

theorem isEmpty_writeVarint (n : Nat) : (writeVarint n).isEmpty = false :=
  List.isEmpty_eq_false_iff.2 (writeVarint_ne_nil n)

theorem readVarint_writeVarint_nil (n : Nat) (h : n < 2 ^ 64) : readVarint (writeVarint n) = ok (n, []) := by
  simpa using readVarint_writeVarint n h []

theorem readsOne_bool : ReadsOne fx src .bool := by
  refine readsOne_intro fun v c l c' hok henc => ?_
  simp only [encI] at henc
  split at henc
  · rename_i b
    cases henc
    refine ⟨_, rfl, rfl, rfl, fun s e (hs : sliceOf src s e = ok (writeVarint _)) =>
      ⟨.bool b, Val.eq_self _, fun st st' (hn : Next .varint s e st st') => ?_⟩⟩
    have hb : readBool (writeVarint (if b then 1 else 0)) = ok (b, []) := by
      simpa [writeBool] using readBool_writeBool b []
    simp only [dec, nextReader_next hn hs, bind_ok, isEmpty_writeVarint, hb]
    rfl
  · cases henc

theorem readsOne_int {mn mx : Option Int} {e : Bool} {w : Nat} {sg : Bool} :
    ReadsOne fx src (.int mn mx e w sg) := by
  refine readsOne_intro fun v c l c' hok henc => ?_
  simp only [encI] at henc
  split at henc
  · rename_i i
    split at henc
    · cases henc
    · rename_i hcast
      cases henc
      refine ⟨_, rfl, rfl, rfl, fun s e' (hs : sliceOf src s e' = ok (writeVarint _)) =>
        ⟨.int i, Val.eq_self _, fun st st' (hn : Next .varint s e' st st') => ?_⟩⟩
      simp only [dec, nextReader_next hn hs, bind_ok, isEmpty_writeVarint,
        readVarint_writeVarint_nil _ (intToVarint_lt _ _), varintToInt_intToVarint _ _ hok, Decidable.not_not.1 hcast]
      rfl
  · cases henc

theorem readsOne_enum {sd tot : Nat} {e : Bool} : ReadsOne fx src (.enum sd tot e) := by
  refine readsOne_intro fun v c l c' hok henc => ?_
  simp only [encI] at henc
  split at henc
  · rename_i i
    split at henc
    · rename_i hlt
      cases henc
      have hi : i < 2 ^ 32 := of_decide_eq_true hok
      refine ⟨_, rfl, rfl, rfl, fun s e' (hs : sliceOf src s e' = ok (writeVarint (i % 2 ^ 32))) =>
        ⟨.enum i, Val.eq_self _, fun st st' (hn : Next .varint s e' st st') => ?_⟩⟩
      rw [Nat.mod_eq_of_lt hi] at hs
      simp only [dec, nextTagRange_next hn (Or.inr rfl), hs, bind_ok, readVarint_writeVarint_nil i (by omega),
        hlt, if_true]
    · cases henc
  · cases henc

theorem readsOne_str {cs : Uper.Charset} {mn mx : Option Nat} {e : Bool} : ReadsOne fx src (.str cs mn mx e) := by
  refine readsOne_intro fun v c l c' hok henc => ?_
  simp only [encI] at henc
  split at henc
  · rename_i b
    split at henc
    · rename_i hu
      cases henc
      refine ⟨_, rfl, rfl, rfl, fun s e' (hs : sliceOf src s e' = ok b) =>
        ⟨.str b, Val.eq_self _, fun st st' (hn : Next .lenDelim s e' st st') => ?_⟩⟩
      simp only [dec, nextReader_next hn hs, bind_ok, hu]
    · cases henc
  · cases henc

theorem readsOne_oct {mn mx : Option Nat} {e : Bool} : ReadsOne fx src (.oct mn mx e) := by
  refine readsOne_intro fun v c l c' hok henc => ?_
  simp only [encI] at henc
  split at henc
  · rename_i b
    cases henc
    refine ⟨_, rfl, rfl, rfl, fun s e' (hs : sliceOf src s e' = ok b) =>
      ⟨.oct b, Val.eq_self _, fun st st' (hn : Next .lenDelim s e' st st') => ?_⟩⟩
    simp only [dec, nextReader_next hn hs, bind_ok]
  · cases henc

theorem bitsVal_pack (bs : List Bool) (h : bs.length < 2 ^ 64) :
    let r := packBits bs ++ be64 bs.length
    ¬ (r.length < 8) ∧
    bitsVal (r.take (r.length - 8)) (beToNat (r.drop (r.length - 8))) = .bits bs := by
  intro r
  have hl : r.length = (packBits bs).length + 8 := List.length_append
  obtain ⟨p1, p2⟩ := packBits_spec bs
  refine ⟨by omega, ?_⟩
  rw [hl, Nat.add_sub_cancel, List.take_left, List.drop_left, beToNat_be64 _ h, bitsVal, if_pos p2, p1]

theorem readsOne_bits {mn mx : Option Nat} {e : Bool} : ReadsOne fx src (.bits mn mx e) := by
  refine readsOne_intro fun v c l c' hok henc => ?_
  simp only [encI] at henc
  split at henc
  · rename_i bs
    cases henc
    obtain ⟨hb1, hb2⟩ := bitsVal_pack bs (of_decide_eq_true hok)
    refine ⟨_, rfl, rfl, rfl, fun s e' (hs : sliceOf src s e' = ok (packBits bs ++ be64 bs.length)) =>
      ⟨.bits bs, Val.eq_self _, fun st st' (hn : Next .lenDelim s e' st st') => ?_⟩⟩
    simp only [dec, nextReader_next hn hs, bind_ok]
    rw [if_neg hb1, hb2]
  · cases henc

theorem AllMatch.nil_inv {src : List Byte} {es : List Entry} (h : AllMatch src es []) : es = [] := by
  cases h; rfl

theorem AllMatch.cons_inv {src : List Byte} {es : List Entry} {it : Item} {l : List Item}
    (h : AllMatch src es (it :: l)) : ∃ e es', es = e :: es' ∧ Matches src e it ∧ AllMatch src es' l := by
  cases h with
  | cons hm hr => exact ⟨_, _, rfl, hm, hr⟩

theorem AllMatch.append_inv {src : List Byte} : ∀ {l1 l2 : List Item} {es : List Entry},
    AllMatch src es (l1 ++ l2) → ∃ es1 es2, es = es1 ++ es2 ∧ AllMatch src es1 l1 ∧ AllMatch src es2 l2 := by
  intro l1
  induction l1 with
  | nil => intro l2 es h; exact ⟨[], es, rfl, AllMatch.nil, h⟩
  | cons it r ih =>
    intro l2 es h
    obtain ⟨e, es', rfl, hm, hr⟩ := AllMatch.cons_inv h
    obtain ⟨es1, es2, rfl, h1, h2⟩ := ih hr
    exact ⟨e :: es1, es2, rfl, AllMatch.cons hm h1, h2⟩

theorem AllMatch.tag_mem {src : List Byte} : ∀ {l : List Item} {es : List Entry},
    AllMatch src es l → ∀ e ∈ es, ∃ it ∈ l, e.tag = it.num := by
  intro l
  induction l with
  | nil => intro es h e he; rw [AllMatch.nil_inv h] at he; simp at he
  | cons it r ih =>
    intro es h e he
    obtain ⟨e0, es', rfl, hm, hr⟩ := AllMatch.cons_inv h
    rcases List.mem_cons.1 he with rfl | he
    · exact ⟨it, by simp, hm.1⟩
    · obtain ⟨x, hx, hxe⟩ := ih hr e he
      exact ⟨x, by simp [hx], hxe⟩

theorem readsBack_of_one {t : Ty} (h : ReadsOne fx src t) : ReadsBack fx src t := by
  intro v c l c' hok henc es rest hm _
  obtain ⟨it, rfl, rfl, hnum, hrd⟩ := h v c l c' hok henc
  obtain ⟨e, es', rfl, hme, hr⟩ := AllMatch.cons_inv hm
  rw [AllMatch.nil_inv hr]
  obtain ⟨v', hpe, h1, _⟩ := hrd e.start e.stop hme.2.2
  have he : e = ⟨c + 1, it.fmt, e.start, e.stop⟩ := by rw [← hnum, ← hme.1, ← hme.2.1]
  rw [he]
  exact ⟨v', h1 (c + 1) rest, hpe⟩

theorem readsBack_null : ReadsBack fx src .null := by
  intro v c l c' _ henc es rest hm _
  simp only [encI] at henc
  split at henc
  · cases henc
    rw [AllMatch.nil_inv hm]
    exact ⟨.null, rfl, rfl⟩
  · cases henc

theorem findEntry_none {n : Nat} {filter : Option Fmt} : ∀ {tags : List Entry},
    (∀ e ∈ tags, e.tag ≠ n) → findEntry n filter tags = none
  | [], _ => rfl
  | t :: ts, h => by
    rw [findEntry, if_neg (fun hc => h t List.mem_cons_self hc.1),
      findEntry_none (fun e he => h e (List.mem_cons_of_mem _ he))]

theorem decList_items {elem : Ty} (hone : ReadsOne fx src elem) (c : Nat) :
    ∀ (vs : Vals) (l : List Item), allWith (fun x => rtOK elem x) vs = true →
    encListWith (fun x => Prod.fst <$> encI elem x c) vs = ok l →
    ∀ (es rest : List Entry) (fuel : Nat), AllMatch src es l → (∀ e ∈ rest, e.tag ≠ c + 1) →
    es.length < fuel →
    ∃ vs', decListWith (fun s => dec fx src elem s) fuel (.enclosed (c + 1) (es ++ rest)) =
        ok (vs', .enclosed (c + 1) rest) ∧
      protoEqListWith (fun x y => Val.protoEq elem x y) vs vs' = true
  | .nil, l, _, henc, es, rest, fuel + 1, hm, hrest, _ => by
    cases henc
    rw [AllMatch.nil_inv hm]
    refine ⟨.nil, ?_, rfl⟩
    simp only [decListWith, nextTagRange, List.nil_append, findEntry_none hrest]
    rfl
  | .cons v vs, l, hall, henc, es, rest, fuel + 1, hm, hrest, hfuel => by
    simp only [allWith, Bool.and_eq_true] at hall
    simp only [encListWith] at henc
    obtain ⟨a, ha, h1⟩ := bind_eq_ok.1 henc
    obtain ⟨b, hb, h2⟩ := bind_eq_ok.1 h1
    cases h2
    obtain ⟨p, hav, hp⟩ := map_ok_inv ha
    cases hp
    obtain ⟨it, hit, _, hnum, hrd⟩ := hone v c p.1 p.2 hall.1 hav
    rw [hit] at hm
    obtain ⟨e, es', rfl, hme, hr⟩ := AllMatch.cons_inv hm
    obtain ⟨v', hpe, _, hroot⟩ := hrd e.start e.stop hme.2.2
    obtain ⟨vs', hl, hpl⟩ := decList_items hone c vs b hall.2 hb es' rest fuel hr hrest
      (Nat.lt_of_succ_lt_succ hfuel)
    refine ⟨.cons v' vs', ?_, by rw [protoEqListWith, hpe, hpl]; rfl⟩
    have he : e = ⟨c + 1, e.fmt, e.start, e.stop⟩ := by rw [← hnum, ← hme.1]
    rw [he]
    simp only [decListWith, nextTagRange, List.cons_append, findEntry, true_or, and_self, if_true,
      Bool.false_eq_true, if_false, hroot, bind_ok, hl]

theorem readsBack_list {elem : Ty} {mn mx : Option Nat} {ex : Bool} (hone : ReadsOne fx src elem) :
    ReadsBack fx src (.seqOf mn mx ex elem) := by
  intro v c l c' hok henc es rest hm hrest
  simp only [encI] at henc
  split at henc
  · rename_i vs
    obtain ⟨body, hb, h2⟩ := bind_eq_ok.1 henc
    cases h2
    simp only [rtOK, Bool.and_eq_true] at hok
    obtain ⟨vs', hl, hpl⟩ := decList_items hone c vs _ hok.2 hb es rest ((es ++ rest).length + 1) hm
      (fun e he => by have := hrest e he; omega) (by rw [List.length_append]; omega)
    refine ⟨.list vs', ?_, hpl⟩
    simp only [dec, hl, bind_ok, RState.bump]
  · cases henc

/-- a present OPTIONAL component that writes no field at all is an empty SEQUENCE OF -/
theorem encI_nil_inv {t : Ty} {x : Val} {c c1 : Nat} (h : encI t x c = ok ([], c1))
    (hok : rtOK t x = true) (hnn : t ≠ .null) :
    (x == Ty.protoDefault t) = true ∧ c1 = c + 1 := by
  cases t with
  | null => exact (hnn rfl).elim
  | seqOf mn mx e elem =>
    simp only [encI] at h
    split at h
    · rename_i vs
      obtain ⟨body, hb, h2⟩ := bind_eq_ok.1 h
      cases h2
      simp only [rtOK, Bool.and_eq_true] at hok
      cases vs with
      | nil => exact ⟨rfl, rfl⟩
      | cons v vs =>
        simp only [encListWith] at hb
        obtain ⟨a, ha, h1⟩ := bind_eq_ok.1 hb
        obtain ⟨b, _, h2⟩ := bind_eq_ok.1 h1
        obtain ⟨p, hav, hp⟩ := map_ok_inv ha
        obtain ⟨it, hit, _⟩ := encI_single hok.1 (show encI elem v c = ok (p.1, p.2) from hav)
        rw [← hp, hit] at h2
        cases h2
    · cases h
  | _ =>
    obtain ⟨it, hit, _⟩ := encI_single rfl h
    cases hit

theorem readsFields_nil : ReadsFields fx src .nil := by
  intro vs c ls c' _ _ henc es hm
  obtain ⟨rfl, rfl⟩ := encFieldsI_nil_inv henc
  rw [AllMatch.nil_inv hm]
  cases vs <;> first | exact ⟨.nil, rfl, rfl⟩ | (simp only [encFieldsI] at henc; cases henc)

theorem hasNextTag_false {c : Nat} {tags : List Entry} (h : ∀ e ∈ tags, e.tag ≠ c) :
    hasNextTag (.enclosed c tags) = false := by
  simp only [hasNextTag, List.any_eq_false, decide_eq_true_eq]
  exact h

theorem hasNextTag_head {c : Nat} {e : Entry} {tags : List Entry} (h : e.tag = c) :
    hasNextTag (.enclosed c (e :: tags)) = true := by
  simp only [hasNextTag, List.any_cons, h, decide_true, Bool.true_or]

theorem readsFields_cons {k : Kind} {t : Ty} {rest : Fields} (hb : ReadsBack fx src t)
    (hr : ReadsFields fx src rest) : ReadsFields fx src (.cons k t rest) := by
  intro vs c ls c' hok hnn henc es hm
  obtain ⟨v, vs, a, c1, b, rfl, h1, h2, rfl⟩ := encFieldsI_cons_inv henc
  obtain ⟨es1, es2, rfl, hm1, hm2⟩ := AllMatch.append_inv (l1 := a) hm
  simp only [rtOKFields, Bool.and_eq_true] at hok
  simp only [Fields.noOptNull, Bool.and_eq_true] at hnn
  -- the entries of the later components carry numbers above `c1`
  have hrest : ∀ e ∈ es2, c1 + 1 ≤ e.tag := by
    intro e he
    obtain ⟨it, hit, hte⟩ := AllMatch.tag_mem hm2 e he
    rw [hte]; exact ((encFieldsI_range rest vs c1 b c' h2).2.2 it hit).1
  have hno : c1 = c + 1 → hasNextTag (.enclosed (c + 1) es2) = false :=
    fun hc => hasNextTag_false (fun e he => by have := hrest e he; omega)
  obtain ⟨vs', hd, hp⟩ := hr vs c1 b c' hok.2 hnn.2 h2 es2 hm2
  -- it remains to read the component itself
  suffices hcomp : ∃ x', decComp fx src k t (.enclosed (c + 1) (es1 ++ es2)) = ok (x', .enclosed (c1 + 1) es2) ∧
      Vals.protoEq (.cons k t rest) (.cons v vs) (.cons x' vs') = true by
    obtain ⟨x', hx, hpe⟩ := hcomp
    exact ⟨.cons x' vs', by rw [decFields_cons, hx]; simp only [bind_ok, hd], hpe⟩
  cases k with
  | o =>
    rw [encComp_opt] at h1
    rw [decComp_opt]
    split at h1
    · cases h1
      rw [AllMatch.nil_inv hm1]
      exact ⟨.none, by simp only [List.nil_append, hno rfl, Bool.false_eq_true, if_false, RState.bump],
        by simp only [Vals.protoEq, hp, Bool.and_self]⟩
    · rename_i x
      have htn : t ≠ .null := fun ht => by subst ht; cases hnn.1
      cases a with
      | nil =>
        obtain ⟨hdef, rfl⟩ := encI_nil_inv h1 hok.1 htn
        rw [AllMatch.nil_inv hm1]
        exact ⟨.none, by simp only [List.nil_append, hno rfl, Bool.false_eq_true, if_false, RState.bump],
          by simp only [Vals.protoEq, hdef, hp, Bool.and_self]⟩
      | cons it a' =>
        obtain ⟨e, es1', rfl, hme, _⟩ := AllMatch.cons_inv hm1
        have htag : e.tag = c + 1 := by
          rw [hme.1]; exact (encI_num h1).2 it List.mem_cons_self
        obtain ⟨x', hd', hp'⟩ := hb x c (it :: a') c1 hok.1 h1 (e :: es1') es2 hm1 hrest
        exact ⟨.some x', by rw [List.cons_append, if_pos (hasNextTag_head htag), ← List.cons_append, hd']; rfl,
          by simp only [Vals.protoEq, hp', hp, Bool.and_self]⟩
    · cases h1
  | m | d _ =>
    obtain ⟨x', hd', hp'⟩ := hb v c a c1 hok.1 h1 es1 es2 hm1 hrest
    exact ⟨x', hd', by simp only [Vals.protoEq, hp', hp, Bool.and_self]⟩

theorem items_length_le : ∀ (l : List Item), l.length ≤ (itemsBytes l).length
  | [] => Nat.le_refl _
  | it :: r => by
    have := items_length_le r
    have hp : 0 < it.encode.length := List.length_pos_iff.2 (Item.encode_ne_nil it)
    simp only [itemsBytes, List.length_cons, List.length_append]; omega

theorem items_payload_le : ∀ (l : List Item) (it : Item), it ∈ l → it.payload.length ≤ (itemsBytes l).length
  | x :: r, it, h => by
    simp only [itemsBytes, List.length_append]
    rcases List.mem_cons.1 h with rfl | h
    · rw [Item.encode_eq]; simp only [List.length_append]; omega
    · have := items_payload_le r it h; omega

theorem items_WF {l : List Item} {bound : Nat} (hb : bound < 2 ^ 29)
    (h : ∀ it ∈ l, it.num ≤ bound ∧ it.valueOK) (hl : (itemsBytes l).length < 2 ^ 64) :
    ∀ it ∈ l, it.WF := by
  intro it hit
  obtain ⟨h1, h2⟩ := h it hit
  have h3 := items_payload_le l it hit
  cases it with
  | varint n v => exact ⟨Nat.lt_of_le_of_lt h1 hb, h2⟩
  | bytes n p => exact ⟨Nat.lt_of_le_of_lt h1 hb, Nat.lt_of_le_of_lt h3 hl⟩

theorem sliceOf_lt {s e : Nat} {p : List Byte} (hlen : src.length ≤ U64_MAX) (hs : sliceOf src s e = ok p) :
    p.length < 2 ^ 64 := by
  obtain ⟨_, he, hle⟩ := sliceOf_split hs
  have : U64_MAX = 2 ^ 64 - 1 := rfl
  omega

theorem indexEnclosed_items (hlen : src.length ≤ U64_MAX) {l : List Item} {s e : Nat}
    (hs : sliceOf src s e = ok (itemsBytes l)) (hwf : ∀ it ∈ l, it.WF) :
    ∃ es, indexEnclosed fx src s e = ok es ∧ AllMatch src es l := by
  obtain ⟨_, he, _⟩ := sliceOf_split hs
  exact indexLoop_items fx hlen l s e (e - s + 1) [] hs hwf (by have := items_length_le l; omega)

theorem readsOne_seq (hlen : src.length ≤ U64_MAX) {so fc : Nat} {ea : Option Nat} {fields : Fields}
    (hf : ReadsFields fx src fields) : ReadsOne fx src (.seq so fc ea fields) := by
  refine readsOne_intro fun v c l c' hok henc => ?_
  simp only [encI] at henc
  split at henc
  · rename_i vs
    obtain ⟨⟨content, cf⟩, hc, h2⟩ := bind_eq_ok.1 henc
    cases h2
    simp only [rtOK, Bool.and_eq_true, decide_eq_true_eq] at hok
    refine ⟨_, rfl, rfl, rfl, fun s e (hs : sliceOf src s e = ok (itemsBytes content.flatten)) => ?_⟩
    obtain ⟨_, hcf, hb⟩ := encFieldsI_range fields vs 0 content cf hc
    have hwf := items_WF (bound := cf) (by omega) (fun it hit => (hb it hit).2) (sliceOf_lt hlen hs)
    obtain ⟨es, hidx, hm⟩ := indexEnclosed_items (fx := fx) hlen hs hwf
    obtain ⟨vs', hd, hp⟩ := hf vs 0 content cf hok.2 hok.1.2 hc es hm
    refine ⟨.seq vs', hp, fun st st' (hn : Next .lenDelim s e st st') => ?_⟩
    simp only [dec, nextTagRange_next hn (Or.inr rfl), Option.getD, hidx, bind_ok, hd]
  · cases henc

def AllAlts (P : Ty → Prop) : Fields → Prop
  | .nil => True
  | .cons _ t rest => (Ty.single t = true → P t) ∧ AllAlts P rest

/-- writer, reader and `ProtobufEq` pick the same alternative -/
theorem alt_of_index (P : Ty → Prop) : ∀ (alts : Fields) (i idx : Nat) (x : Val) (content : List Item),
    AllAlts P alts → encAltI alts i idx x = ok content → rtOKAlt alts i x = true →
    ∃ t, P t ∧ rtOK t x = true ∧ (∃ c', encI t x idx = ok (content, c')) ∧
      (∀ st, decAlt fx src alts i st = Prod.fst <$> dec fx src t st) ∧
      (∀ y, Val.protoEqAlt alts i x y = Val.protoEq t x y)
  | .cons k t rest, 0, idx, x, content, hall, h, hok => by
    simp only [rtOKAlt, Bool.and_eq_true] at hok
    obtain ⟨p, he, hp⟩ := map_ok_inv (show Prod.fst <$> encI t x idx = ok content from h)
    cases hp
    exact ⟨t, hall.1 hok.1, hok.2, ⟨p.2, he⟩, fun st => rfl, fun y => rfl⟩
  | .cons k t rest, i + 1, idx, x, content, hall, h, hok => alt_of_index P rest i idx x content hall.2 h hok

/-- the CHOICE reader skips tag and length prefix and reads the alternative from an index of one
    entry, the content of the field -/
theorem dec_choice_item (sd tot : Nat) (ex : Bool) (alts : Fields) {it : Item} (hwf : it.WF) {s e : Nat}
    (hs : sliceOf src s e = ok it.encode) {st st' : RState} (hn : Next .lenDelim s e st st') :
    dec fx src (.choice sd tot ex alts) st = (do
      let v ← decAlt fx src alts (it.num - 1)
        (.enclosed 1 [⟨1, it.fmt, s + (it.encode.length - it.payload.length), e⟩])
      ok (.choice (it.num - 1) v, st')) := by
  simp only [dec, nextTagRange_next hn (Or.inl rfl), hs, bind_ok]
  cases it with
  | varint n w =>
    simp only [Item.encode, readTag_writeTag hwf.1, bind_ok, reduceCtorEq, if_false]
    rfl
  | bytes n p =>
    have hrv : readVarint (writeBytes p) = ok (p.length, p) := readVarint_writeVarint _ hwf.2 p
    simp only [Item.encode, readTag_writeTag hwf.1, bind_ok, if_true, hrv]
    rfl

theorem readsOne_choice (hlen : src.length ≤ U64_MAX) {sd tot : Nat} {ex : Bool} {alts : Fields}
    (ha : AllAlts (ReadsOne fx src) alts) : ReadsOne fx src (.choice sd tot ex alts) := by
  refine readsOne_intro fun v c l c' hok henc => ?_
  simp only [encI] at henc
  split at henc
  · rename_i i x
    obtain ⟨content, hc, h2⟩ := bind_eq_ok.1 henc
    cases h2
    simp only [rtOK, Bool.and_eq_true, decide_eq_true_eq] at hok
    obtain ⟨t, hone, htok, ⟨ct, henct⟩, hdecalt, hpeq⟩ := alt_of_index _ alts i i x content ha hc hok.2
    obtain ⟨it, rfl, _, hnum, hrd⟩ := hone x i content ct htok henct
    refine ⟨_, rfl, rfl, rfl, fun s e (hs : sliceOf src s e = ok (itemsBytes [it])) => ?_⟩
    rw [itemsBytes, itemsBytes, List.append_nil] at hs
    have hwf : it.WF := items_WF (l := [it]) (bound := i + 1) hok.1
      (fun x hx => by
        rw [List.mem_singleton.1 hx]
        exact ⟨Nat.le_of_eq hnum, ((encI_spec _ _ _ _ _ henct).2 it List.mem_cons_self).2.2.2⟩)
      (by rw [itemsBytes, itemsBytes, List.append_nil]; exact sliceOf_lt hlen hs) it List.mem_cons_self
    -- the content of the inner field
    have hin : sliceOf src (s + (it.encode.length - it.payload.length)) e = ok it.payload := by
      have h1 := sliceOf_drop_left (x := writeTag it.num it.fmt ++ it.lenPrefix) (y := it.payload)
        (by rw [List.append_assoc, ← Item.encode_eq]; exact hs)
      have h2 : it.encode.length - it.payload.length = (writeTag it.num it.fmt ++ it.lenPrefix).length := by
        rw [Item.encode_eq]; simp only [List.length_append]; omega
      rw [h2]; exact h1
    obtain ⟨x', hpe, hdx, _⟩ := hrd _ _ hin
    refine ⟨.choice i x', by simp only [Val.protoEq, beq_self_eq_true, hpeq, hpe, Bool.and_self],
      fun st st' (hn : Next .lenDelim s e st st') => ?_⟩
    rw [dec_choice_item sd tot ex alts hwf hs hn, hnum, Nat.add_sub_cancel, hdecalt, hdx 1 []]
    rfl
  · cases henc

variable (fx) (src)

mutual
theorem readsOne_all (hlen : src.length ≤ U64_MAX) : ∀ (t : Ty), Ty.single t = true → ReadsOne fx src t
  | .bool, _ => readsOne_bool
  | .int _ _ _ _ _, _ => readsOne_int
  | .enum _ _ _, _ => readsOne_enum
  | .str _ _ _ _, _ => readsOne_str
  | .oct _ _ _, _ => readsOne_oct
  | .bits _ _ _, _ => readsOne_bits
  | .seq _ _ _ fields, _ => readsOne_seq hlen (readsFields_all hlen fields)
  | .choice _ _ _ alts, _ => readsOne_choice hlen (allAlts_all hlen alts)
theorem readsBack_all (hlen : src.length ≤ U64_MAX) : ∀ (t : Ty), ReadsBack fx src t
  | .bool => readsBack_of_one (readsOne_bool)
  | .null => readsBack_null
  | .int _ _ _ _ _ => readsBack_of_one (readsOne_int)
  | .enum _ _ _ => readsBack_of_one (readsOne_enum)
  | .str _ _ _ _ => readsBack_of_one (readsOne_str)
  | .oct _ _ _ => readsBack_of_one (readsOne_oct)
  | .bits _ _ _ => readsBack_of_one (readsOne_bits)
  | .seqOf _ _ _ elem => by
    by_cases hs : Ty.single elem = true
    · exact readsBack_list (readsOne_all hlen elem hs)
    · intro v c l c' hok
      simp only [rtOK, Bool.and_eq_true] at hok
      exact absurd hok.1 hs
  | .seq _ _ _ fields => readsBack_of_one (readsOne_seq hlen (readsFields_all hlen fields))
  | .choice _ _ _ alts => readsBack_of_one (readsOne_choice hlen (allAlts_all hlen alts))
theorem readsFields_all (hlen : src.length ≤ U64_MAX) : ∀ (fs : Fields), ReadsFields fx src fs
  | .nil => readsFields_nil
  | .cons _ t rest => readsFields_cons (readsBack_all hlen t) (readsFields_all hlen rest)
theorem allAlts_all (hlen : src.length ≤ U64_MAX) : ∀ (alts : Fields), AllAlts (ReadsOne fx src) alts
  | .nil => trivial
  | .cons _ t rest => ⟨fun hs => readsOne_all hlen t hs, allAlts_all hlen rest⟩
end

/-- the octets of a root value are the content of the field the same value would be written as
    inside another message -/
theorem encode_as_item {t : Ty} {v : Val} {bytes : List Byte} (h : encode t v = ok bytes) :
    ∃ it, encI t v 0 = ok ([it], 1) ∧ it.payload = bytes ∧ Ty.single t = true := by
  rcases encode_split t v with ⟨s, tot, e, i, rfl, rfl⟩ | ⟨h1, _⟩
  · simp only [encode] at h
    split at h
    · rename_i hi
      cases h
      exact ⟨.varint 1 (i % 2 ^ 32), by simp only [encI, hi, if_true], rfl, rfl⟩
    · cases h
  · rw [h1] at h
    obtain ⟨l, hl, hb⟩ := map_ok_inv h
    simp only [encodeI] at hl
    split at hl
    · obtain ⟨p, hp, hq⟩ := map_ok_inv hl
      cases hq
      exact ⟨.bytes 1 (itemsBytes p.1.flatten), by simp only [encI, hp, bind_ok], hb, rfl⟩
    · exact ⟨.bytes 1 (itemsBytes l), by simp only [encI, hl, bind_ok], hb, rfl⟩
    · cases hl

/-- round trip of a root value, for the present reader and for every repaired one -/
theorem roundtrip (fx : Option Fix) (t : Ty) (v : Val) (bytes : List Byte) (hok : rtOK t v = true)
    (henc : encode t v = ok bytes) (hlen : bytes.length ≤ U64_MAX) :
    ∃ v', decode fx t bytes = ok v' ∧ Val.protoEq t v v' = true := by
  obtain ⟨it, hi, hp, hs⟩ := encode_as_item henc
  obtain ⟨it', hl, _, _, hrd⟩ := readsOne_all fx bytes hlen t hs v 0 [it] 1 hok hi
  simp only [List.cons.injEq, and_true] at hl
  subst hl
  have hsl : sliceOf bytes 0 bytes.length = ok it.payload := by
    rw [hp]; simp [sliceOf]
  obtain ⟨v', hpe, _, hroot⟩ := hrd 0 bytes.length hsl
  exact ⟨v', by simp [decode, hroot], hpe⟩
end Asn1Verif.Proto
