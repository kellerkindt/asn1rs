import Asn1Verif.Base.OutcomeLemmas
import Asn1Verif.Uper.Impl
import Asn1Verif.X691.Encode
import Asn1Verif.Per.PrimLemmasWhole
import Asn1Verif.Per.PrimLemmasBitStr
/-
  Facts about the PER primitives (`Per/Prim.lean`) that the SEQUENCE and rejection lemmas need: closed form
  of the unconstrained length determinant, the open-type wrapper against X.691 11.2.
-/
namespace Asn1Verif.Uper
open Asn1Verif Outcome Per

theorem ite_ne_panic {α : Type} {c : Prop} [Decidable c] {x y : Outcome α} (hx : x ≠ panic)
    (hy : y ≠ panic) : (if c then x else y) ≠ panic := ite_of (P := (· ≠ panic)) hx hy

theorem wLen_unc_small {n : Nat} (h : n ≤ 127) :
    wLen none none n = ok (false :: natBits 7 n, none) := by
  rw [Per.wLen_unc, X691.lenU, if_pos h]

theorem wSmall_total (n : Nat) : ∃ b, wSmall n = ok b := by
  unfold wSmall
  by_cases hn : n ≤ 63
  · have h1 : ¬ 63 < n := by omega
    have h2 : ¬ 64 ≤ n := by omega
    simp [wNNBI, wNNBIc, Consts.SMALL_NON_NEGATIVE_NUMBER, h1, h2]
  · have h2 : 64 ≤ n := by omega
    have hk : 8 - min (lz64 n / 8) 7 ≤ 127 := by omega
    simp [wNNBI, wLen_unc_small hk, Consts.SMALL_NON_NEGATIVE_NUMBER, h2]

theorem wLen_unc_closed (v : Nat) : wLen none none v =
    if v ≤ 127 then ok (false :: natBits 7 v, none)
    else if v < 16384 then ok (true :: false :: natBits 14 v, none)
    else ok (true :: true :: natBits 6 (min (v / 16384) 4), some (min (v / 16384) 4 * 16384)) := by
  rw [Per.wLen_unc, X691.lenU]
  split
  · rfl
  · split <;> rfl

theorem wLen_unc_ok (v : Nat) : ∃ b f, wLen none none v = ok (b, f) ∧ f.getD v ≤ v := by
  rw [wLen_unc_closed]
  by_cases h1 : v ≤ 127
  · exact ⟨_, _, if_pos h1, Nat.le_refl _⟩
  · by_cases h2 : v < 16384
    · exact ⟨_, _, by rw [if_neg h1, if_pos h2], Nat.le_refl _⟩
    · refine ⟨_, _, by rw [if_neg h1, if_neg h2], ?_⟩
      simp only [Option.getD_some]
      omega

theorem wOctFrag_ok (rest : List (BitVec 8)) : ∃ b, wOctFrag rest = ok b :=
  ⟨_, wOctFrag_eq rest⟩

/-- an unconstrained OCTET STRING (open type, UTF8String) takes the fragmented form of X.691 11.9;
    longer than `i64::MAX` octets it is refused -/
theorem wOctets_unc_eq (src : List (BitVec 8)) :
    wOctets none none false src =
      if src.length ≤ I64MAXu then ok (X691.fragU bytesBits src) else err .sizeNotInRange := by
  split
  · exact wOctets_pattern none none false src (by decide) ‹_› (Or.inr rfl)
  · exact wOctets_rejects none none src (Or.inr (by simp only [Option.getD_none]; omega))

theorem wOctets_unc_ok (s : List (BitVec 8)) (bits : Bits) (h : wOctets none none false s = ok bits) :
    bits = X691.fragU bytesBits s := by
  rw [wOctets_unc_eq] at h
  split at h
  · exact (ok.inj h).symm
  · cases h

def openOctets (c : Bits) : List Byte := if c.isEmpty then [0#8] else padToBytes c

/-- the code's open-type wrapper is the open type of X.691 11.2 at all lengths (the OCTET STRING
    writer fragments) -/
theorem openType_eq (c : Bits) :
    openType c =
      if (openOctets c).length ≤ I64MAXu then ok (X691.openType c) else err .sizeNotInRange :=
  wOctets_unc_eq _

theorem openType_conform (content o : Bits) (h : openType content = ok o) :
    o = X691.openType content := wOctets_unc_ok _ _ h

theorem openType_ne_panic (c : Bits) : openType c ≠ panic := by
  rw [openType_eq]
  exact ite_ne_panic nofun nofun

/-! `bitsBytes` is defined by well-founded recursion: one octet, spelled out -/

theorem bitsBytes_8 (b0 b1 b2 b3 b4 b5 b6 b7 : Bool) :
    bitsBytes [b0, b1, b2, b3, b4, b5, b6, b7] =
      [BitVec.ofNat 8 (bitsToNat [b0, b1, b2, b3, b4, b5, b6, b7])] := by
  rw [bitsBytes]; simp; rw [bitsBytes]; simp

theorem openType_true : openType [true] =
    ok [false, false, false, false, false, false, false, true,
        true, false, false, false, false, false, false, false] := by
  decide +kernel

end Asn1Verif.Uper
