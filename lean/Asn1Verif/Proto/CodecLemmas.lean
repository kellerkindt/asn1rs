import Asn1Verif.Proto.WireLemmas
import Asn1Verif.Proto.Codec
/-
  The protobuf writer / reader mirror (C17, C18, protobuf part of C04).  `encComp` / `decComp` name
  what one component of a message writes / reads (the local `one` of `encFieldsI` / `decFields`), so
  that both walks have a cons equation; `EndsIn st` says that a reading step leaves the state alone,
  which is how `dec_counter` shows that the counter behind a component depends on its type only.
-/
namespace Asn1Verif.Proto
open Asn1Verif Outcome
open Asn1Verif.Uper (Ty Val Vals Fields Kind utf8Decode castInt)

theorem itemsBytes_append (a b : List Item) : itemsBytes (a ++ b) = itemsBytes a ++ itemsBytes b := by
  induction a with
  | nil => simp [itemsBytes]
  | cons it r ih => simp [itemsBytes, ih, List.append_assoc]

theorem writeItems_vec (d : List Byte) (l : List Item) :
    (Sink.mk none d).writeItems l = ok ⟨none, d ++ itemsBytes l⟩ := by
  induction l generalizing d with
  | nil => simp [Sink.writeItems, itemsBytes]
  | cons it r ih =>
    simp only [Sink.writeItems, Sink.write, itemsBytes]
    rw [ih]; simp [List.append_assoc]

theorem writeItems_slice (n : Nat) (d : List Byte) (l : List Item) (hd : d.length ≤ n) :
    (Sink.mk (some n) d).writeItems l =
      if d.length + (itemsBytes l).length ≤ n then ok ⟨some n, d ++ itemsBytes l⟩
      else err .insufficientSpace := by
  induction l generalizing d with
  | nil =>
    simp only [Sink.writeItems, itemsBytes, List.length_nil, Nat.add_zero, List.append_nil]
    rw [if_pos hd]
  | cons it r ih =>
    simp only [Sink.writeItems, Sink.write, itemsBytes, List.length_append]
    by_cases h1 : d.length + it.encode.length ≤ n
    · rw [if_pos h1]; simp only
      rw [ih _ (by simpa using h1)]
      simp only [List.length_append, List.append_assoc, Nat.add_assoc]
    · rw [if_neg h1]; simp only
      rw [if_neg (by omega)]

theorem encode_split (t : Ty) (v : Val) :
    (∃ s tot e i, t = .enum s tot e ∧ v = .enum i) ∨
    (encode t v = itemsBytes <$> encodeI t v ∧
      ∀ s : Sink, encodeTo s t v = (do
        let l ← encodeI t v
        let s' ← s.writeItems l
        ok s'.data)) := by
  cases t with
  | enum s tot e =>
    cases v with
    | enum i => exact Or.inl ⟨_, _, _, _, rfl, rfl⟩
    | _ => exact Or.inr ⟨rfl, fun _ => rfl⟩
  | _ => exact Or.inr ⟨rfl, fun _ => rfl⟩

/-- components that advance the field counter: every type but NULL -/
def Ty.counts : Ty → Bool
  | .null => false
  | _ => true

/-- types whose values are written as exactly one field -/
def Ty.single : Ty → Bool
  | .null => false
  | .seqOf _ _ _ _ => false
  | _ => true

def Ty.fmt : Ty → Fmt
  | .bool => .varint
  | .int _ _ _ _ _ => .varint
  | .enum _ _ _ => .varint
  | .seqOf _ _ _ elem => Ty.fmt elem
  | _ => .lenDelim

def Item.valueOK : Item → Prop
  | .varint _ v => v < 2 ^ 64
  | .bytes _ _ => True

theorem emod_toNat_lt (i : Int) {k : Nat} (hk : k ≤ 64) : (i % 2 ^ k).toNat < 2 ^ 64 := by
  have h0 : (0 : Int) < 2 ^ k := Int.pow_pos (by decide)
  have h1 : (i % 2 ^ k).toNat < 2 ^ k :=
    (Int.toNat_lt (Int.emod_nonneg _ (Int.ne_of_gt h0))).2 (by exact_mod_cast Int.emod_lt_of_pos i h0)
  exact Nat.lt_of_lt_of_le h1 (Nat.pow_le_pow_right (by decide) hk)

theorem intToVarint_lt (c : IntClass) (i : Int) : intToVarint c i < 2 ^ 64 := by
  cases c with
  | u32 => exact emod_toNat_lt i (by decide)
  | u64 => exact emod_toNat_lt i (by decide)
  | s32 => exact sint32ToVarint_lt _
  | s64 => exact sint64ToVarint_lt _

def Item.Is (n : Nat) (f : Fmt) (it : Item) : Prop := it.num = n ∧ it.fmt = f ∧ it.valueOK

def OneField (f : Fmt) (c : Nat) (l : List Item) (c' : Nat) : Prop :=
  ∃ it, l = [it] ∧ c' = c + 1 ∧ it.Is (c + 1) f

theorem OneField.varint (c x : Nat) (h : x < 2 ^ 64) : OneField .varint c [.varint (c + 1) x] (c + 1) :=
  ⟨_, rfl, rfl, rfl, rfl, h⟩

theorem OneField.bytes (c : Nat) (p : List Byte) : OneField .lenDelim c [.bytes (c + 1) p] (c + 1) :=
  ⟨_, rfl, rfl, rfl, rfl, trivial⟩

theorem encI_single {t : Ty} {v : Val} {c : Nat} {l : List Item} {c' : Nat} (hs : Ty.single t = true)
    (h : encI t v c = ok (l, c')) : OneField (Ty.fmt t) c l c' := by
  cases t with
  | null | seqOf => cases hs
  | bool =>
    simp only [encI] at h
    split at h
    · cases h; exact .varint _ _ (by split <;> decide)
    · cases h
  | int mn mx e w s =>
    simp only [encI] at h
    split at h
    · split at h
      · cases h
      · cases h; exact .varint _ _ (intToVarint_lt _ _)
    · cases h
  | enum s tot e =>
    simp only [encI] at h
    split at h
    · split at h
      · cases h; exact .varint _ _ (by omega)
      · cases h
    · cases h
  | str cs mn mx e =>
    simp only [encI] at h
    split at h
    · split at h
      · cases h; exact .bytes _ _
      · cases h
    · cases h
  | oct | bits =>
    simp only [encI] at h
    split at h
    · cases h; exact .bytes _ _
    · cases h
  | seq | choice =>
    simp only [encI] at h
    split at h
    · obtain ⟨p, _, h2⟩ := bind_eq_ok.1 h
      cases h2; exact .bytes _ _
    · cases h

theorem encListWith_forall (P : Item → Prop) (f : Val → Outcome (List Item))
    (hf : ∀ x l, f x = ok l → ∀ it ∈ l, P it) :
    ∀ (vs : Vals) (l : List Item), encListWith f vs = ok l → ∀ it ∈ l, P it
  | .nil, l, h => by
    cases h; nofun
  | .cons v vs, l, h => by
    simp only [encListWith] at h
    obtain ⟨a, ha, h1⟩ := bind_eq_ok.1 h
    obtain ⟨b, hb, h2⟩ := bind_eq_ok.1 h1
    cases h2
    intro it hit
    rcases List.mem_append.1 hit with h3 | h3
    · exact hf v a ha it h3
    · exact encListWith_forall P f hf vs b hb it h3

theorem encI_spec_single {t : Ty} {v : Val} {c : Nat} {l : List Item} {c' : Nat} (hs : Ty.single t = true)
    (h : encI t v c = ok (l, c')) :
    c' = c + (if Ty.counts t then 1 else 0) ∧ ∀ it ∈ l, c' = c + 1 ∧ it.Is (c + 1) (Ty.fmt t) := by
  obtain ⟨it, rfl, rfl, hit⟩ := encI_single hs h
  have hc : Ty.counts t = true := by cases t <;> first | rfl | cases hs
  exact ⟨by rw [hc]; rfl, fun x hx => by rw [List.mem_singleton.1 hx]; exact ⟨rfl, hit⟩⟩

theorem encI_spec : ∀ (t : Ty) (v : Val) (c : Nat) (l : List Item) (c' : Nat), encI t v c = ok (l, c') →
    c' = c + (if Ty.counts t then 1 else 0) ∧ ∀ it ∈ l, c' = c + 1 ∧ it.Is (c + 1) (Ty.fmt t)
  | .null, v, c, l, c', h => by
    simp only [encI] at h
    split at h
    · cases h; exact ⟨rfl, nofun⟩
    · cases h
  | .seqOf mn mx e elem, v, c, l, c', h => by
    simp only [encI] at h
    split at h
    · rename_i vs
      obtain ⟨body, hb, h2⟩ := bind_eq_ok.1 h
      cases h2
      refine ⟨rfl, encListWith_forall _ _ ?_ vs _ hb⟩
      intro x lx hx
      obtain ⟨p, hp, h3⟩ := map_ok_inv hx
      cases h3
      exact fun it hit => ⟨rfl, ((encI_spec elem x c p.1 p.2 hp).2 it hit).2⟩
    · cases h
  | .bool, _, _, _, _, h | .int _ _ _ _ _, _, _, _, _, h | .enum _ _ _, _, _, _, _, h
  | .str _ _ _ _, _, _, _, _, h | .oct _ _ _, _, _, _, _, h | .bits _ _ _, _, _, _, _, h
  | .seq _ _ _ _, _, _, _, _, h | .choice _ _ _ _, _, _, _, _, h => encI_spec_single rfl h

theorem encI_num {t : Ty} {v : Val} {c : Nat} {l : List Item} {c' : Nat} (h : encI t v c = ok (l, c')) :
    (c' = c + if Ty.counts t then 1 else 0) ∧ ∀ it ∈ l, it.num = c + 1 :=
  ⟨(encI_spec t v c l c' h).1, fun it hit => ((encI_spec t v c l c' h).2 it hit).2.1⟩

/-- number of counting (non-NULL) components among the first `n` -/
def Fields.countTo : Fields → Nat → Nat
  | .nil, _ => 0
  | .cons _ _ _, 0 => 0
  | .cons _ t rest, n + 1 => (if Ty.counts t then 1 else 0) + Fields.countTo rest n

def Fields.take : Fields → Nat → Fields
  | .nil, _ => .nil
  | .cons _ _ _, 0 => .nil
  | .cons k t rest, n + 1 => .cons k t (Fields.take rest n)

theorem countTo_take : ∀ (fs : Fields) (n : Nat),
    Fields.countTo (Fields.take fs n) (Fields.take fs n).length = Fields.countTo fs n
  | .nil, n => by simp [Fields.take, Fields.countTo]
  | .cons k t rest, 0 => by simp [Fields.take, Fields.countTo]
  | .cons k t rest, n + 1 => by
    simp [Fields.take, Fields.countTo, Fields.length, countTo_take rest n]

def Fields.noOptNull : Fields → Bool
  | .nil => true
  | .cons k t rest =>
    (match k, t with
     | .o, .null => false
     | _, _ => true) && Fields.noOptNull rest

def encComp (k : Kind) (t : Ty) (v : Val) (c : Nat) : Outcome (List Item × Nat) :=
  match k, v with
  | .o, .none => ok ([], c + 1)
  | .o, .some x => encI t x c
  | .o, _ => err .illTyped
  | _, v => encI t v c

theorem encComp_opt (t : Ty) (v : Val) (c : Nat) :
    encComp .o t v c =
      match v with
      | .none => ok ([], c + 1)
      | .some x => encI t x c
      | _ => err .illTyped := by
  cases v <;> rfl

theorem encFieldsI_nil_inv {vs : Vals} {c : Nat} {ls : List (List Item)} {c' : Nat}
    (h : encFieldsI .nil vs c = ok (ls, c')) : ls = [] ∧ c' = c := by
  simp only [encFieldsI] at h
  split at h
  · cases h; exact ⟨rfl, rfl⟩
  · cases h

theorem encFieldsI_cons_inv {k : Kind} {t : Ty} {rest : Fields} {vs : Vals} {c : Nat}
    {ls : List (List Item)} {c' : Nat} (h : encFieldsI (.cons k t rest) vs c = ok (ls, c')) :
    ∃ v vs' a c1 b, vs = .cons v vs' ∧ encComp k t v c = ok (a, c1) ∧
      encFieldsI rest vs' c1 = ok (b, c') ∧ ls = a :: b := by
  simp only [encFieldsI] at h
  split at h
  · cases h
  · rename_i v vs'
    split at h
    · rename_i a c1 h1
      split at h
      · rename_i b c2 h2
        cases h
        exact ⟨v, vs', a, c1, b, rfl, h1, h2, rfl⟩
      · cases h
      · cases h
    · cases h
    · cases h

theorem encComp_spec {k : Kind} {t : Ty} {v : Val} {c : Nat} {a : List Item} {c1 : Nat}
    (h : encComp k t v c = ok (a, c1)) :
    c ≤ c1 ∧ c1 ≤ c + 1 ∧ (∀ it ∈ a, c1 = c + 1 ∧ it.Is (c + 1) (Ty.fmt t)) ∧
    (¬ (k = .o ∧ t = .null) → c1 = c + if Ty.counts t then 1 else 0) := by
  simp only [encComp] at h
  split at h
  case h_1 =>
    cases h
    refine ⟨Nat.le_succ _, Nat.le_refl _, nofun, fun hn => ?_⟩
    cases t <;> first | rfl | exact (hn ⟨rfl, rfl⟩).elim
  case h_3 => cases h
  all_goals
    have ⟨h1, h2⟩ := encI_spec _ _ _ _ _ h
    exact ⟨by rw [h1]; exact Nat.le_add_right _ _, by rw [h1]; split <;> omega, h2, fun _ => h1⟩

theorem encFieldsI_counter : ∀ (fs : Fields) (vs : Vals) (c : Nat) (ls : List (List Item)) (c' : Nat),
    Fields.noOptNull fs = true → encFieldsI fs vs c = ok (ls, c') →
    c' = c + Fields.countTo fs fs.length
  | .nil, vs, c, ls, c', _, h => (encFieldsI_nil_inv h).2
  | .cons k t rest, vs, c, ls, c', hn, h => by
    obtain ⟨v, vs', a, c1, b, rfl, h1, h2, rfl⟩ := encFieldsI_cons_inv h
    simp only [Fields.noOptNull, Bool.and_eq_true] at hn
    rw [encFieldsI_counter rest vs' c1 b c' hn.2 h2, (encComp_spec h1).2.2.2 (fun ⟨hk, ht⟩ => by subst hk ht; cases hn.1)]
    simp only [Fields.countTo, Fields.length, Nat.add_assoc]

theorem encFieldsI_range : ∀ (fs : Fields) (vs : Vals) (c : Nat) (ls : List (List Item)) (c' : Nat),
    encFieldsI fs vs c = ok (ls, c') →
    c ≤ c' ∧ c' ≤ c + fs.length ∧ ∀ it ∈ ls.flatten, c + 1 ≤ it.num ∧ it.num ≤ c' ∧ it.valueOK
  | .nil, vs, c, ls, c', h => by
    obtain ⟨rfl, rfl⟩ := encFieldsI_nil_inv h
    exact ⟨Nat.le_refl _, Nat.le_refl _, nofun⟩
  | .cons k t rest, vs, c, ls, c', h => by
    obtain ⟨v, vs', a, c1, b, rfl, h1, h2, rfl⟩ := encFieldsI_cons_inv h
    obtain ⟨hle, hlen, hnum⟩ := encFieldsI_range rest vs' c1 b c' h2
    obtain ⟨ha1, ha2, ha3, _⟩ := encComp_spec h1
    refine ⟨Nat.le_trans ha1 hle, by rw [Fields.length]; omega, fun it hit => ?_⟩
    rcases List.mem_append.1 hit with hi | hi
    · obtain ⟨rfl, hn, _, hv⟩ := ha3 it hi
      exact ⟨Nat.le_of_eq hn.symm, hn ▸ hle, hv⟩
    · obtain ⟨h3, h4, hv⟩ := hnum it hi
      exact ⟨Nat.le_trans (Nat.succ_le_succ ha1) h3, h4, hv⟩

theorem nextTagRange_enclosed (inc : Bool) (filter : Option Fmt) (c : Nat) (tags : List Entry) :
    ∃ r tags', nextTagRange inc filter (.enclosed c tags) = (r, .enclosed (if inc then c + 1 else c) tags') := by
  simp only [nextTagRange]
  split
  · exact ⟨_, _, rfl⟩
  · exact ⟨_, _, rfl⟩

theorem nextReader_enclosed {src : List Byte} {f : Fmt} {c : Nat} {tags : List Entry}
    {s : List Byte} {st' : RState} (h : nextReader src f (.enclosed c tags) = ok (s, st')) :
    ∃ tags', st' = .enclosed (c + 1) tags' := by
  obtain ⟨r, tags', ht⟩ := nextTagRange_enclosed true (some f) c tags
  simp only [nextReader, ht] at h
  obtain ⟨sl, _, h2⟩ := bind_eq_ok.1 h
  cases h2
  exact ⟨tags', rfl⟩

theorem decListWith_enclosed (f : RState → Outcome (Val × RState)) :
    ∀ (fuel c : Nat) (tags : List Entry) (vs : Vals) (st' : RState),
    decListWith f fuel (.enclosed c tags) = ok (vs, st') → ∃ tags', st' = .enclosed c tags'
  | 0, c, tags, vs, st', h => by cases h; exact ⟨tags, rfl⟩
  | fuel + 1, c, tags, vs, st', h => by
    obtain ⟨r, tags1, ht⟩ := nextTagRange_enclosed false none c tags
    simp only [decListWith, ht] at h
    cases r with
    | none => cases h; exact ⟨tags1, rfl⟩
    | some ab =>
      obtain ⟨p, _, h1⟩ := bind_eq_ok.1 h
      obtain ⟨q, hl, h2⟩ := bind_eq_ok.1 h1
      cases h2
      exact decListWith_enclosed f fuel c tags1 q.1 q.2 hl

def EndsIn {α : Type} (st : RState) (o : Outcome (α × RState)) : Prop := ∀ a st', o = ok (a, st') → st' = st

theorem EndsIn.ok {α : Type} (a : α) (st : RState) : EndsIn st (ok (a, st)) := by
  intro _ _ h; cases h; rfl

theorem EndsIn.bind {α β : Type} {st : RState} {x : Outcome β} {f : β → Outcome (α × RState)}
    (h : ∀ b, EndsIn st (f b)) : EndsIn st (x >>= f) := by
  intro a st' hx
  obtain ⟨b, _, hb⟩ := bind_eq_ok.1 hx
  exact h b a st' hb

theorem nextReader_bind_enclosed {src : List Byte} {f : Fmt} {c : Nat} {tags : List Entry}
    {k : List Byte × RState → Outcome (Val × RState)} (hk : ∀ r st, EndsIn st (k (r, st)))
    {v : Val} {st' : RState} (h : (nextReader src f (.enclosed c tags) >>= k) = ok (v, st')) :
    ∃ tags', st' = .enclosed (c + 1) tags' := by
  obtain ⟨⟨r, st1⟩, h1, h2⟩ := bind_eq_ok.1 h
  obtain ⟨tags', rfl⟩ := nextReader_enclosed h1
  exact ⟨tags', hk r _ v st' h2⟩

theorem dec_counter {fx : Option Fix} {src : List Byte} {t : Ty} {c : Nat} {tags : List Entry}
    {v : Val} {st' : RState} (h : dec fx src t (.enclosed c tags) = ok (v, st')) :
    ∃ tags', st' = .enclosed (c + if Ty.counts t then 1 else 0) tags' := by
  cases t with
  | null => cases h; exact ⟨tags, rfl⟩
  | bool | int =>
    exact nextReader_bind_enclosed (fun _ _ => ite_of (.ok _ _) (.bind fun _ => .ok _ _)) h
  | str cs mn mx e =>
    refine nextReader_bind_enclosed (fun r st => ?_) h
    show EndsIn st (match utf8Decode r with | some _ => _ | none => _)
    split
    · exact .ok _ _
    · nofun
  | oct mn mx e => exact nextReader_bind_enclosed (fun _ _ => .ok _ _) h
  | bits mn mx e =>
    refine nextReader_bind_enclosed (fun r st => ite_of ?_ (.ok _ _)) h
    cases fx with
    | none => nofun
    | some f => exact ite_of (.ok _ _) nofun
  | enum s tot e =>
    obtain ⟨r, tags', ht⟩ := nextTagRange_enclosed true (some .varint) c tags
    simp only [dec, ht] at h
    exact ⟨tags', (EndsIn.bind fun _ => ite_of (.ok _ _) nofun) v st' h⟩
  | seqOf mn mx e elem =>
    simp only [dec] at h
    obtain ⟨⟨vs, st1⟩, h1, h2⟩ := bind_eq_ok.1 h
    obtain ⟨tags', rfl⟩ := decListWith_enclosed _ _ _ _ _ _ h1
    cases h2; exact ⟨tags', rfl⟩
  | seq so fc ea fields =>
    obtain ⟨r, tags', ht⟩ := nextTagRange_enclosed true (some .lenDelim) c tags
    simp only [dec, ht] at h
    exact ⟨tags', (EndsIn.bind fun _ => .bind fun _ => .ok _ _) v st' h⟩
  | choice s tot e alts =>
    obtain ⟨r, tags', ht⟩ := nextTagRange_enclosed true none c tags
    simp only [dec, ht] at h
    cases r with
    | none => cases h
    | some ab => exact ⟨tags', (EndsIn.bind fun _ => .bind fun _ => .bind fun _ => .bind fun _ => .ok _ _) v st' h⟩

def decComp (fx : Option Fix) (src : List Byte) (k : Kind) (t : Ty) (st : RState) : Outcome (Val × RState) :=
  match k with
  | .o =>
    if hasNextTag st then
      match dec fx src t st with
      | .ok (x, s) => ok (.some x, s)
      | .err e => err e
      | .panic => panic
    else ok (.none, st.bump)
  | _ => dec fx src t st

theorem decComp_opt (fx : Option Fix) (src : List Byte) (t : Ty) (st : RState) :
    decComp fx src .o t st =
      if hasNextTag st then (fun p => (Val.some p.1, p.2)) <$> dec fx src t st else ok (.none, st.bump) := by
  simp only [decComp]
  cases dec fx src t st <;> rfl

theorem decFields_cons (fx : Option Fix) (src : List Byte) (k : Kind) (t : Ty) (rest : Fields) (st : RState) :
    decFields fx src (.cons k t rest) st = (do
      let p ← decComp fx src k t st
      let q ← decFields fx src rest p.2
      ok (.cons p.1 q.1, q.2)) := by
  have h : ∀ one : Outcome (Val × RState),
      (match one with
        | .ok (v, st1) =>
          match decFields fx src rest st1 with
          | .ok (vs, st2) => ok (Vals.cons v vs, st2)
          | .err e => err e
          | .panic => panic
        | .err e => err e
        | .panic => panic : Outcome (Vals × RState)) = (do
      let p ← one
      let q ← decFields fx src rest p.2
      ok (.cons p.1 q.1, q.2)) := by
    rintro (⟨v, st1⟩ | _ | _)
    · cases h : decFields fx src rest st1 <;> simp only [bind_ok, h] <;> rfl
    · rfl
    · rfl
  rw [decFields.eq_def]
  exact h _

theorem decComp_counter {fx : Option Fix} {src : List Byte} {k : Kind} {t : Ty} {c : Nat} {tags : List Entry}
    {v : Val} {st' : RState} (hn : ¬ (k = .o ∧ t = .null))
    (h : decComp fx src k t (.enclosed c tags) = ok (v, st')) :
    ∃ tags', st' = .enclosed (c + if Ty.counts t then 1 else 0) tags' := by
  cases k with
  | o =>
    rw [decComp_opt] at h
    split at h
    · obtain ⟨p, hp, h2⟩ := map_ok_inv h
      cases h2
      exact dec_counter hp
    · cases h
      refine ⟨tags, ?_⟩
      cases t <;> first | rfl | exact (hn ⟨rfl, rfl⟩).elim
  | m | d _ => exact dec_counter h

theorem decFields_counter (fx : Option Fix) (src : List Byte) :
    ∀ (fs : Fields) (c : Nat) (tags : List Entry) (vs : Vals) (st' : RState),
    Fields.noOptNull fs = true → decFields fx src fs (.enclosed c tags) = ok (vs, st') →
    ∃ tags', st' = .enclosed (c + Fields.countTo fs fs.length) tags'
  | .nil, c, tags, vs, st', _, h => by cases h; exact ⟨tags, rfl⟩
  | .cons k t rest, c, tags, vs, st', hn, h => by
    simp only [Fields.noOptNull, Bool.and_eq_true] at hn
    rw [decFields_cons] at h
    obtain ⟨p, h1, h2⟩ := bind_eq_ok.1 h
    obtain ⟨q, h3, h4⟩ := bind_eq_ok.1 h2
    cases h4
    obtain ⟨tags1, ht⟩ := decComp_counter (fun ⟨hk, ht⟩ => by subst hk ht; cases hn.1) (show _ = ok (p.1, p.2) from h1)
    rw [ht] at h3
    obtain ⟨tags', ht'⟩ := decFields_counter fx src rest _ tags1 q.1 q.2 hn.2 h3
    exact ⟨tags', by rw [ht']; simp only [Fields.countTo, Fields.length, Nat.add_assoc]⟩

end Asn1Verif.Proto
