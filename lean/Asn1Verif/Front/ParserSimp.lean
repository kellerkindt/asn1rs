import Lean.Meta.Tactic.Simp.RegisterCommand

/-- What every `parse ∘ print` lemma rewrites with: the parser's token interface on an explicit token
    list (`nextOrErr (t :: r)`, `(Token.sep c).eqSep d`, `dots`, `loopCtrl`, a keyword compared with
    itself), `>>=` / `pure` on `Except.ok`, the normal form of `++`.  Nothing about a particular
    construct goes in: those lemmas are named at each use. -/
register_simp_attr tok
