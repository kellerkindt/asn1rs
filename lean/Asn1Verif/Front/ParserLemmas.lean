import Asn1Verif.Front.ParserSpec
import Asn1Verif.Front.ParserNumLemmas
/-
  parse ∘ print for the constructs that do not nest.  Every lemma has the form
  `parseX (printX x ++ rest) = ok (x', rest)` for arbitrary `rest` (with a side condition on how `rest`
  starts where the parser looks ahead), so that the lemmas compose.  Where the token shape decides
  every test the equation holds by `rfl`; what depends on a number or a keyword comparison is rewritten
  with the `tok` set and keyword tables such as `eqIC_keywords`, evaluated once.
-/
namespace Asn1Verif.Front.Syn
open Except

@[simp, tok] theorem FR.bind_ok {α β : Type} (a : α) (f : α → FR β) :
    ((Except.ok a : FR α) >>= f) = f a := rfl
@[simp] theorem FR.bind_error {α β : Type} (e : FErr) (f : α → FR β) :
    ((Except.error e : FR α) >>= f) = .error e := rfl
@[simp] theorem FR.map_ok {α β : Type} (a : α) (f : α → β) :
    (f <$> (Except.ok a : FR α)) = .ok (f a) := rfl
@[simp, tok] theorem FR.pure_eq {α : Type} (a : α) : (pure a : FR α) = .ok a := rfl

@[simp, tok] theorem eqSep_sep (c d : Char) : (Token.sep c).eqSep d = (c == d) := rfl
@[simp, tok] theorem eqSep_text (s : String) (d : Char) : (Token.text s).eqSep d = false := rfl
@[simp, tok] theorem eqTextIC_text (s kw : String) : (Token.text s).eqTextIC kw = eqIC s kw := rfl
@[simp, tok] theorem eqTextIC_sep (c : Char) (kw : String) :
    (Token.sep c).eqTextIC kw = false := rfl
@[simp, tok] theorem isText_text (s : String) : (Token.text s).isText = true := rfl
@[simp, tok] theorem isText_sep (c : Char) : (Token.sep c).isText = false := rfl
@[simp, tok] theorem text?_text (s : String) : (Token.text s).text? = some s := rfl
@[simp, tok] theorem text?_sep (c : Char) : (Token.sep c).text? = none := rfl

@[simp, tok] theorem nextOrErr_cons (t : Token) (r : List Token) :
    nextOrErr (t :: r) = .ok (t, r) := rfl
@[simp, tok] theorem peekOrErr_cons (t : Token) (r : List Token) : peekOrErr (t :: r) = .ok t := rfl
@[simp, tok] theorem nextTextOrErr_text (s : String) (r : List Token) :
    nextTextOrErr (.text s :: r) = .ok (s, r) := rfl
@[simp, tok] theorem nextSepEq_cons (c : Char) (t : Token) (r : List Token) :
    nextSepEq c (t :: r) = if t.eqSep c then .ok r else .error .expectedSeparatorGot := rfl
@[simp, tok] theorem nextIsSep_cons (c : Char) (t : Token) (r : List Token) :
    nextIsSep c (t :: r) = if t.eqSep c then some r else none := rfl
@[simp, tok] theorem nextIsSep_nil (c : Char) : nextIsSep c [] = none := rfl
@[simp, tok] theorem peekIsSep_cons (c : Char) (t : Token) (r : List Token) :
    peekIsSep c (t :: r) = t.eqSep c := rfl
@[simp, tok] theorem peekIsSep_nil (c : Char) : peekIsSep c [] = false := rfl
@[simp, tok] theorem peekIsTextIC_cons (kw : String) (t : Token) (r : List Token) :
    peekIsTextIC kw (t :: r) = t.eqTextIC kw := rfl
@[simp, tok] theorem peekIsTextIC_nil (kw : String) : peekIsTextIC kw [] = false := rfl
@[simp, tok] theorem nextTextEqIC_cons (kw : String) (t : Token) (r : List Token) :
    nextTextEqIC kw (t :: r) = if t.eqTextIC kw then .ok r else .error .expectedTextGot := rfl
@[simp, tok] theorem nextIsTextEqIC_cons (kw : String) (t : Token) (r : List Token) :
    nextIsTextEqIC kw (t :: r) = if t.eqTextIC kw then some r else none := rfl
@[simp, tok] theorem nextIsTextEqIC_nil (kw : String) : nextIsTextEqIC kw [] = none := rfl

@[simp, tok] theorem dots_zero (ts : List Token) : dots 0 ts = .ok ts := rfl
@[simp, tok] theorem dots_succ_dot (n : Nat) (ts : List Token) :
    dots (n + 1) (.sep '.' :: ts) = dots n ts := by
  simp [dots]

@[simp, tok] theorem loopCtrl_comma : loopCtrl (.sep ',') = .ok true := by simp [loopCtrl]
@[simp, tok] theorem loopCtrl_brace : loopCtrl (.sep '}') = .ok false := by simp [loopCtrl]

-- the normal form of the token lists, and of the tests the lemmas above leave behind
attribute [tok] List.cons_append List.nil_append List.append_assoc beq_self_eq_true
  Bool.false_eq_true if_true if_false

def closing (last : Bool) : Char := if last then '}' else ','

theorem closing_cases (last : Bool) : closing last = ',' ∨ closing last = '}' := by
  cases last
  · exact Or.inl rfl
  · exact Or.inr rfl

def afterItem {α : Type} (loop : List Token → FR ((α × Option Nat) × List Token)) (nil : α)
    (last : Bool) (ts : List Token) : FR ((α × Option Nat) × List Token) :=
  if last then .ok ((nil, none), ts) else loop ts

theorem afterItem_false {α : Type} (loop : List Token → FR ((α × Option Nat) × List Token))
    (nil : α) (ts : List Token) : afterItem loop nil false ts = loop ts := rfl

/-- the marker position when it lies among the `len` items that start at index `i` -/
def extIn (ext : Option Nat) (i len : Nat) : Option Nat :=
  match ext with
  | some k => if i ≤ k ∧ k < i + len then some k else none
  | none => none

theorem extIn_here (i len : Nat) (h : 0 < len) : extIn (some i) i len = some i :=
  if_pos ⟨Nat.le_refl i, by omega⟩

theorem extIn_step (ext : Option Nat) (i len : Nat) (h : ext ≠ some i) :
    extIn ext i (len + 1) = extIn ext (i + 1) len := by
  cases ext with
  | none => rfl
  | some k =>
    have hk : k ≠ i := fun e => h (by rw [e])
    simp only [extIn]
    by_cases h1 : i ≤ k ∧ k < i + (len + 1)
    · rw [if_pos h1, if_pos (by omega)]
    · rw [if_neg h1, if_neg (by omega)]

theorem extIn_past (i j len : Nat) (h : i < j) : extIn (some i) j len = none :=
  if_neg fun h' => by omega

theorem extIn_zero (ext : Option Nat) (i : Nat) : extIn ext i 0 = none := by
  cases ext with
  | none => rfl
  | some k => simp [extIn]

theorem extIn_all (ext : Option Nat) (len : Nat) (h : extWf ext len = true) :
    extIn ext 0 len = ext := by
  cases ext with
  | none => rfl
  | some k =>
    have : k < len := by simpa [extWf] using h
    simp [extIn, this]

/-- the parser looks one token ahead after a type: for `(` (constraint), `{` (named numbers) and
    `SIZE` -/
structure RestOk (rest : List Token) : Prop where
  paren : nextIsSep '(' rest = none
  brace : nextIsSep '{' rest = none
  size : peekIsTextIC "SIZE" rest = false

theorem RestOk.sep (c : Char) (r : List Token) (h1 : c ≠ '(') (h2 : c ≠ '{') :
    RestOk (.sep c :: r) := by
  constructor <;> simp [h1, h2]

theorem RestOk.text (s : String) (r : List Token) (h : eqIC s "SIZE" = false) :
    RestOk (.text s :: r) := by
  constructor <;> simp [h]

theorem RestOk.nil : RestOk [] := by constructor <;> rfl

@[simp, tok] theorem tNat_eqSep (n : Nat) (c : Char) : (tNat n).eqSep c = false := rfl
@[simp, tok] theorem tInt_eqSep (i : Int) (c : Char) : (tInt i).eqSep c = false := rfl
@[simp, tok] theorem tNat_isText (n : Nat) : (tNat n).isText = true := rfl

theorem tNat_bind_parseU64 (n : Nat) (h : inU64 n = true) :
    (tNat n).text?.bind parseU64 = some n := by
  rw [tNat, text?_text, Option.bind_some]
  exact parseU64_toString n (of_decide_eq_true h)

theorem tInt_bind_parseI64 (i : Int) (h : inI64 i = true) :
    (tInt i).text?.bind parseI64 = some i := by
  simp only [inI64, Bool.and_eq_true, decide_eq_true_eq] at h
  rw [tInt, text?_text, Option.bind_some]
  exact parseI64_toString i h.1 h.2

@[simp] theorem parseTagNumber_tNat (n : Nat) (h : inU64 n = true) :
    parseTagNumber (tNat n) = .ok n := by
  simp only [parseTagNumber, tNat_bind_parseU64 n h]

@[simp] theorem constantI64_tInt (i : Int) (h : inI64 i = true) : constantI64 (tInt i) = .ok i := by
  simp only [constantI64, tInt_bind_parseI64 i h]

@[simp] theorem constantU64_tNat (n : Nat) (h : inU64 n = true) : constantU64 (tNat n) = .ok n := by
  simp only [constantU64, tNat_bind_parseU64 n h]

/-- where the parser tests for one keyword after another, the tests before the matching one fail -/
theorem eqIC_keywords :
    eqIC "APPLICATION" "UNIVERSAL" = false ∧ eqIC "PRIVATE" "UNIVERSAL" = false ∧
    eqIC "PRIVATE" "APPLICATION" = false ∧ eqIC "DEFAULT" "OPTIONAL" = false ∧
    eqIC "IMPORTS" "END" = false ∧ eqIC "DEFINITIONS" "BEGIN" = false ∧
    eqIC "AUTOMATIC" "BEGIN" = false ∧ eqIC "TAGS" "BEGIN" = false := by decide +kernel

theorem tNat_not_class (n : Nat) :
    (tNat n).eqTextIC "UNIVERSAL" = false ∧ (tNat n).eqTextIC "APPLICATION" = false ∧
      (tNat n).eqTextIC "PRIVATE" = false :=
  ⟨eqIC_nat_kw n _ (by decide +kernel), eqIC_nat_kw n _ (by decide +kernel),
    eqIC_nat_kw n _ (by decide +kernel)⟩

/-- `parse_print_Tag` (C07) -/
theorem nextWithOptTag_print (tag : Option Tag) (h : tagWf tag = true) (s : String)
    (rest : List Token) :
    nextWithOptTag (printTag tag ++ .text s :: rest) = .ok ((.text s, tag), rest) := by
  cases tag with
  | none => rfl
  | some t =>
    cases t <;>
      simp only [tok, printTag, printTagToks, nextWithOptTag, parseTag, eqIC_keywords,
        tNat_not_class, parseTagNumber_tNat _ h]

theorem readConstant_cons {α : Type} (parser : Token → FR α) (n : String) (t : Token)
    (ts : List Token) :
    readConstant parser (.text n :: .sep '(' :: t :: .sep ')' :: ts) =
      (parser t >>= fun v => .ok ((n, v), ts)) := rfl

theorem constantsLoop_print {α : Type} (f : α → Token) (parser : Token → FR α) (ok : α → Bool)
    (hf : ∀ a, ok a = true → parser (f a) = .ok a)
    (cs : List (String × α)) (hne : cs ≠ []) (hcs : cs.all (fun c => ok c.2) = true)
    (fuel : Nat) (hfuel : cs.length ≤ fuel) (rest : List Token) :
    constantsLoop parser fuel (printConstantsLoop f cs ++ rest) = .ok (cs, rest) := by
  induction cs generalizing fuel with
  | nil => exact absurd rfl hne
  | cons c tl ih =>
    obtain ⟨n, v⟩ := c
    simp only [List.all_cons, Bool.and_eq_true] at hcs
    cases fuel with
    | zero => simp at hfuel
    | succ fuel =>
      cases tl with
      | nil =>
        simp only [tok, printConstantsLoop, constantsLoop, readConstant_cons, hf v hcs.1]
      | cons c2 tl2 =>
        have ih' := ih (by simp) hcs.2 fuel (by simpa using hfuel)
        simp only [tok, printConstantsLoop, constantsLoop, readConstant_cons, hf v hcs.1, ih']

theorem maybeReadConstants_print {α : Type} (f : α → Token) (parser : Token → FR α) (ok : α → Bool)
    (hf : ∀ a, ok a = true → parser (f a) = .ok a)
    (cs : List (String × α)) (hcs : cs.all (fun c => ok c.2) = true)
    (fuel : Nat) (hfuel : cs.length ≤ fuel) (rest : List Token)
    (hrest : nextIsSep '{' rest = none) :
    maybeReadConstants parser fuel (printConstants f cs ++ rest) = .ok (cs, rest) := by
  cases cs with
  | nil => simp only [tok, printConstants, maybeReadConstants, hrest]
  | cons c tl =>
    exact constantsLoop_print f parser ok hf (c :: tl) (List.cons_ne_nil _ _) hcs fuel hfuel rest

end Asn1Verif.Front.Syn
