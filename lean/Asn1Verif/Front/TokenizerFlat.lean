import Asn1Verif.Front.Tokenizer
import Asn1Verif.Base.OutcomeLemmas
/-
  The tokenizer as one pass `run` over the *unsplit* text, the line structure of `str::lines()` folded
  into the machine, and `tokenize = run`.  For the proofs only (a rendered text is a concatenation of
  items and separators, not of lines, so the layout theorems of C13 are inductions over `run`); the
  driver executes `tokenize`.
-/
namespace Asn1Verif.Front
open Asn1Verif Outcome

/-- `content_iterator.peek()` seen from the unsplit text: the next character unless the line ends
    here (`\n`, or `\r\n` whose `\r` `str::lines()` drops) -/
def peekC : List Char → Option Char
  | [] => none
  | c :: rest => if c = '\n' ∨ (c = '\r' ∧ rest.head? = some '\n') then none else some c

/-- the current line ends here and is the last one -/
def atEndOfLast (rest : List Char) : Bool :=
  rest = [] || rest = ['\n'] || rest = ['\r', '\n']

/-- `ln` = 1-based line number, `col0` = 0-based column -/
def run : Nat → Nat → Mode → St → List Char → Outcome (List Token)
  | _, _, _, st, [] => ok st.flush.tokens
  | ln, col0, mode, st, c :: rest =>
    if c = '\n' then run (ln + 1) 0 .normal st.flush rest
    else if c = '\r' ∧ rest.head? = some '\n' then run ln (col0 + 1) mode st rest
    else
      match mode with
      | .skipLine => run ln (col0 + 1) .skipLine st rest
      | .skip1 => run ln (col0 + 1) .normal st rest
      | .normal =>
        stepChar (atEndOfLast rest) ln col0 c (peekC rest) st >>= fun (mode', st') =>
          run ln (col0 + 1) mode' st' rest

theorem St.flush_nest (st : St) : st.flush.nest = st.nest := by
  obtain ⟨p, t, n⟩ := st; cases p <;> rfl

@[simp] theorem St.flush_flush (st : St) : st.flush.flush = st.flush := by
  obtain ⟨p, t, n⟩ := st
  cases p <;> rfl

theorem peekC_eq_some {R : List Char} {x : Char} (h1 : x ≠ '\n') (h2 : x ≠ '\r') :
    peekC R = some x ↔ R.head? = some x := by
  cases R with
  | nil => simp [peekC]
  | cons c rest => by_cases h : c = x <;> simp [peekC, h, h1, h2]

theorem lexLine_skipLine (last : Bool) (ln col0 : Nat) (l : List Char) (st : St) :
    lexLine last ln col0 .skipLine l st = ok st := by
  cases l <;> simp [lexLine]

theorem run_cons (ln col0 : Nat) (mode : Mode) (st : St) (c : Char) (rest : List Char) :
    run ln col0 mode st (c :: rest) =
      if c = '\n' then run (ln + 1) 0 .normal st.flush rest
      else if c = '\r' ∧ rest.head? = some '\n' then run ln (col0 + 1) mode st rest
      else
        match mode with
        | .skipLine => run ln (col0 + 1) .skipLine st rest
        | .skip1 => run ln (col0 + 1) .normal st rest
        | .normal =>
          stepChar (atEndOfLast rest) ln col0 c (peekC rest) st >>= fun (mode', st') =>
            run ln (col0 + 1) mode' st' rest := by
  rw [run.eq_def]

theorem lexLine_cons (last : Bool) (ln col0 : Nat) (mode : Mode) (st : St) (c : Char)
    (rest : List Char) :
    lexLine last ln col0 mode (c :: rest) st =
      match mode with
      | .skipLine => ok st
      | .skip1 => lexLine last ln (col0 + 1) .normal rest st
      | .normal =>
        stepChar last ln col0 c rest.head? st >>= fun (mode', st') =>
          lexLine last ln (col0 + 1) mode' rest st' := by
  rw [lexLine.eq_def]
  rfl

theorem splitLines_nl (rest : List Char) : splitLines ('\n' :: rest) = [] :: splitLines rest := by
  rw [splitLines.eq_def]; simp

theorem splitLines_crnl (rest : List Char) :
    splitLines ('\r' :: '\n' :: rest) = [] :: splitLines rest := by
  rw [splitLines.eq_def]; simp

theorem splitLines_eq_nil {s : List Char} : splitLines s = [] ↔ s = [] := by
  fun_cases splitLines s <;> simp [*]

theorem splitLines_cons {c : Char} {rest : List Char} (hc : c ≠ '\n')
    (hcr : ¬ (c = '\r' ∧ rest.head? = some '\n')) :
    splitLines (c :: rest) = (c :: (splitLines rest).headD []) :: (splitLines rest).tail := by
  rw [splitLines.eq_def]
  cases rest with
  | nil => simp [hc, splitLines]
  | cons d rest' =>
    have hcr' : ¬ (c = '\r' ∧ d = '\n') := by simpa using hcr
    simp only [hc, hcr', if_false]
    split <;> simp [*]

theorem stepChar_congr {l1 l2 : Bool} {p1 p2 : Option Char} (ln col0 : Nat) (c : Char) (st : St)
    (hp : p1 = p2) (hl : (p1.isNone && l1) = (p2.isNone && l2)) :
    stepChar l1 ln col0 c p1 st = stepChar l2 ln col0 c p2 st := by
  subst hp
  simp only [stepChar, hl]

theorem splitLines_isEmpty (rest : List Char) : (splitLines rest).isEmpty = decide (rest = []) := by
  rw [Bool.eq_iff_iff]; simp [splitLines_eq_nil]

/-- `peek` and the panic test agree between the two presentations -/
theorem peek_agree (R : List Char) :
    peekC R = ((splitLines R).headD []).head? ∧
      ((peekC R).isNone && atEndOfLast R) =
        (((splitLines R).headD []).head?.isNone && (splitLines R).tail.isEmpty) := by
  fun_cases splitLines R with
  | case1 => exact ⟨rfl, rfl⟩
  | case2 rest => simp [peekC, atEndOfLast, splitLines_isEmpty]
  | case3 c hc => simp [peekC, atEndOfLast, hc]
  | case4 c hc d rest' hcr =>
    obtain ⟨rfl, rfl⟩ := hcr
    simp [peekC, atEndOfLast, splitLines_isEmpty]
  | case5 c hc d rest' hcr hnil => exact absurd (splitLines_eq_nil.mp hnil) (by simp)
  | case6 c hc d rest' hcr l' ls' hs =>
    have : ¬ (c = '\r' ∧ d = '\n' ∧ rest' = []) := fun h => hcr ⟨h.1, h.2.1⟩
    simp [peekC, atEndOfLast, hc, hcr, this]

/-- `tokenize_eq_run` generalised to a start in the middle of line `line0 + 1` -/
theorem run_eq_mid (s : List Char) : ∀ (line0 col0 : Nat) (mode : Mode) (st : St) (count : Nat),
    count = line0 + 1 + (splitLines s).tail.length →
    run (line0 + 1) col0 mode st s =
      (lexLine (line0 == count - 1) (line0 + 1) col0 mode ((splitLines s).headD []) st >>= fun st' =>
        lexLines count (line0 + 1) (splitLines s).tail st'.flush >>= fun st'' =>
          ok st''.flush.tokens) := by
  induction s with
  | nil => intro line0 col0 mode st count _; simp [run, splitLines, lexLine, lexLines]
  | cons c rest ih =>
    intro line0 col0 mode st count hc
    rw [run_cons]
    by_cases hnl : c = '\n'
    · subst hnl
      simp only [splitLines_nl, List.headD_cons, List.tail_cons, lexLine, bind_ok, if_true] at hc ⊢
      cases hs : splitLines rest with
      | nil => rw [splitLines_eq_nil.mp hs]; rfl
      | cons l ls =>
        rw [ih (line0 + 1) 0 .normal st.flush count (by rw [hc, hs]; simp; omega), hs]
        simp only [lexLines, Outcome.bind_assoc, List.headD_cons, List.tail_cons]
    · by_cases hcr : c = '\r' ∧ rest.head? = some '\n'
      · obtain ⟨rfl, hd⟩ := hcr
        cases rest with
        | nil => cases hd
        | cons d rest' =>
          obtain rfl : d = '\n' := by simpa using hd
          simp only [hnl, if_false, List.head?_cons, and_self, if_true, splitLines_crnl] at hc ⊢
          rw [ih line0 (col0 + 1) mode st count (by rwa [splitLines_nl]), splitLines_nl]
          rfl
      · simp only [splitLines_cons hnl hcr, List.headD_cons, List.tail_cons] at hc ⊢
        have IH := fun m st => ih line0 (col0 + 1) m st count hc
        rw [lexLine_cons]
        simp only [hnl, hcr, if_false]
        cases mode with
        | skipLine => rw [IH, lexLine_skipLine]
        | skip1 => exact IH _ _
        | normal =>
          simp only []
          rw [stepChar_congr (l2 := line0 == count - 1) _ _ _ _ (peek_agree rest).1
            (by rw [(peek_agree rest).2, hc]; cases (splitLines rest).tail <;> simp <;> omega)]
          cases stepChar (line0 == count - 1) (line0 + 1) col0 c
              ((splitLines rest).headD []).head? st with
          | ok p => exact IH _ _
          | err k => rfl
          | panic => rfl

theorem tokenize_eq_run (s : List Char) : tokenize s = run 1 0 .normal {} s := by
  cases hs : splitLines s with
  | nil => rw [splitLines_eq_nil.mp hs]; rfl
  | cons l ls =>
    rw [run_eq_mid s 0 0 .normal {} (ls.length + 1) (by rw [hs]; simp; omega), hs]
    simp only [tokenize, hs, List.length_cons, lexLines, Nat.zero_add, Outcome.bind_assoc, List.headD_cons,
      List.tail_cons]

end Asn1Verif.Front
