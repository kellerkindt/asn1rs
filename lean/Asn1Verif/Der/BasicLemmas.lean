import Asn1Verif.Der.Basic
import Asn1Verif.Base.OutcomeLemmas
import Asn1Verif.Base.BigEndian
/-
  The DER mirror (`Der/Basic.lean`).  `lz64 n = 64 - bitWidth n` is the real `u64::leading_zeros`; for
  `n ≠ 0` it is `63 - log2 n` (`lz64_eq`), and every fact about it comes from `Nat.log2_lt` and its halves
  `Nat.log2_self_le`, `Nat.lt_log2_self`.  Each reader gets its equation on the shape of input it inspects
  (`readIntegerU64_eq`, `readIdentifier_cons`, `readLength_cons`); round trips, totality and what a
  successful read consumed are read off those.
-/
namespace Asn1Verif.Der
open Asn1Verif Outcome

/-! ### constants (re-extracted from /repo on every run; `rfl` fails when they change) -/

theorem class_mask_eq : u8 Consts.DER_CLASS_BITS_MASK = 0xC0#8 := rfl
theorem class_universal_eq : u8 Consts.DER_CLASS_BITS_UNIVERSAL = 0x00#8 := rfl
theorem class_application_eq : u8 Consts.DER_CLASS_BITS_APPLICATION = 0x40#8 := rfl
theorem class_context_eq : u8 Consts.DER_CLASS_BITS_CONTEXT_SPECIFIC = 0x80#8 := rfl
theorem class_private_eq : u8 Consts.DER_CLASS_BITS_PRIVATE = 0xC0#8 := rfl
theorem length_short_max_eq : Consts.DER_LENGTH_SHORT_MAX_VALUE = 127 := rfl
theorem length_mask_eq : u8 Consts.DER_LENGTH_BIT_MASK = 0x80#8 := rfl
theorem length_short_eq : u8 Consts.DER_LENGTH_BIT_SHORT_FORM = 0x00#8 := rfl
theorem length_long_eq : u8 Consts.DER_LENGTH_BIT_LONG_FORM = 0x80#8 := rfl

/-! ### big-endian bytes -/

theorem beBytes_eq (k n : Nat) : beBytes k n = BigEndian.beBytes k n := by
  induction k with
  | zero => rfl
  | succ k ih => rw [beBytes, ih, BigEndian.beBytes_succ]; rfl

@[simp] theorem length_beBytes (k n : Nat) : (beBytes k n).length = k :=
  beBytes_eq k n ▸ BigEndian.length_beBytes k n

theorem u8_toNat (n : Nat) : (u8 n).toNat = n % 256 := by
  simp [u8, BitVec.toNat_ofNat]

theorem fromBe_eq (bs : List Byte) : fromBe bs = BigEndian.value bs := rfl

theorem fromBe_lt (bs : List Byte) : fromBe bs < 256 ^ bs.length := BigEndian.value_lt bs

/-! ### `read_exact` -/

theorem readExact_append (bs post : List Byte) (k : Nat) (h : bs.length = k) :
    readExact k (bs ++ post) = ok (bs, post) := by
  unfold readExact
  have : ¬ (bs ++ post).length < k := by simp; omega
  rw [if_neg this, List.take_left' h, List.drop_left' h]

theorem readExact_ne_panic (k : Nat) (inp : List Byte) : readExact k inp ≠ .panic := by
  unfold readExact; split <;> simp

theorem readByte_ne_panic (inp : List Byte) : readByte inp ≠ .panic := by
  cases inp <;> simp [readByte]

theorem readExact_ok {k : Nat} {inp got rest : List Byte} (h : readExact k inp = ok (got, rest)) :
    inp = got ++ rest ∧ got.length = k := by
  unfold readExact at h
  split at h
  · cases h
  · cases h
    exact ⟨(List.take_append_drop k inp).symm, by simp; omega⟩

theorem readByte_ok {inp rest : List Byte} {b : Byte} (h : readByte inp = ok (b, rest)) :
    inp = b :: rest := by
  cases inp with
  | nil => cases h
  | cons c cs => cases h; rfl

/-! ### leading zeros and the number of bytes the writer keeps -/

theorem lz64_eq {n : Nat} (h0 : n ≠ 0) : lz64 n = 63 - n.log2 := by
  unfold lz64 bitWidth; rw [if_neg h0]; omega

/-- number of content bytes `write_integer_u64`/`write_integer_i64` emit for the bit pattern `u` -/
def intLen (u : Nat) : Nat := 8 - min (lz64 u / 8) 7

theorem lz64_div8_le (u : Nat) : lz64 u / 8 ≤ 8 := by
  unfold lz64; omega

theorem intLen_pos (u : Nat) : 1 ≤ intLen u := by unfold intLen; omega
theorem intLen_le (u : Nat) : intLen u ≤ 8 := by unfold intLen; omega

/-- only for zero is the byte count clamped -/
theorem long_form_len (n : Nat) (h0 : n ≠ 0) : 8 - lz64 n / 8 = intLen n := by
  rw [intLen, Nat.min_eq_left]
  rw [lz64_eq h0]
  omega

theorem lt_pow_intLen (u : Nat) (h : u < 2 ^ 64) : u < 256 ^ intLen u := by
  rw [show (256 : Nat) = 2 ^ 8 by decide, ← Nat.pow_mul]
  by_cases h0 : u = 0
  · subst h0; exact Nat.pow_pos (by decide)
  · have hl : u.log2 < 64 := (Nat.log2_lt h0).mpr h
    refine Nat.lt_of_lt_of_le Nat.lt_log2_self (Nat.pow_le_pow_right (by decide) ?_)
    rw [← long_form_len u h0, lz64_eq h0]
    omega

/-- `len.max(1)` of `write_number` -/
theorem number_len (u : Nat) : max (8 - lz64 u / 8) 1 = intLen u := by
  unfold intLen; omega

theorem writeIntegerU64_eq (n : Nat) : writeIntegerU64 n = beBytes (intLen n) n := by
  unfold writeIntegerU64 intLen
  simp only [beBytes_eq, BigEndian.length_beBytes]
  exact BigEndian.drop_beBytes 8 _ n (by omega)

theorem writeIntegerI64_eq (v : Int) : writeIntegerI64 v = writeIntegerU64 (i64AsU64 v) := rfl

theorem length_writeIntegerU64 (n : Nat) : (writeIntegerU64 n).length = intLen n := by
  rw [writeIntegerU64_eq, length_beBytes]

theorem length_writeIntegerI64 (v : Int) : (writeIntegerI64 v).length = intLen (i64AsU64 v) :=
  length_writeIntegerU64 _

/-! ### two's complement casts -/

theorem i64AsU64_u64AsI64 (n : Nat) (h : n < 2 ^ 64) : i64AsU64 (u64AsI64 n) = n := by
  unfold u64AsI64 i64AsU64; split <;> omega

theorem i64AsU64_ofNat (n : Nat) (h : n < 2 ^ 64) : i64AsU64 (n : Int) = n := by
  unfold i64AsU64; omega

theorem u64AsI64_range (n : Nat) (h : n < 2 ^ 64) :
    -(2 ^ 63 : Int) ≤ u64AsI64 n ∧ u64AsI64 n < 2 ^ 63 := by
  unfold u64AsI64; split <;> omega

theorem toI64_emod (t : NumTy) (v : Int) : t.toI64 v % 2 ^ 64 = v % 2 ^ 64 := by
  unfold NumTy.toI64 u64AsI64 i64AsU64; omega

/-- `to_i64` keeps `v` modulo `2^64`, so modulo `2^bits`, and the values of the type are a system of
    representatives -/
theorem fromI64_toI64 (t : NumTy) (v : Int) (h1 : 1 ≤ t.bits) (h64 : t.bits ≤ 64)
    (hv : t.InRange v) : t.fromI64 (t.toI64 v) = v := by
  obtain ⟨s, b⟩ := t
  have hd : (2 : Int) ^ b ∣ 2 ^ 64 :=
    ⟨2 ^ (64 - b), by rw [← Int.pow_add, Nat.add_sub_cancel' h64]⟩
  have hm : NumTy.toI64 ⟨s, b⟩ v % 2 ^ b = v % 2 ^ b := by
    rw [← Int.emod_emod_of_dvd _ hd, toI64_emod, Int.emod_emod_of_dvd _ hd]
  have hp : (2 : Int) ^ b = 2 * 2 ^ (b - 1) := by
    rw [← Int.pow_succ', Nat.sub_add_cancel h1]
  simp only [NumTy.InRange] at hv
  simp only [NumTy.fromI64, hm]
  rw [hp] at hv ⊢
  generalize (2 : Int) ^ (b - 1) = p at hv ⊢
  cases s
  · exact Int.emod_eq_of_lt hv.1 hv.2
  · simp only [if_true] at hv ⊢
    by_cases h0 : 0 ≤ v
    · rw [Int.emod_eq_of_lt h0 (by omega), if_pos hv.2]
    · rw [← Int.add_emod_right, Int.emod_eq_of_lt (by omega) (by omega), if_neg (by omega)]
      omega

theorem NumTy.Valid.bits_le {t : NumTy} (ht : t.Valid) : 1 ≤ t.bits ∧ t.bits ≤ 64 := by
  unfold NumTy.Valid at ht; omega

/-! ### integer content octets -/

theorem readIntegerU64_eq (k : Nat) (inp : List Byte) : readIntegerU64 k inp =
    if 8 < k then err .lengthExceedsLimit
    else readExact k inp >>= fun p => ok (fromBe p.1, p.2) := by
  unfold readIntegerU64
  simp only [List.length_replicate, gt_iff_lt]
  by_cases h : 8 < k
  · rw [if_pos h, if_pos h]
  · rw [if_neg h, if_neg h, uSub_ok (by omega), bind_ok, show 8 - (8 - k) = k by omega]
    cases readExact k inp with
    | ok p => simp only [bind_ok, List.take_replicate, fromBe_eq, BigEndian.value_zeros_append]
    | _ => rfl

theorem readIntegerI64_eq (k : Nat) (inp : List Byte) :
    readIntegerI64 k inp = readIntegerU64 k inp >>= fun p => ok (u64AsI64 p.1, p.2) := by
  unfold readIntegerI64 readIntegerU64
  simp only [List.length_replicate, gt_iff_lt]
  by_cases h : 8 < k
  · rw [if_pos h, if_pos h]; rfl
  · rw [if_neg h, if_neg h, uSub_ok (by omega)]
    simp only [bind_ok]
    cases readExact (8 - (8 - k)) inp <;> rfl

theorem readIntegerU64_beBytes (k n : Nat) (post : List Byte) (hk : k ≤ 8) :
    readIntegerU64 k (beBytes k n ++ post) = ok (n % 256 ^ k, post) := by
  rw [readIntegerU64_eq, if_neg (by omega), readExact_append _ _ _ (length_beBytes k n), bind_ok,
    fromBe_eq, beBytes_eq, BigEndian.value_beBytes]

theorem readIntegerU64_write (n : Nat) (post : List Byte) (h : n < 2 ^ 64) :
    readIntegerU64 (intLen n) (writeIntegerU64 n ++ post) = ok (n, post) := by
  rw [writeIntegerU64_eq, readIntegerU64_beBytes _ _ _ (intLen_le n),
    Nat.mod_eq_of_lt (lt_pow_intLen n h)]

theorem readIntegerI64_write (v : Int) (post : List Byte) :
    readIntegerI64 (intLen (i64AsU64 v)) (writeIntegerI64 v ++ post)
      = ok (u64AsI64 (i64AsU64 v), post) := by
  rw [readIntegerI64_eq, writeIntegerI64_eq, readIntegerU64_write _ _ (i64AsU64_lt v)]
  rfl

theorem readIntegerU64_ne_panic (k : Nat) (inp : List Byte) : readIntegerU64 k inp ≠ .panic := by
  rw [readIntegerU64_eq]
  split
  · nofun
  · exact bind_ne_panic (readExact_ne_panic k inp) fun _ _ => nofun

theorem readIntegerI64_ne_panic (k : Nat) (inp : List Byte) : readIntegerI64 k inp ≠ .panic := by
  rw [readIntegerI64_eq]
  exact bind_ne_panic (readIntegerU64_ne_panic k inp) fun _ _ => nofun

theorem readIntegerU64_ok {k : Nat} {inp rest : List Byte} {n : Nat}
    (h : readIntegerU64 k inp = ok (n, rest)) :
    ∃ got, inp = got ++ rest ∧ got.length = k ∧ k ≤ 8 ∧ n = fromBe got := by
  rw [readIntegerU64_eq] at h
  split at h
  · cases h
  · obtain ⟨⟨got, r⟩, hr, he⟩ := bind_eq_ok.mp h
    cases he
    exact ⟨got, (readExact_ok hr).1, (readExact_ok hr).2, by omega, rfl⟩

/-! ### identifier octet -/

theorem id_octet_class : ∀ (c : TagClass) (k : Fin 64),
    (classBits c ||| u8 k.val) &&& 0xC0#8 = classBits c ∧
    ((classBits c ||| u8 k.val) &&& ~~~ 0xC0#8).toNat = k.val := by
  intro c; cases c <;> decide +kernel

theorem class_bits_cases : ∀ b : Byte,
    b &&& 0xC0#8 = 0x00#8 ∨ b &&& 0xC0#8 = 0x40#8 ∨ b &&& 0xC0#8 = 0x80#8 ∨ b &&& 0xC0#8 = 0xC0#8 := by
  decide +kernel

theorem low6_lt (b : Byte) : (b &&& ~~~ 0xC0#8).toNat < 64 := by
  rw [BitVec.toNat_and]
  exact Nat.lt_succ_of_le Nat.and_le_right

theorem readIdentifier_cons (b : Byte) (rest : List Byte) :
    ∃ c, readIdentifier (b :: rest) = ok (⟨c, (b &&& ~~~ 0xC0#8).toNat⟩, rest) ∧
      classBits c = b &&& 0xC0#8 := by
  unfold readIdentifier
  simp only [readByte, bind_ok, class_mask_eq, class_universal_eq, class_application_eq,
    class_context_eq, class_private_eq]
  rcases class_bits_cases b with h | h | h | h <;> simp only [h]
  · exact ⟨.universal, rfl, rfl⟩
  · exact ⟨.application, rfl, rfl⟩
  · exact ⟨.contextSpecific, rfl, rfl⟩
  · exact ⟨.private_, rfl, rfl⟩

theorem classBits_injective : ∀ c d : TagClass, classBits c = classBits d → c = d := by
  intro c d; cases c <;> cases d <;> decide

theorem readIdentifier_write (t : Tag) (post : List Byte) (h : t.number < 64) :
    readIdentifier (writeIdentifier t ++ post) = ok (t, post) := by
  obtain ⟨c, n⟩ := t
  obtain ⟨hc, hn⟩ := id_octet_class c ⟨n, h⟩
  obtain ⟨d, hd, hcl⟩ := readIdentifier_cons (classBits c ||| u8 n) post
  rw [hc] at hcl
  rw [writeIdentifier, List.singleton_append, hd, hn, classBits_injective d c hcl]

theorem readIdentifier_ne_panic (inp : List Byte) : readIdentifier inp ≠ .panic := by
  cases inp with
  | nil => nofun
  | cons b rest =>
    obtain ⟨c, hc, _⟩ := readIdentifier_cons b rest
    rw [hc]; nofun

theorem readIdentifier_ok {inp rest : List Byte} {t : Tag} (h : readIdentifier inp = ok (t, rest)) :
    ∃ b, inp = b :: rest ∧ t.number = (b &&& ~~~ 0xC0#8).toNat ∧ t.number < 64 := by
  cases inp with
  | nil => cases h
  | cons b rs =>
    obtain ⟨c, hc, _⟩ := readIdentifier_cons b rs
    cases hc.symm.trans h
    exact ⟨b, rfl, rfl, low6_lt b⟩

/-! ### length octets -/

theorem short_octet : ∀ k : Fin 128,
    (0x00#8 ||| u8 k.val) &&& 0x80#8 = 0x00#8 ∧ ((0x00#8 ||| u8 k.val) &&& ~~~ 0x80#8).toNat = k.val := by
  decide +kernel

theorem long_octet : ∀ k : Fin 128,
    (0x80#8 ||| u8 k.val) &&& 0x80#8 ≠ 0x00#8 ∧ ((0x80#8 ||| u8 k.val) &&& ~~~ 0x80#8).toNat = k.val := by
  decide +kernel

theorem writeLength_short (n : Nat) (h : n ≤ 127) : writeLength n = [0x00#8 ||| u8 n] := by
  unfold writeLength
  rw [length_short_max_eq, if_pos h, length_short_eq]

theorem writeLength_long (n : Nat) (h : 127 < n) :
    writeLength n = (0x80#8 ||| u8 (intLen n)) :: writeIntegerU64 n := by
  unfold writeLength
  rw [length_short_max_eq, if_neg (by omega), length_long_eq]
  simp only [long_form_len n (by omega), List.singleton_append]

theorem writeLengthC_eq (n : Nat) : writeLengthC n = ok (writeLength n) := by
  unfold writeLengthC writeLength
  split
  · rfl
  · simp only [uSub_ok (lz64_div8_le n), bind_ok]

theorem readLength_cons (b : Byte) (rest : List Byte) : readLength (b :: rest) =
    if b &&& 0x80#8 = 0x00#8 then ok ((b &&& ~~~ 0x80#8).toNat, rest)
    else readIntegerU64 (b &&& ~~~ 0x80#8).toNat rest := rfl

theorem readLength_write (n : Nat) (post : List Byte) (h : n < 2 ^ 64) :
    readLength (writeLength n ++ post) = ok (n, post) := by
  by_cases hs : n ≤ 127
  · obtain ⟨h1, h2⟩ := short_octet ⟨n, by omega⟩
    rw [writeLength_short n hs, List.singleton_append, readLength_cons, if_pos h1, h2]
  · obtain ⟨h1, h2⟩ := long_octet ⟨intLen n, by have := intLen_le n; omega⟩
    rw [writeLength_long n (by omega), List.cons_append, readLength_cons, if_neg h1, h2]
    exact readIntegerU64_write n post h

theorem readLength_ne_panic (inp : List Byte) : readLength inp ≠ .panic := by
  cases inp with
  | nil => nofun
  | cons b rest =>
    rw [readLength_cons]
    split
    · nofun
    · exact readIntegerU64_ne_panic _ _

/-! ### boolean octet -/

theorem readBoolean_cons (b : Byte) (rest : List Byte) :
    readBoolean (b :: rest) = ok (b != 0#8, rest) := rfl

theorem readBoolean_ne_panic (inp : List Byte) : readBoolean inp ≠ .panic := by
  cases inp <;> nofun

/-! ### `BasicWriter` / `BasicReader` -/

theorem writeNumber_eq (t : NumTy) (tag : Tag) (v : Int) :
    writeNumber t tag v = writeIdentifier tag ++
      (writeLength (intLen (i64AsU64 (t.toI64 v))) ++ writeIntegerI64 (t.toI64 v)) := by
  unfold writeNumber
  simp only [number_len, List.append_assoc]

theorem writeNumberC_eq (t : NumTy) (tag : Tag) (v : Int) :
    writeNumberC t tag v = ok (writeNumber t tag v) := by
  unfold writeNumberC writeNumber
  simp only [uSub_ok (lz64_div8_le _), bind_ok, writeLengthC_eq]

theorem writeEnumeratedC_eq (tag : Tag) (i : Nat) :
    writeEnumeratedC tag i = ok (writeEnumerated tag i) := writeNumberC_eq _ _ _

/-- no range hypothesis on `v`: the written bit pattern comes back converted to the Rust type -/
theorem readNumber_write (t : NumTy) (tag : Tag) (v : Int) (post : List Byte)
    (htag : tag.number < 64) :
    readNumber t tag (writeNumber t tag v ++ post) = ok (t.fromI64 (t.toI64 v), post) := by
  have h8 := intLen_le (i64AsU64 (t.toI64 v))
  unfold readNumber
  rw [writeNumber_eq, List.append_assoc, List.append_assoc, readIdentifier_write tag _ htag]
  simp only [bind_ok, ne_eq, not_true_eq_false, ite_false]
  rw [readLength_write _ _ (by omega)]
  simp only [bind_ok]
  rw [Nat.mod_eq_of_lt (by omega), readIntegerI64_write, NumTy.toI64,
    i64AsU64_u64AsI64 _ (i64AsU64_lt v)]
  rfl

theorem readBooleanTlv_header (tag : Tag) (n : Nat) (rest : List Byte)
    (htag : tag.number < 64) (hn : n < 2 ^ 64) :
    readBooleanTlv tag (writeIdentifier tag ++ (writeLength n ++ rest)) =
      if n = 1 then readBoolean rest else err .other := by
  unfold readBooleanTlv
  rw [readIdentifier_write tag _ htag]
  simp only [bind_ok, ne_eq, not_true_eq_false, ite_false]
  rw [readLength_write n _ hn]
  simp only [bind_ok]
  by_cases h : n = 1
  · rw [if_pos h, if_neg (by omega)]
  · rw [if_neg h, if_pos (by omega)]

theorem readNumber_ne_panic (t : NumTy) (tag : Tag) (inp : List Byte) :
    readNumber t tag inp ≠ .panic := by
  unfold readNumber
  refine bind_ne_panic (readIdentifier_ne_panic inp) ?_
  rintro ⟨identifier, r1⟩ -
  simp only
  split
  · nofun
  · refine bind_ne_panic (readLength_ne_panic r1) ?_
    rintro ⟨len, r2⟩ -
    exact bind_ne_panic (readIntegerI64_ne_panic _ r2) fun _ _ => nofun

theorem readBooleanTlv_ne_panic (tag : Tag) (inp : List Byte) :
    readBooleanTlv tag inp ≠ .panic := by
  unfold readBooleanTlv
  refine bind_ne_panic (readIdentifier_ne_panic inp) ?_
  rintro ⟨identifier, r1⟩ -
  simp only
  split
  · nofun
  · refine bind_ne_panic (readLength_ne_panic r1) ?_
    rintro ⟨len, r2⟩ -
    simp only
    split
    · nofun
    · exact readBoolean_ne_panic r2

theorem readEnumerated_ne_panic (tag : Tag) (count : Nat) (inp : List Byte) :
    readEnumerated tag count inp ≠ .panic := by
  unfold readEnumerated
  refine bind_ne_panic (readNumber_ne_panic _ tag inp) ?_
  rintro ⟨v, rest⟩ -
  simp only
  split <;> nofun

end Asn1Verif.Der
