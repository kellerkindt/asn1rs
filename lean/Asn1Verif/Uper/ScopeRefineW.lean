import Asn1Verif.Uper.ScopeLemmas
/-
  Refinement, writer side, SEQUENCE part: the state of the position-patching writer while it walks the
  components of one SEQUENCE is a function (`SeqEnv.w`) of the accumulator `SeqAcc` of the compositional
  mirror; one component call of the scope machine (`comp`) is one `SeqAcc.step`.
-/
namespace Asn1Verif.Uper
open Asn1Verif Outcome Per

namespace Scope

/-- what stays fixed while the components of one SEQUENCE are written -/
structure SeqEnv where
  /-- extensible (`EXTENDED_AFTER_FIELD` is `Some`) -/
  ext : Bool
  /-- bits of the writer in front of this SEQUENCE -/
  base : Bits
  strict : Bool
  /-- `STD_OPTIONAL_FIELDS` -/
  stdOpt : Nat
  /-- `number_of_ext_fields` -/
  nExt : Nat
  /-- the normally small number `nExt - 1` -/
  sm : Bits

/-- the bits of the writer as a function of the accumulator: reserved presence bits still `0`,
    the addition bitmap still `1` behind the additions seen so far -/
def SeqEnv.bits (e : SeqEnv) (acc : SeqAcc) : Bits :=
  match acc.st with
  | .all => e.base ++ (true :: acc.rootPres ++ acc.rootBody ++ e.sm ++ acc.addPres ++
      List.replicate (e.nExt - acc.addPres.length) true ++ acc.addBody)
  | _ => e.base ++ ((if e.ext then [false] else []) ++ acc.rootPres ++
      List.replicate (e.stdOpt - acc.rootPres.length) false ++ acc.rootBody)

def SeqEnv.scope (e : SeqEnv) (acc : SeqAcc) (rl : Nat) : Scope :=
  match acc.st with
  | .all =>
    .allBitField
      (e.base.length + 1 + acc.rootPres.length + acc.rootBody.length + e.sm.length + acc.addPres.length)
      (e.base.length + 1 + acc.rootPres.length + acc.rootBody.length + e.sm.length + e.nExt)
  | .empty => .extensibleSequenceEmpty
  | .root =>
    if e.ext then
      .extensibleSequence e.base.length
        (some (e.base.length + 1 + acc.rootPres.length, e.base.length + 1 + e.stdOpt)) rl e.nExt
    else .optBitField (e.base.length + acc.rootPres.length) (e.base.length + e.stdOpt)

def SeqEnv.w (e : SeqEnv) (acc : SeqAcc) (rl : Nat) : W :=
  W.of (e.bits acc) (some (e.scope acc rl)) e.strict

/-- the invariant of the walk: `fields` are the components still to come, `rl` of them root -/
def SeqEnv.Inv (e : SeqEnv) (acc : SeqAcc) (fields : Fields) (rl : Nat) : Prop :=
  acc.rootPres.length + fields.optCount rl = e.stdOpt ∧
  match acc.st with
  | .root => acc.addPres = [] ∧ acc.addBody = [] ∧
      (if e.ext then fields.length = rl + e.nExt else fields.length ≤ rl)
  | .all => e.ext = true ∧ rl = 0 ∧ acc.addPres.length + fields.length = e.nExt
  | .empty => e.ext = true ∧ rl = 0

/-! ### the bit-field entry in the states of the walk -/

section walk
variable {e : SeqEnv} {acc : SeqAcc} {rl : Nat} {isOpt p : Bool}

/-- a bitmap reserved as `n` bits `x`; `done` are the bits patched so far -/
theorem patch_next (pre done post : Bits) (n : Nat) (x p : Bool) (sc : Option Scope) (st : Bool)
    (hlt : done.length < n) (pos : Nat) (hpos : pos = pre.length + done.length) :
    W.patch (W.of (pre ++ (done ++ (List.replicate (n - done.length) x ++ post))) sc st) pos p =
      ok (W.of (pre ++ ((done ++ [p]) ++ (List.replicate (n - (done ++ [p]).length) x ++ post))) sc st) := by
  rw [replicate_succ' _ x (Nat.sub_pos_of_lt hlt), List.cons_append, ← List.append_assoc pre,
    patch_mid _ _ p _ _ _ _ (by rw [hpos, List.length_append])]
  simp only [List.length_append, List.length_singleton, List.append_assoc, List.cons_append,
    List.nil_append, Nat.sub_sub]

theorem entry_root
    (hst : acc.st = .root) (hrl : 0 < rl) (hlt : isOpt = true → acc.rootPres.length < e.stdOpt) :
    writeBitFieldEntry (e.w acc rl) isOpt p =
      ok (e.w { acc with rootPres := acc.rootPres ++ (if isOpt then [p] else []) } (rl - 1)) := by
  have h0 : rl ≠ 0 := by omega
  cases isOpt with
  | false =>
    cases hx : e.ext <;>
      simp [writeBitFieldEntry, SeqEnv.w, SeqEnv.scope, SeqEnv.bits, hst, hx, writeIntoField, h0]
  | true =>
    have hb : e.bits acc = (e.base ++ if e.ext then [false] else []) ++ (acc.rootPres ++
        (List.replicate (e.stdOpt - acc.rootPres.length) false ++ acc.rootBody)) := by
      simp only [SeqEnv.bits, hst, List.append_assoc]
    simp only [writeBitFieldEntry, SeqEnv.w, of_scope, SeqEnv.scope, hst, if_true]
    cases hx : e.ext <;>
      simp only [hx, if_true, Bool.false_eq_true, if_false, writeIntoField, h0, hb] <;>
      rw [patch_next _ _ _ _ _ p _ _ (hlt rfl) _ (by simp only [List.length_append, List.length_cons,
        List.length_nil, Nat.add_assoc, Nat.add_zero, Nat.zero_add])] <;>
      simp [SeqEnv.bits, hx, List.append_assoc, Nat.add_assoc]

/-- the first addition, present: extension bit patched to `1`, number of additions and bitmap (all
    ones) appended, scope `AllBitField` behind the first bit of the bitmap -/
theorem entry_first_present (hsm : wSmall (e.nExt - 1) = ok e.sm)
    (hst : acc.st = .root) (hx : e.ext = true) (hfull : acc.rootPres.length = e.stdOpt)
    (hn : 0 < e.nExt) (hap : acc.addPres = []) (hab : acc.addBody = []) :
    writeBitFieldEntry (e.w acc 0) isOpt true =
      ok (e.w { acc with addPres := acc.addPres ++ [true], st := .all } 0) := by
  have hb : e.bits acc = e.base ++ false :: (acc.rootPres ++ acc.rootBody) := by
    simp [SeqEnv.bits, hst, hx, hfull]
  have hu : uSub e.nExt 1 = ok (e.nExt - 1) := by
    unfold uSub; rw [if_pos (by omega)]
  simp only [writeBitFieldEntry, SeqEnv.w, of_scope, SeqEnv.scope, hst, hx, if_true, writeIntoField,
    hb, patch_mid _ _ true _ _ _ _ rfl, bind_ok, hu, hsm, of_append, of_len, of_with_scope,
    ok.injEq, of_inj, and_true]
  constructor
  · simp only [SeqEnv.bits, hap, hab, List.nil_append, List.length_singleton, List.append_nil]
    rw [replicate_succ' e.nExt true hn]
    simp [List.append_assoc]
  · simp only [hap, List.nil_append, List.length_nil, List.length_append,
      List.length_cons, List.length_replicate, Option.some.injEq, allBitField.injEq]
    omega

/-- the first addition, absent: extension bit stays `0`, nothing may follow -/
theorem entry_first_absent (hst : acc.st = .root)
    (hx : e.ext = true) :
    writeBitFieldEntry (e.w acc 0) isOpt false = ok (e.w { acc with st := .empty } 0) := by
  have hb : e.bits acc = e.base ++ false :: (acc.rootPres ++
      List.replicate (e.stdOpt - acc.rootPres.length) false ++ acc.rootBody) := by
    simp [SeqEnv.bits, hst, hx]
  simp only [writeBitFieldEntry, SeqEnv.w, of_scope, SeqEnv.scope, hst, hx, if_true, writeIntoField,
    hb, patch_mid _ _ false _ _ _ _ rfl]
  simp [SeqEnv.bits, hx]

theorem entry_all (hst : acc.st = .all)
    (hlt : acc.addPres.length < e.nExt) :
    writeBitFieldEntry (e.w acc rl) isOpt p =
      ok (e.w { acc with addPres := acc.addPres ++ [p] } rl) := by
  have hb : e.bits acc = (e.base ++ true :: (acc.rootPres ++ acc.rootBody ++ e.sm)) ++ (acc.addPres ++
      (List.replicate (e.nExt - acc.addPres.length) true ++ acc.addBody)) := by
    simp only [SeqEnv.bits, hst, List.append_assoc, List.cons_append]
  simp only [writeBitFieldEntry, SeqEnv.w, of_scope, SeqEnv.scope, hst, writeIntoField, hb]
  rw [patch_next _ _ _ _ _ p _ _ hlt _ (by simp only [List.length_append, List.length_cons]; omega)]
  simp [SeqEnv.bits, List.append_assoc, Nat.add_assoc]

/-- after an absent first addition: a present one is refused, an absent one changes nothing -/
theorem entry_empty (hst : acc.st = .empty) :
    writeBitFieldEntry (e.w acc rl) isOpt p =
      if p then err .extensionInconsistent else ok (e.w acc rl) := by
  simp only [writeBitFieldEntry, SeqEnv.w, of_scope, SeqEnv.scope, hst, writeIntoField]

/-! ### content behind the entry -/

theorem append_root {b : Bits} (hst : acc.st ≠ .all) :
    (e.w acc rl).append b = e.w { acc with rootBody := acc.rootBody ++ b } rl := by
  obtain ⟨rp, rb, ap, ab, st⟩ := acc
  cases st <;> simp_all [SeqEnv.w, of_append, SeqEnv.bits, SeqEnv.scope, List.append_assoc]

theorem append_all {b : Bits} (hst : acc.st = .all) :
    (e.w acc rl).append b = e.w { acc with addBody := acc.addBody ++ b } rl := by
  obtain ⟨rp, rb, ap, ab, st⟩ := acc
  simp only at hst
  subst hst
  simp [SeqEnv.w, of_append, SeqEnv.bits, SeqEnv.scope, List.append_assoc]

theorem openTy_w :
    openTy (e.w acc rl).scope = match acc.st with | .root => false | _ => true := by
  obtain ⟨rp, rb, ap, ab, st⟩ := acc
  cases st <;> simp [SeqEnv.w, SeqEnv.scope]
  cases e.ext <;> simp

theorem root_of_succ {fields : Fields} {n : Nat} (hinv : e.Inv acc fields (n + 1)) :
    acc.st = .root := by
  have := hinv.2
  cases hs : acc.st <;> simp only [hs] at this
  · rfl
  · omega
  · omega

theorem comp_sim (hsm : wSmall (e.nExt - 1) = ok e.sm) {k : Kind} {t : Ty} {rest : Fields}
    {c : Outcome Bits} (hinv : e.Inv acc (.cons k t rest) rl) :
    comp k.isOptional p (k.isOptional || t.buffersOnWrite) c (e.w acc rl) =
      acc.step k t (decide (rl > 0)) p (fun _ => c) >>= fun acc' => ok (e.w acc' (rl - 1)) := by
  obtain ⟨hopt, hinv⟩ := hinv
  unfold comp
  cases rl with
  | succ n =>
    -- a root component
    have hst := root_of_succ ⟨hopt, hinv⟩
    have hlt : k.isOptional = true → acc.rootPres.length < e.stdOpt := by
      intro hk
      simp only [Fields.optCount, hk, if_true] at hopt
      omega
    rw [entry_root (rl := n + 1) hst (by omega) hlt]
    simp only [gt_iff_lt, Nat.zero_lt_succ, decide_true, step_root_eq, bind_ok, Nat.add_sub_cancel,
      openTy_w, hst, Bool.and_false, Bool.false_eq_true, if_false, bind_ok_right, bind_assoc]
    refine bind_congr fun b _ => ?_
    rw [append_root (fun h => by cases h)]
  | zero =>
    -- an extension addition
    have hfull : acc.rootPres.length = e.stdOpt := by rw [optCount_zero] at hopt; omega
    simp only [gt_iff_lt, Nat.lt_irrefl, decide_false, step_add_eq, Nat.zero_sub]
    cases hs : acc.st with
    | root =>
      simp only [hs] at hinv
      obtain ⟨hap, hab, hlen⟩ := hinv
      have hx : e.ext = true := by
        cases hx : e.ext with
        | true => rfl
        | false => simp [hx, Fields.length] at hlen
      have hn : 0 < e.nExt := by simp [hx, Fields.length] at hlen; omega
      cases p with
      | false =>
        rw [entry_first_absent hs hx]
        simp only [Bool.false_eq_true, if_false, bind_ok, append_nil]
      | true =>
        rw [entry_first_present hsm hs hx hfull hn hap hab]
        simp only [bind_ok, if_true, openTy_w, Bool.and_true, addContent, bind_assoc]
        refine bind_congr fun x _ => bind_congr fun b _ => ?_
        rw [append_all rfl]
    | all =>
      simp only [hs] at hinv
      have hlt : acc.addPres.length < e.nExt := by have := hinv.2.2; simp [Fields.length] at this; omega
      rw [entry_all hs hlt]
      simp only [bind_ok, openTy_w, hs, Bool.and_true, addContent, bind_assoc]
      refine bind_congr fun b _ => ?_
      rw [append_all rfl]
    | empty =>
      rw [entry_empty hs]
      cases p with
      | false => simp only [Bool.false_eq_true, if_false, bind_ok, append_nil]
      | true => simp only [if_true, bind_err]

end walk

/-! ### the invariant along the walk -/

theorem step_inv (e : SeqEnv) (acc acc' : SeqAcc) (k : Kind) (t : Ty) (rest : Fields) (rl : Nat)
    (p : Bool) (c : Unit → Outcome Bits) (hinv : e.Inv acc (.cons k t rest) rl)
    (h : acc.step k t (decide (rl > 0)) p c = ok acc') : e.Inv acc' rest (rl - 1) := by
  obtain ⟨hopt, hinv⟩ := hinv
  cases rl with
  | succ n =>
    have hst := root_of_succ ⟨hopt, hinv⟩
    simp only [gt_iff_lt, Nat.zero_lt_succ, decide_true, step_root_eq] at h
    obtain ⟨body, _, ⟨⟩⟩ := bind_eq_ok.1 h
    simp only [hst] at hinv
    simp only [Fields.optCount] at hopt
    refine ⟨?_, ?_⟩
    · simp only [List.length_append, Nat.add_sub_cancel]
      cases hk : k.isOptional <;>
        simp only [hk, if_true, if_false, Bool.false_eq_true, List.length_nil,
          List.length_singleton] at hopt ⊢ <;> omega
    · simp only [hst, Nat.add_sub_cancel]
      refine ⟨hinv.1, hinv.2.1, ?_⟩
      have h3 := hinv.2.2
      cases hx : e.ext <;> simp only [hx, if_true, if_false, Bool.false_eq_true, Fields.length] at h3 ⊢ <;> omega
  | zero =>
    rw [optCount_zero] at hopt
    simp only [gt_iff_lt, Nat.lt_irrefl, decide_false, step_add_eq] at h
    simp only [Nat.zero_sub]
    cases hs : acc.st with
    | root =>
      simp only [hs] at hinv h
      obtain ⟨hap, hab, hlen⟩ := hinv
      have hx : e.ext = true := by
        cases hx : e.ext with
        | true => rfl
        | false => simp [hx, Fields.length] at hlen
      simp only [hx, if_true, Fields.length, Nat.zero_add] at hlen
      cases p with
      | false =>
        cases h
        exact ⟨by rw [optCount_zero]; exact hopt, hx, rfl⟩
      | true =>
        simp only at h
        obtain ⟨body, _, ⟨⟩⟩ := bind_eq_ok.1 h
        refine ⟨by rw [optCount_zero]; exact hopt, hx, rfl, ?_⟩
        simp only [hap, List.nil_append, List.length_singleton]
        omega
    | all =>
      simp only [hs] at hinv h
      obtain ⟨hx, _, hlen⟩ := hinv
      obtain ⟨body, _, ⟨⟩⟩ := bind_eq_ok.1 h
      refine ⟨by rw [optCount_zero]; exact hopt, hx, rfl, ?_⟩
      simp only [List.length_append, List.length_singleton, Fields.length] at hlen ⊢
      omega
    | empty =>
      simp only [hs] at hinv h
      cases p with
      | false =>
        cases h
        exact ⟨by rw [optCount_zero]; exact hopt, by simp only [hs]; exact hinv⟩
      | true => cases h

theorem encFields_inv (e : SeqEnv) : ∀ (fields : Fields) (vs : Vals) (rl : Nat) (acc acc' : SeqAcc),
    e.Inv acc fields rl → encFields fields vs rl acc = ok acc' → e.Inv acc' .nil (rl - fields.length)
  | .nil, vs, rl, acc, acc', hinv, h => by
    cases vs with
    | nil =>
      simp only [encFields, ok.injEq] at h
      subst h
      simpa [Fields.length] using hinv
    | cons v vs => simp [encFields] at h
  | .cons k t rest, vs, rl, acc, acc', hinv, h => by
    cases vs with
    | nil => simp [encFields] at h
    | cons v vs =>
      rw [encFields_cons] at h
      cases hp : presentOf k v with
      | none => simp [hp] at h
      | some p =>
        simp only [hp] at h
        obtain ⟨acc1, h1, h2⟩ := bind_eq_ok.1 h
        have := encFields_inv e rest vs (rl - 1) acc1 acc' (step_inv e acc acc1 k t rest rl p _ hinv h1) h2
        simpa [Fields.length, Nat.sub_sub, Nat.add_comm] using this

/-! ### the whole SEQUENCE -/

/-- what `enc` makes of the final accumulator -/
def seqFinish (ea : Option Nat) (nExt : Nat) (acc : SeqAcc) : Outcome Bits :=
  match ea with
  | none => ok (acc.rootPres ++ acc.rootBody)
  | some _ =>
    match acc.st with
    | .all => wSmall (nExt - 1) >>= fun n =>
        ok (true :: acc.rootPres ++ acc.rootBody ++ n ++ acc.addPres ++ acc.addBody)
    | _ => ok (false :: acc.rootPres ++ acc.rootBody)

theorem enc_seq_finish (so fc : Nat) (ea : Option Nat) (fields : Fields) (vs : Vals) :
    enc (.seq so fc ea fields) (.seq vs) =
      encFields fields vs (rootCountOf ea fields) {} >>= fun acc =>
        seqFinish ea (fields.length - rootCountOf ea fields) acc := by
  rw [enc_seq]
  cases ea <;> rfl

/-- at the end of the walk the scope is exhausted (`debug_assert!` of `scope_pushed`) and the writer
    holds the bits `enc` computes from the accumulator -/
theorem popScope_final {e : SeqEnv} {acc : SeqAcc} {rl : Nat} (ea : Option Nat)
    (hsm : wSmall (e.nExt - 1) = ok e.sm) (hx : e.ext = ea.isSome) (sc : Option Scope)
    (hinv : e.Inv acc .nil rl) :
    (e.w acc rl).popScope sc =
      seqFinish ea e.nExt acc >>= fun x => ok (W.of (e.base ++ x) sc e.strict) := by
  obtain ⟨hopt, hinv⟩ := hinv
  simp only [Fields.optCount, Nat.add_zero] at hopt
  cases hs : acc.st with
  | root =>
    cases ea <;> simp only [Option.isSome_none, Option.isSome_some] at hx <;>
      simp [W.popScope, SeqEnv.w, SeqEnv.scope, SeqEnv.bits, seqFinish, exhausted, hs, hx, hopt]
  | empty =>
    simp only [hs] at hinv
    cases ea with
    | none => simp [hinv.1] at hx
    | some k => simp [W.popScope, SeqEnv.w, SeqEnv.scope, SeqEnv.bits, seqFinish, exhausted, hs, hinv.1, hopt]
  | all =>
    simp only [hs, Fields.length, Nat.add_zero] at hinv
    cases ea with
    | none => simp [hinv.1] at hx
    | some k =>
      simp [W.popScope, SeqEnv.w, SeqEnv.scope, SeqEnv.bits, seqFinish, exhausted, hs, hsm, hinv.2.2,
        List.append_assoc]

theorem writeSeqBody_eq (so fc : Nat) (ea : Option Nat) (fields : Fields) (vs : Vals)
    (hcons : (Ty.seq so fc ea fields).consistent = true) (f : W → Outcome W)
    (hsim : ∀ (e : SeqEnv), wSmall (e.nExt - 1) = ok e.sm → ∀ rl acc, e.Inv acc fields rl →
        f (e.w acc rl) = encFields fields vs rl acc >>= fun acc' => ok (e.w acc' (rl - fields.length)))
    (w1 : W) :
    writeSeqBody so fc ea f w1 = (enc (.seq so fc ea fields) (.seq vs) >>= fun c =>
        if openTy w1.scope then openType c else ok c) >>= fun b => ok (w1.append b) := by
  simp only [Ty.consistent, Bool.and_eq_true, beq_iff_eq] at hcons
  obtain ⟨⟨hfc, hea⟩, _⟩ := hcons
  obtain ⟨sm, hsm⟩ := wSmall_total (fields.length - rootCountOf ea fields - 1)
  obtain ⟨X, sc, st, hX⟩ : ∃ X sc st, w1.enter = W.of X sc st := ⟨_, _, _, eq_of _⟩
  let e : SeqEnv := { ext := ea.isSome, base := X, strict := st, stdOpt := so,
                      nExt := fields.length - rootCountOf ea fields, sm := sm }
  have hinv0 : e.Inv {} fields (rootCountOf ea fields) := by
    cases ea with
    | none =>
      simp only [beq_iff_eq] at hea
      exact ⟨by simp [hea, e], by simp [e]⟩
    | some k =>
      simp only [Bool.and_eq_true, decide_eq_true_eq, beq_iff_eq] at hea
      refine ⟨by simp [hea.2, e], ?_⟩
      simp only [rootCountOf_some, Option.isSome_some, if_true, e, true_and]
      omega
  have hstart : writeSeqBody so fc ea f w1 =
      f (e.w {} (rootCountOf ea fields)) >>= fun wf => wf.popScope sc >>= fun wi3 =>
        w1.leave wi3 := by
    unfold writeSeqBody
    rw [hX]
    cases ea with
    | none =>
      simp only [bind_ok, of_append, of_len, of_with_scope, of_scope, rootCountOf_none]
      congr 2
      simp [SeqEnv.w, SeqEnv.bits, SeqEnv.scope, e]
    | some k =>
      simp only [Bool.and_eq_true, decide_eq_true_eq, beq_iff_eq] at hea
      have hu : uSub fc (k + 1) = ok (fields.length - (k + 1)) := by
        unfold uSub; rw [if_pos (by omega), hfc]
      simp only [bind_ok, of_append, of_len, of_with_scope, of_scope, rootCountOf_some, hu]
      congr 2
      simp [SeqEnv.w, SeqEnv.bits, SeqEnv.scope, e, List.length_append]
  rw [hstart, hsim e hsm _ _ hinv0, enc_seq_finish]
  simp only [bind_assoc, bind_ok]
  refine bind_congr fun acc' hE => ?_
  rw [popScope_final ea hsm rfl sc (encFields_inv e fields vs _ {} acc' hinv0 hE), bind_assoc]
  refine bind_congr fun x _ => ?_
  rw [bind_ok, show W.of (e.base ++ x) sc e.strict = w1.enter.append x by rw [hX, of_append]]
  exact leave_enter_append w1 x

end Scope
end Asn1Verif.Uper
