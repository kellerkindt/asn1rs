import Asn1Verif.Uper.ConformDefs
import Asn1Verif.Uper.SeqPrimLemmas
/-
  C02, writer side — one lemma per node kind: outside the known deviation classes
  `enc t v = ok bits → X691.encode t v = some bits`, the composite kinds (SEQUENCE OF, CHOICE) from the
  statement for their children.  `wExtLen_sized` relates `write_extensible_bit_and_length_or_err` + items to
  `X691.sized` for fewer than 16K items.
-/
namespace Asn1Verif.Uper
open Asn1Verif Outcome Per

def Conform (t : Ty) : Prop :=
  ∀ v bits, rangeOk t v = true → enc t v = ok bits → X691.encode t v = some bits

def ConformAlt (alts : Fields) : Prop :=
  ∀ i x bits, rangeOkAlt alts i x = true → encAlt alts i x = ok bits →
    X691.encodeAlt alts i x = some bits

theorem cw_bool : Conform .bool := by
  intro v bits _ h
  unfold enc at h
  split at h
  · cases h; rfl
  · cases h

theorem cw_null : Conform .null := by
  intro v bits _ h
  unfold enc at h
  split at h
  · cases h; rfl
  · cases h

theorem cw_int {min max : Option Int} {ext : Bool} {w : Nat} {s : Bool}
    (hd : intOk min max ext = true) : Conform (.int min max ext w s) := by
  intro v bits hr h
  unfold enc at h
  split at h
  case h_2 => cases h
  rename_i i
  unfold rangeOk at hr
  simp only [Bool.and_eq_true, decide_eq_true_eq] at hr
  have hu := wUnconstrained_ok i hr.1 hr.2
  unfold X691.encode X691.intRoot
  unfold intOk at hd
  split at hd
  · -- `(lb..ub)`, also extensible: 11.5 inside the root, 11.8 outside (extensible only)
    rename_i lb ub
    have hub : X691.ubInt (some ub) = some ub := by simpa [X691.ubInt] using hd
    by_cases hin : lb ≤ i ∧ i ≤ ub
    · have hno : ¬ (i < lb ∨ i > ub) := by omega
      have hc := wConstrained_ok lb ub i hin.1 hin.2
      cases ext <;> simp [hno, hc] at h <;> simp [hub, hin, h]
    · have hout : i < lb ∨ i > ub := by omega
      have hc := wConstrained_err lb ub i (by omega)
      cases ext <;> simp [hout, hc, hu] at h <;> simp [hub, hin, h]
  · -- unconstrained, not extensible
    simp only [Bool.not_eq_true'] at hd
    subst hd
    simp [hu] at h
    simp [X691.ubInt, h]
  · cases hd

theorem wIndex_index {std : Nat} {ext : Bool} {i : Nat} {idx : Bits} (h : wIndex std ext i = ok idx)
    (hi : i ≤ U64_MAX) : idx = X691.index std ext i ∧ (i < std ∨ ext = true) := by
  by_cases c : i < std
  · rw [wIndex_root std ext i c] at h
    exact ⟨(ok.inj h).symm, Or.inl c⟩
  · cases ext with
    | false => rw [wIndex_err std i (by omega)] at h; cases h
    | true =>
      rw [wIndex_ext std i (by omega) hi] at h
      exact ⟨(ok.inj h).symm, Or.inr rfl⟩

theorem cw_enum {std total : Nat} {ext : Bool} : Conform (.enum std total ext) := by
  intro v bits hr h
  unfold enc at h
  split at h
  case h_2 => cases h
  unfold rangeOk at hr
  simp only [Bool.and_eq_true, decide_eq_true_eq] at hr
  obtain ⟨rfl, hadm⟩ := wIndex_index h (by omega)
  unfold X691.encode
  exact if_pos ⟨hr.1, hadm⟩

theorem lenOk_not_dev {min max : Option Nat} (h : lenOk min max = true) : ¬ LenDeviates min max := by
  simpa [lenOk] using h

theorem ubNat_of_not_dev {min max : Option Nat} (hd : ¬ LenDeviates min max) : X691.ubNat max = max := by
  cases max with
  | none => rfl
  | some u =>
    have hu : u < 65536 := not_dev_some hd
    have : u < I64MAXu := by rw [I64MAXu_eq]; omega
    simp [X691.ubNat, Option.filter, this]

theorem sized_ok {w : Bool → Outcome Bits} {spec : Bool → Bits} {min max : Option Nat} {n : Nat}
    {ext : Bool} {bits : Bits}
    (hrej : (n < min.getD 0 ∨ n > max.getD I64MAXu) → w false = err .sizeNotInRange)
    (hpat : ∀ ext, ext = true ∨ X691.inRoot min max n = true → w ext = ok (spec ext))
    (h : w ext = ok bits) : (ext = true ∨ X691.inRoot min max n = true) ∧ spec ext = bits := by
  have hadm : ext = true ∨ X691.inRoot min max n = true := by
    cases ext with
    | true => exact Or.inl rfl
    | false =>
      cases hin : X691.inRoot min max n with
      | true => exact Or.inr rfl
      | false => rw [hrej (not_inRoot_outOfRange min max n hin)] at h; cases h
  rw [hpat ext hadm] at h
  exact ⟨hadm, ok.inj h⟩

theorem cw_oct {min max : Option Nat} {ext : Bool} (hd : lenOk min max = true) :
    Conform (.oct min max ext) := by
  intro v bits hr h
  unfold enc at h
  split at h
  case h_2 => cases h
  rename_i s
  have hd := lenOk_not_dev hd
  obtain ⟨hadm, rfl⟩ := sized_ok (wOctets_rejects min max s)
    (fun e => wOctets_pattern min max e s hd (of_decide_eq_true hr)) h
  unfold X691.encode X691.inSize
  rw [ubNat_of_not_dev hd]
  exact if_pos hadm

theorem cw_bits {min max : Option Nat} {ext : Bool} (hd : lenOk min max = true) :
    Conform (.bits min max ext) := by
  intro v bits hr h
  unfold enc at h
  split at h
  case h_2 => cases h
  rename_i s
  have hd := lenOk_not_dev hd
  obtain ⟨hadm, rfl⟩ := sized_ok (wBitString_rejects min max s)
    (fun e => wBitString_pattern min max e s hd (of_decide_eq_true hr)) h
  unfold X691.encode X691.inSize
  rw [ubNat_of_not_dev hd]
  exact if_pos hadm

theorem wExtLen_sized {α : Type} (encItems : List α → Bits) (ext : Bool) (min max : Option Nat)
    (upperLimit : Nat) (xs : List α) (hdr : Bits)
    (hd : lenOk min max = true) (hn : xs.length < 16384) (hul : 16384 ≤ upperLimit)
    (hnil : encItems [] = [])
    (hw : wExtLen ext min max upperLimit xs.length = ok hdr) :
    (ext = true ∨ X691.inSize min max xs.length = true) ∧
      hdr ++ encItems xs = X691.sized encItems min (X691.ubNat max) ext xs := by
  have hd := lenOk_not_dev hd
  rw [ubNat_of_not_dev hd]
  unfold wExtLen at hw
  unfold X691.sized X691.inSize X691.inRoot
  rw [ubNat_of_not_dev hd]
  cases max with
  | none =>
    obtain rfl := not_dev_none hd
    have hno : ¬ xs.length > upperLimit := by omega
    simp [hno, wLen_unc] at hw
    subst hw
    simp [fragU_lt _ _ hn]
  | some u =>
    have hu : u < 65536 := not_dev_some hd
    by_cases hoor : xs.length < min.getD 0 ∨ xs.length > u
    · cases ext <;> simp [hoor, wLen_unc] at hw
      subst hw
      have : ¬ (min.getD 0 ≤ xs.length ∧ xs.length ≤ u) := by omega
      simp [this, fragU_lt _ _ hn]
    · have hlen : min.getD 0 ≤ xs.length ∧ xs.length ≤ u := by omega
      simp [hoor, wLen_con min u _ hu hlen.1 hlen.2] at hw
      subst hw
      simp [hlen, hu]
      -- `ub = 0` and the fixed size carry no length: the field of a one-value range is empty
      split
      · obtain rfl : xs = [] := List.eq_nil_of_length_eq_zero (by omega)
        simp [X691.constrainedNat, X691.offsetField, *]
      · split
        · simp [X691.constrainedNat, X691.offsetField, *]
        · rfl

theorem cw_str {cs : Charset} {min max : Option Nat} {ext : Bool}
    (hd : (cs == .utf8 || lenOk min max) = true) : Conform (.str cs min max ext) := by
  intro v bits hr h
  unfold enc at h
  split at h
  case h_2 => cases h
  unfold rangeOk at hr
  unfold X691.encode
  dsimp only at hr ⊢
  split at h
  · cases h
  rename_i chars hu
  rw [hu] at hr ⊢
  dsimp only at hr ⊢
  split at h
  · -- UTF8String: an unconstrained OCTET STRING
    split at h
    · cases h
    · rw [wOctets_unc_ok _ _ h]
  · -- a known-multiplier string
    rename_i hcs
    have hne : (cs == Charset.utf8) = false := by cases cs <;> first | rfl | exact (hcs rfl).elim
    rw [hne, Bool.false_or] at hd hr
    split
    · exact (hcs rfl).elim
    split at h
    · cases h
    rename_i hval
    obtain ⟨hdr, hw, h⟩ := bind_eq_ok.1 h
    cases h
    have := wExtLen_sized (fun l => (l.map (charBits cs)).flatten) ext min max U64_MAX chars hdr hd
      (of_decide_eq_true hr) (by decide) rfl hw
    rw [← this.2]
    exact if_pos ⟨by simpa using hval, this.1⟩

theorem cw_list {elem : Ty} (ih : Conform elem) : ∀ (vs : Vals) (body : Bits),
    allVals (rangeOk elem) vs = true → encListWith (enc elem) vs = ok body →
    ∃ items, X691.encodeListWith (X691.encode elem) vs = some items ∧ items.flatten = body ∧
      items.length = vs.length
  | .nil, body, _, h => by
    cases h
    exact ⟨[], rfl, rfl, rfl⟩
  | .cons v vs, body, hp, h => by
    simp only [allVals, Bool.and_eq_true] at hp
    unfold encListWith at h
    obtain ⟨a, ha, h⟩ := bind_eq_ok.1 h
    obtain ⟨b, hb, h⟩ := bind_eq_ok.1 h
    cases h
    obtain ⟨items, h1, rfl, h3⟩ := cw_list ih vs b hp.2 hb
    refine ⟨a :: items, ?_, rfl, congrArg (· + 1) h3⟩
    simp only [X691.encodeListWith, ih v a hp.1 ha, h1]

theorem cw_seqOf {min max : Option Nat} {ext : Bool} {elem : Ty} (hd : lenOk min max = true)
    (ih : Conform elem) : Conform (.seqOf min max ext elem) := by
  intro v bits hr h
  unfold enc at h
  split at h
  case h_2 => cases h
  rename_i vs
  unfold rangeOk at hr
  simp only [Bool.and_eq_true, decide_eq_true_eq] at hr
  obtain ⟨hdr, hh, h⟩ := bind_eq_ok.1 h
  obtain ⟨body, hb, h⟩ := bind_eq_ok.1 h
  cases h
  obtain ⟨items, h1, rfl, h3⟩ := cw_list ih vs body hr.2 hb
  rw [← h3] at hh hr
  have := wExtLen_sized List.flatten ext min max I64MAXu items hdr hd hr.1 (by decide) rfl hh
  unfold X691.encode
  simp only [h1]
  rw [← this.2]
  exact if_pos this.1

theorem encAlt_ok_lt : ∀ (alts : Fields) (i : Nat) (x : Val) (c : Bits), encAlt alts i x = ok c →
    i < alts.length
  | .nil, _, _, _, h => by cases h
  | .cons .., 0, _, _, _ => Nat.succ_pos _
  | .cons _ _ r, i + 1, x, c, h => Nat.succ_lt_succ (encAlt_ok_lt r i x c h)

theorem cw_choice {std total : Nat} {ext : Bool} {alts : Fields} (hc : total = alts.length)
    (ih : ConformAlt alts) : Conform (.choice std total ext alts) := by
  intro v bits hr h
  unfold enc at h
  split at h
  case h_2 => cases h
  rename_i i x
  unfold rangeOk at hr
  simp only [Bool.and_eq_true, decide_eq_true_eq] at hr
  obtain ⟨idx, hi, h⟩ := bind_eq_ok.1 h
  obtain ⟨content, hcn, h⟩ := bind_eq_ok.1 h
  have h1 := ih i x content hr.2 hcn
  have h2 := encAlt_ok_lt alts i x content hcn
  obtain ⟨rfl, hadm⟩ := wIndex_index hi (by omega)
  unfold X691.encode
  dsimp only
  rw [if_pos ⟨by omega, hadm⟩, h1]
  dsimp only
  split at h
  · obtain ⟨o, ho, h⟩ := bind_eq_ok.1 h
    cases h
    rw [if_neg (by omega), openType_conform _ _ ho]
  · cases h
    rw [if_pos (by omega)]

end Asn1Verif.Uper
