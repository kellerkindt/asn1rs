import Asn1Verif.Proto.Schema
import Asn1Verif.Proto.RoundTripLemmas
/- C18: the fields the writer emits against the rows of the schema model. -/
namespace Asn1Verif.Proto.Schema
open Asn1Verif Asn1Verif.Proto Outcome
open Asn1Verif.Uper (Ty Val Vals Fields Kind utf8Decode castInt)

theorem rows_numbers : ∀ (fs : Fields) (n : Nat),
    (rows fs n).map Prod.fst = (List.range fs.length).map (· + n + 1)
  | .nil, n => by simp [rows, Fields.length]
  | .cons k t rest, n => by
    simp only [rows, List.map_cons, Fields.length, rows_numbers rest (n + 1)]
    rw [List.range_succ_eq_map]
    simp only [List.map_cons, List.map_map, Nat.zero_add]
    congr 1
    apply List.map_congr_left
    intro a _
    simp only [Function.comp]
    omega

theorem rows_get : ∀ (fs : Fields) (n j : Nat) (k : Kind) (t : Ty), Fields.get? fs j = some (k, t) →
    (rows fs n)[j]? = some (n + j + 1, ptype t)
  | .nil, n, j, k, t, h => by simp [Fields.get?] at h
  | .cons k0 t0 rest, n, 0, k, t, h => by
    simp only [Fields.get?, Option.some.injEq, Prod.mk.injEq] at h
    simp [rows, h.2]
  | .cons k0 t0 rest, n, j + 1, k, t, h => by
    simp only [Fields.get?] at h
    have := rows_get rest (n + 1) j k t h
    simp only [rows, List.getElem?_cons_succ, this]
    congr 2; omega

theorem wire_ptype : ∀ (t : Ty), (ptype t).wire = Ty.fmt t
  | .int mn mx e w s => by
    simp only [ptype, Ty.fmt]
    split <;> split <;> rfl
  | .seqOf _ _ _ elem => wire_ptype elem
  | .bool | .null | .enum _ _ _ | .str _ _ _ _ | .oct _ _ _ | .bits _ _ _ | .seq _ _ _ _
  | .choice _ _ _ _ => rfl

theorem encI_fmt {t : Ty} {v : Val} {c : Nat} {l : List Item} {c' : Nat} (h : encI t v c = ok (l, c')) :
    ∀ it ∈ l, it.fmt = (ptype t).wire :=
  fun it hit => by rw [wire_ptype]; exact ((encI_spec t v c l c' h).2 it hit).2.2.1

theorem encFieldsI_rows : ∀ (fs : Fields) (vs : Vals) (c : Nat) (ls : List (List Item)) (c' : Nat),
    Fields.noOptNull fs = true → encFieldsI fs vs c = ok (ls, c') →
    ∀ (j : Nat) (l : List Item), ls[j]? = some l →
    ∃ k t, Fields.get? fs j = some (k, t) ∧
      ∀ it ∈ l, it.num = c + Fields.countTo fs j + 1 ∧ it.fmt = (ptype t).wire
  | .nil, vs, c, ls, c', _, h, j, l, hl => by
    rw [(encFieldsI_nil_inv h).1] at hl
    cases hl
  | .cons k t rest, vs, c, ls, c', hnn, h, j, l, hl => by
    obtain ⟨v, vs', a, c1, b, rfl, h1, h2, rfl⟩ := encFieldsI_cons_inv h
    simp only [Fields.noOptNull, Bool.and_eq_true] at hnn
    obtain ⟨_, _, hit, hc1⟩ := encComp_spec h1
    cases j with
    | zero =>
      cases hl
      exact ⟨k, t, rfl, fun it hi => ⟨(hit it hi).2.1, by rw [wire_ptype]; exact (hit it hi).2.2.1⟩⟩
    | succ j =>
      obtain ⟨k', t', hg, hall⟩ := encFieldsI_rows rest vs' c1 b c' hnn.2 h2 j l hl
      refine ⟨k', t', hg, fun it hi => ⟨?_, (hall it hi).2⟩⟩
      rw [(hall it hi).1, hc1 (fun ⟨hk, ht⟩ => by subst hk ht; cases hnn.1)]
      simp only [Fields.countTo]; omega

theorem encAltI_row : ∀ (alts : Fields) (i idx : Nat) (x : Val) (content : List Item),
    encAltI alts i idx x = ok content →
    ∃ k t, Fields.get? alts i = some (k, t) ∧ ∀ it ∈ content, it.num = idx + 1 ∧ it.fmt = (ptype t).wire
  | .nil, i, idx, x, content, h => by simp [encAltI] at h
  | .cons k t rest, 0, idx, x, content, h => by
    obtain ⟨p, he, hp⟩ := map_ok_inv (show Prod.fst <$> encI t x idx = ok content from h)
    cases hp
    exact ⟨k, t, rfl, fun it hit =>
      ⟨(encI_num he).2 it hit, encI_fmt he it hit⟩⟩
  | .cons k t rest, i + 1, idx, x, content, h => by
    simp only [encAltI] at h
    obtain ⟨k', t', hg, hall⟩ := encAltI_row rest i idx x content h
    exact ⟨k', t', by simp [Fields.get?, hg], hall⟩

end Asn1Verif.Proto.Schema
