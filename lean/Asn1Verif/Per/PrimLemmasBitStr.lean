import Asn1Verif.Per.PrimLemmasStr
/- BIT STRING (16): the instance of `wStr`/`rStr` whose items are bits; an upper bound 0 is no shortcut here. -/
namespace Asn1Verif.Per
open Asn1Verif Outcome

theorem wBitFrag_step (rest : Bits) :
    wBitFrag rest = wLen none none rest.length >>= fun p =>
      if p.2.getD rest.length ≤ rest.length then
        if _hfs : p.2.getD rest.length < Consts.MIN_FRAGMENT_SIZE then
          ok (p.1 ++ rest.take (p.2.getD rest.length))
        else wBitFrag (rest.drop (p.2.getD rest.length)) >>= fun more =>
          ok (p.1 ++ rest.take (p.2.getD rest.length) ++ more)
      else err .endOfStream := by
  rw [wBitFrag]
  cases wLen none none rest.length with
  | ok p =>
    refine ite_congr rfl (fun _ => dite_congr rfl (fun _ => rfl) fun _ => ?_) fun _ => rfl
    cases wBitFrag (rest.drop (p.2.getD rest.length)) <;> rfl
  | err k => rfl
  | panic => rfl

/- `fun x => x` and not `id`, here only, where `hstep` of `wFrag_eq` is unified with `wBitFrag_step`:
   the kernel beta-reduces it at once, whereas with `id (rest.take k)` against `rest.take k` it
   unfolds `List.take` first -/
theorem wBitFrag_eq (rest : Bits) : wBitFrag rest = ok (X691.fragU id rest) :=
  wFrag_eq (enc := fun x => x) wBitFrag_step rest

theorem rBitFrag_step (acc bs : Bits) :
    rBitFrag acc bs = rLen none none bs >>= fun p => rdBits p.1 p.2 >>= fun q =>
      if p.1 < Consts.LENGTH_16K then ok (acc ++ q.1, q.2)
      else if _hlt : q.2.length < bs.length then rBitFrag (acc ++ q.1) q.2 else panic := by
  rw [rBitFrag]
  cases rLen none none bs with
  | ok p =>
    obtain ⟨n, r⟩ := p
    dsimp only [bind_ok]
    rcases rdBits n r with ⟨d, r'⟩ | k | _ <;> rfl
  | err k => rfl
  | panic => rfl

theorem rBitFrag_rt (s acc post : Bits) :
    rBitFrag acc (X691.fragU id s ++ post) = ok (acc ++ s, post) :=
  rFrag_rt (enc := id) (cnt := id) (dec := id) (fun _ => rfl) (fun _ => rfl) rBitFrag_step s acc post

theorem wBitString_str (lb ub : Option Nat) (ext : Bool) (src : Bits) :
    wBitString lb ub ext src = wStr id wBitFrag (err .endOfStream) false lb ub ext src := by
  simp only [wStr, Bool.false_eq_true, false_and, if_false]
  rfl

theorem rBitString_str (lb ub : Option Nat) (ext : Bool) (bs : Bits) :
    rBitString lb ub ext bs = rStr id id rBitFrag false lb ub ext bs := by
  simp only [rStr, Bool.false_eq_true, false_and, if_false]
  rfl

theorem wBitString_ext_out (lb ub : Option Nat) (src : Bits)
    (h : src.length < lb.getD 0 ∨ src.length > ub.getD I64MAXu) :
    wBitString lb ub true src = ok (true :: X691.fragU id src) := by
  rw [wBitString_str, wStr_ext_out wBitFrag_eq lb ub src h]

theorem wBitString_rejects (lb ub : Option Nat) (src : Bits)
    (h : src.length < lb.getD 0 ∨ src.length > ub.getD I64MAXu) :
    wBitString lb ub false src = err .sizeNotInRange := by
  rw [wBitString_str, wStr_rejects lb ub src h]

theorem wBitString_pattern (lb ub : Option Nat) (ext : Bool) (src : Bits)
    (hd : ¬ LenDeviates lb ub) (hn : src.length ≤ I64MAXu)
    (hadm : ext = true ∨ X691.inRoot lb ub src.length = true) :
    wBitString lb ub ext src = ok (X691.bitString lb ub ext src) := by
  rw [wBitString_str]
  exact wStr_pattern wBitFrag_eq rfl lb ub ext src hd hn hadm

theorem rBitString_wBitString (lb ub : Option Nat) (ext : Bool) (s bits post : Bits)
    (hub : ∀ u, ub = some u → u ≤ U64_MAX)
    (hw : wBitString lb ub ext s = ok bits) : rBitString lb ub ext (bits ++ post) = ok (s, post) := by
  rw [wBitString_str] at hw
  rw [rBitString_str]
  exact rStr_wStr (cnt := id) (dec := id) wBitFrag_eq (fun _ => rfl) (fun _ => rfl) rBitFrag_rt
    lb ub ext s bits post hub hw

end Asn1Verif.Per
