import Asn1Verif.Front.ParserModuleLemmas
/- parse ∘ print for whole modules: the body loop of `Model::try_from` and the header. -/
namespace Asn1Verif.Front.Syn
open Except

def canonDefinition (d : UDefinition) : UDefinition := { d with ty := canonTy d.ty }
def canonValueReference (v : UValueReference) : UValueReference := { v with ty := canonTy v.ty }

def printDefs (defs : List UDefinition) : List Token :=
  defs.flatMap printDefinition ++ [.text "END"]

def printItems (vrs : List UValueReference) (defs : List UDefinition) : List Token :=
  vrs.flatMap printValueReference ++ printDefs defs

theorem restOk_printDefs (defs : List UDefinition) (hw : defs.all definitionWf = true) :
    RestOk (printDefs defs) := by
  cases defs with
  | nil => exact RestOk.text _ _ eqIC_SIZE.2.2.2
  | cons d tl =>
    simp only [List.all_cons, Bool.and_eq_true, definitionWf, topNameWf, Bool.not_eq_true'] at hw
    simp only [tok, printDefs, List.flatMap_cons, printDefinition]
    exact RestOk.text _ _ hw.1.1.1.2

theorem restOk_printItems (vrs : List UValueReference) (defs : List UDefinition)
    (hv : vrs.all valueReferenceWf = true) (hw : defs.all definitionWf = true) :
    RestOk (printItems vrs defs) := by
  cases vrs with
  | nil => simpa [printItems] using restOk_printDefs defs hw
  | cons v tl =>
    simp only [List.all_cons, Bool.and_eq_true, valueReferenceWf, topNameWf, Bool.not_eq_true'] at hv
    simp only [tok, printItems, List.flatMap_cons, printValueReference]
    exact RestOk.text _ _ hv.1.1.1.2

theorem bodyLoop_end (f : Nat) (ts : List Token) : bodyLoop (f + 1) (.text "END" :: ts) = .ok {} := by
  rw [bodyLoop]
  simp only [tok]

theorem bodyLoop_imports (f : Nat) (ts : List Token) :
    bodyLoop (f + 1) (.text "IMPORTS" :: ts) =
      (importsLoop f [] ts >>= fun r => bodyLoop f r.2 >>= fun b =>
        .ok { b with imports := r.1 ++ b.imports }) := by
  rw [bodyLoop]
  simp only [tok, eqIC_keywords]

theorem bodyLoop_item (f : Nat) (name : String) (hname : topNameWf name = true) (ts : List Token) :
    bodyLoop (f + 1) (.text name :: ts) =
      if peekIsSep ':' ts then
        readDefinition f name ts >>= fun r => bodyLoop f r.2 >>= fun b =>
          .ok { b with definitions := r.1 :: b.definitions }
      else
        readValueReference f name ts >>= fun r => bodyLoop f r.2 >>= fun b =>
          .ok { b with valueReferences := r.1 :: b.valueReferences } := by
  simp only [topNameWf, Bool.and_eq_true, Bool.not_eq_true'] at hname
  rw [bodyLoop]
  simp only [tok, hname.1.1, hname.1.2]

theorem bodyLoop_defs (defs : List UDefinition) (hw : defs.all definitionWf = true)
    (hnw : defs.all (fun d => tyNoWiden d.ty) = true) :
    ∀ fuel : Nat, (printDefs defs).length < fuel + 1 →
      bodyLoop fuel (printDefs defs) = .ok { definitions := defs.map canonDefinition } := by
  induction defs with
  | nil =>
    intro fuel hf
    obtain ⟨f, rfl⟩ : ∃ f, fuel = f + 1 := ⟨fuel - 1, Nat.eq_add_of_sub_eq (Nat.le_of_lt_succ hf) rfl⟩
    exact bodyLoop_end f []
  | cons d tl ih =>
    intro fuel hf
    simp only [List.all_cons, Bool.and_eq_true] at hw hnw
    have hname := hw.1
    simp only [definitionWf, Bool.and_eq_true] at hname
    have hprint : printDefs (d :: tl) =
        .text d.name :: .sep ':' :: .sep ':' :: .sep '=' :: (printTag d.tag ++ (printTy d.ty ++ printDefs tl)) := by
      simp only [tok, printDefs, printDefinition, List.flatMap_cons]
    rw [hprint] at hf ⊢
    simp only [List.length_cons, List.length_append] at hf
    obtain ⟨f, rfl⟩ : ∃ f, fuel = f + 1 := ⟨fuel - 1, by omega⟩
    have hty : (tyTail d.ty).length < (printTy d.ty).length := Nat.lt_succ_self _
    rw [bodyLoop_item f d.name hname.1.1, peekIsSep_cons, eqSep_sep, beq_self_eq_true, if_pos rfl,
      readDefinition_print d f (printDefs tl) hw.1 hnw.1 (restOk_printDefs tl hw.2) (by omega),
      FR.bind_ok, ih hw.2 hnw.2 f (by omega)]
    rfl

theorem bodyLoop_items (vrs : List UValueReference) (defs : List UDefinition)
    (hv : vrs.all valueReferenceWf = true) (hvnw : vrs.all (fun v => tyNoWiden v.ty) = true)
    (hw : defs.all definitionWf = true)
    (hnw : defs.all (fun d => tyNoWiden d.ty) = true) :
    ∀ fuel : Nat, (printItems vrs defs).length < fuel + 1 →
      bodyLoop fuel (printItems vrs defs) =
        .ok { definitions := defs.map canonDefinition
              valueReferences := vrs.map canonValueReference } := by
  induction vrs with
  | nil => exact bodyLoop_defs defs hw hnw
  | cons v tl ih =>
    intro fuel hf
    simp only [List.all_cons, Bool.and_eq_true] at hv hvnw
    have hname := hv.1
    simp only [valueReferenceWf, Bool.and_eq_true] at hname
    have hprint : printItems (v :: tl) defs =
        .text v.name :: .text (tyHead v.ty) :: (tyTail v.ty ++ (.sep ':' :: .sep ':' :: .sep '=' ::
          (printLit v.value ++ printItems tl defs))) := by
      simp only [tok, printItems, printValueReference, printTy, List.flatMap_cons]
    rw [hprint] at hf ⊢
    simp only [List.length_cons, List.length_append] at hf
    obtain ⟨f, rfl⟩ : ∃ f, fuel = f + 1 := ⟨fuel - 1, by omega⟩
    have hvr := readValueReference_print v f (printItems tl defs) hv.1 hvnw.1 (by omega)
    rw [printTy, List.cons_append] at hvr
    rw [bodyLoop_item f v.name hname.1.1, peekIsSep_cons, eqSep_text, if_neg Bool.false_ne_true, hvr,
      FR.bind_ok, ih hv.2 hvnw.2 f (by omega)]
    rfl

theorem bodyLoop_print (is : List Import) (vrs : List UValueReference) (defs : List UDefinition)
    (hi : is.all importWf = true)
    (hv : vrs.all valueReferenceWf = true) (hvnw : vrs.all (fun v => tyNoWiden v.ty) = true)
    (hw : defs.all definitionWf = true)
    (hnw : defs.all (fun d => tyNoWiden d.ty) = true)
    (fuel : Nat) (hf : (printImports is ++ printItems vrs defs).length < fuel + 1) :
    bodyLoop fuel (printImports is ++ printItems vrs defs) =
      .ok { imports := is
            definitions := defs.map canonDefinition
            valueReferences := vrs.map canonValueReference } := by
  cases is with
  | nil => exact bodyLoop_items vrs defs hv hvnw hw hnw fuel hf
  | cons i tl =>
    have hprint : printImports (i :: tl) = .text "IMPORTS" :: printImportsBody (i :: tl) := rfl
    rw [hprint] at hf ⊢
    simp only [List.cons_append, List.length_cons, List.length_append] at hf ⊢
    obtain ⟨f, rfl⟩ : ∃ f, fuel = f + 1 := ⟨fuel - 1, by omega⟩
    rw [bodyLoop_imports, importsLoop_print (i :: tl) hi f (printItems vrs defs) (by omega),
      FR.bind_ok, bodyLoop_items vrs defs hv hvnw hw hnw f (by omega), FR.bind_ok, List.append_nil]

theorem skipUntilAfter_header (body : List Token) :
    skipUntilAfter "BEGIN"
        (.text "DEFINITIONS" :: .text "AUTOMATIC" :: .text "TAGS" :: .sep ':' :: .sep ':' ::
          .sep '=' :: .text "BEGIN" :: body) = .ok body := by
  simp only [tok, skipUntilAfter, eqIC_keywords]

theorem map_makeNameNice (is : List Import) (h : is.all (fun i => niceName i.«from») = true) :
    is.map (fun i => { i with «from» := makeNameNice i.«from» }) = is := by
  induction is with
  | nil => rfl
  | cons i tl ih =>
    simp only [List.all_cons, Bool.and_eq_true, niceName, beq_iff_eq] at h
    simp only [List.map_cons, h.1, ih h.2]

theorem parseModuleFuel_print (m : UModule) (hw : moduleWf m = true)
    (hnw : moduleNoWiden m = true) (hn : moduleNiceNames m = true)
    (fuel : Nat) (hf : (printTokens m).length < fuel + 1) :
    parseModuleFuel fuel (printTokens m) = .ok (canon m) := by
  simp only [moduleWf, Bool.and_eq_true] at hw
  simp only [moduleNoWiden, Bool.and_eq_true] at hnw
  simp only [moduleNiceNames, Bool.and_eq_true, niceName, beq_iff_eq] at hn
  obtain ⟨⟨⟨hoid, himp⟩, hdefs⟩, hvrs⟩ := hw
  have hprint : printTokens m = .text m.name :: (printOid m.oid ++
      (.text "DEFINITIONS" :: .text "AUTOMATIC" :: .text "TAGS" :: .sep ':' :: .sep ':' ::
        .sep '=' :: .text "BEGIN" :: (printImports m.imports ++
          printItems m.valueReferences m.definitions))) := by
    simp only [tok, printTokens, printHeader, printItems, printDefs]
  rw [hprint] at hf ⊢
  simp only [List.length_cons, List.length_append] at hf
  rw [parseModuleFuel]
  simp only [tok, maybeReadOid_print m.oid hoid fuel (.text "DEFINITIONS" :: _) (by omega) rfl,
    skipUntilAfter_header,
    bodyLoop_print m.imports m.valueReferences m.definitions himp hvrs hnw.2 hdefs hnw.1 fuel
      (by simp only [List.length_append]; omega),
    hn.1, map_makeNameNice m.imports (by simpa [niceName] using hn.2)]
  rfl

end Asn1Verif.Front.Syn
