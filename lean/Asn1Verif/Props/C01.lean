import Asn1Verif.Uper.RoundTrip
import Asn1Verif.Uper.RoundTripFrag
/-
  C01 — UPER round trip: if UPER encoding succeeds then decoding the produced bits yields a value
  equal to the original and consumes exactly the produced bits; also when several values are
  written back-to-back into one writer and read back in the same order from one reader.

  Code mirror:   `Uper/Impl.lean` (`enc` = `UperWriter`, `dec` = `UperReader` at a position of a
                 fixed input), tied to `src/rw/uper.rs` by the `uper` correspondence stream
  Lemmas:        `Uper/RoundTrip*.lean` on top of the C10 library `Per/PrimLemmas*.lean`

  `roundtrip_partial`: mutual structural induction over `Ty`/`Fields` — EVERY type (all constraint
  shapes, the deviation classes of C02 included: `(lb..MAX)`, `(MIN..ub)`, lengths with `ub ≥ 64K`),
  any nesting, any number of components / extension additions, OCTET/BIT/UTF8 strings of any
  length (fragmented), the bits embedded between ARBITRARY `pre` and `post` (hence back-to-back:
  `many_roundtrip_partial`).  Hypothesis `WF t v` (decidable, recursive):
    `t.consistent`  the generated constants agree with the component list (a conjunct of `WF`
                    that the proof does not use: `Uper.rt` needs `t.rtOk` and `valOk t v` only)
    `t.rtOk`        INTEGER bounds within `i64` (`min.getD 0`, `max.getD i64::MAX`); ENUMERATED/CHOICE
                    root count, number of components, OCTET/BIT STRING upper bound within `u64`;
                    no MANDATORY extension addition of SEQUENCE OF type (written inline by
                    `write_sequence_of`, read as an open type by `read_sequence_of`: finding)
    `valOk t v`     INTEGER value within `i64` and unchanged by the cast to its Rust type
                    (`castInt width signed v = v`); ENUMERATED/CHOICE index `< total`, `≤ u64::MAX`;
                    SEQUENCE OF and restricted strings with fewer than 16384 items (finding F-frag:
                    the announced fragment size is ignored); the content of every open type
                    (present OPTIONAL/DEFAULT/buffered extension addition, extension alternative)
                    pads to fewer than 16384 octets (the reader does not reassemble fragments).
  Not needed: string contents (validity is implied by the successful encoding), DEFAULT values
  (`Val.beq` decides equality), any bound on OCTET/BIT/UTF8 string lengths.
  The full statement `roundtrip` (hypothesis `Typed`: the same WITHOUT the three exclusions) is
  false for the current code: refuted on a witness.
-/
namespace Asn1Verif.Props.C01
open Asn1Verif Asn1Verif.Per Asn1Verif.Uper Outcome

/-- the form used by the induction: `bits` stands at `pos` in the input (`Uper.At`) -/
theorem roundtrip_at_partial (t : Ty) (v : Val) (bits : Bits) (hw : WF t v = true)
    (h : enc t v = ok bits) (inp : Bits) (pos : Nat) (post : Bits) (hat : At inp pos bits post) :
    dec t inp pos = ok (v, pos + bits.length) := by
  simp only [WF, Bool.and_eq_true] at hw
  exact rt t hw.1.2 v bits hw.2 h inp pos post hat

/-- C01: decoding what was encoded, between arbitrary surroundings -/
theorem roundtrip_partial (t : Ty) (v : Val) (bits pre post : Bits) (hw : WF t v = true)
    (h : enc t v = ok bits) :
    dec t (pre ++ bits ++ post) pre.length = ok (v, pre.length + bits.length) := by
  exact ReadsBack.between (roundtrip_at_partial t v bits hw h) pre post

/-- … alternatives of a CHOICE … -/
theorem roundtrip_alt_partial (alts : Fields) (i : Nat) (x : Val) (bits pre post : Bits)
    (ht : alts.rtOk alts.length = true) (hv : valOkAlt alts i x = true)
    (h : encAlt alts i x = ok bits) :
    decAlt alts i (pre ++ bits ++ post) pre.length = ok (x, pre.length + bits.length) := by
  exact (rtAlt alts alts.length i ht x bits hv h).between pre post

/-- … and the components of a SEQUENCE/SET (`Uper.FieldsRT`: the reader follows the writer's walk
    over the components, `Uper.StateInv` ties cursor, bitmap window and indices to the writer's
    accumulator) -/
theorem roundtrip_fields (fs : Fields) : FieldsRT fs := rtFields fs

/-! ### several values in one buffer -/

/-- values written back-to-back into one writer -/
def encMany : List (Ty × Val) → Outcome Bits
  | [] => ok []
  | tv :: r => do
    let a ← enc tv.1 tv.2
    let b ← encMany r
    ok (a ++ b)

/-- … and read in the same order from one reader -/
def decMany : List Ty → RdP (List Val)
  | [] => fun _ pos => ok ([], pos)
  | t :: r => fun inp pos => do
    let (v, p) ← dec t inp pos
    let (vs, p') ← decMany r inp p
    ok (v :: vs, p')

theorem many_roundtrip_at_partial : ∀ (l : List (Ty × Val)) (bits : Bits),
    (∀ tv ∈ l, WF tv.1 tv.2 = true) → encMany l = ok bits →
    ∀ (inp : Bits) (pos : Nat) (post : Bits), At inp pos bits post →
      decMany (l.map (·.1)) inp pos = ok (l.map (·.2), pos + bits.length)
  | [], bits, _, h, inp, pos, post, _ => by
    simp only [encMany] at h
    injection h with h; subst h
    rfl
  | tv :: r, bits, hw, h, inp, pos, post, hat => by
    simp only [encMany] at h
    obtain ⟨a, ha, h⟩ := bind_eq_ok.1 h
    obtain ⟨b, hb, h⟩ := bind_eq_ok.1 h
    injection h with h; subst h
    simp only [List.map_cons, decMany]
    rw [roundtrip_at_partial tv.1 tv.2 a (hw tv List.mem_cons_self) ha inp pos _ hat.left]
    simp only [Outcome.bind_ok]
    rw [many_roundtrip_at_partial r b (fun x hx => hw x (List.mem_cons_of_mem _ hx)) hb inp _ post
      hat.right]
    simp only [Outcome.bind_ok, List.length_append, Nat.add_assoc]

/-- C01, back-to-back: the values come back in order and the reader ends exactly at the end of the
    buffer (remaining = 0) -/
theorem many_roundtrip_partial (l : List (Ty × Val)) (bits : Bits)
    (hw : ∀ tv ∈ l, WF tv.1 tv.2 = true) (h : encMany l = ok bits) :
    decMany (l.map (·.1)) bits 0 = ok (l.map (·.2), bits.length) := by
  have := many_roundtrip_at_partial l bits hw h bits 0 [] ⟨by simp, Nat.zero_le _⟩
  simpa using this

/-! ### non-vacuity -/

def exTy : Ty :=
  .seq 2 5 (some 3)
    (.cons .m (.int (some 0) (some 255) false 8 false)
    (.cons .o (.seqOf (some 0) (some 4) true .bool)
    (.cons (.d (.enum 1)) (.enum 3 3 false)
    (.cons .m (.choice 2 3 true
      (.cons .m .bool (.cons .m .null (.cons .m (.oct none none false) .nil))))
    (.cons .o (.str .ia5 (some 1) (some 10) false) .nil)))))

/-- addition present, extension alternative (two open types), default omitted -/
def exVal : Val :=
  .seq (.cons (.int 200) (.cons (.some (.list (.cons (.bool true) (.cons (.bool false) .nil))))
    (.cons (.enum 1) (.cons (.choice 2 (.oct [0xAB#8])) (.cons (.some (.str [0x41#8])) .nil)))))

/-- `INTEGER (5..MAX)` in a `u64`: a deviation class of C02, round trip holds -/
def exTy2 : Ty := .int (some 5) (some I64_MAX) false 64 false

example : WF exTy exVal = true := by decide +kernel
example : (enc exTy exVal).isOk = true := by decide +kernel
example : WF exTy2 (.int 7) = true ∧ (enc exTy2 (.int 7)).isOk = true := by decide +kernel
example : ∀ tv ∈ [(exTy, exVal), (exTy2, Val.int 7), (Ty.null, Val.null)], WF tv.1 tv.2 = true := by
  decide +kernel
example : (encMany [(exTy, exVal), (exTy2, Val.int 7), (Ty.null, Val.null)]).isOk = true := by
  decide +kernel

-- `roundtrip_alt_partial`: the alternatives of the CHOICE inside `exTy`
def exAlts : Fields := .cons .m .bool (.cons .m .null (.cons .m (.oct none none false) .nil))
example : exAlts.rtOk exAlts.length = true ∧ valOkAlt exAlts 2 (.oct [0xAB#8]) = true ∧
    (encAlt exAlts 2 (.oct [0xAB#8])).isOk = true := by decide +kernel

/-! ### the full statement and its refutation -/

/-- C01 at full strength: every value of the Rust type (`Typed`: no exclusion of the findings) -/
def roundtrip : Prop :=
  ∀ (t : Ty) (v : Val) (bits pre post : Bits), Typed t v = true → enc t v = ok bits →
    dec t (pre ++ bits ++ post) pre.length = ok (v, pre.length + bits.length)

/-- A MANDATORY extension addition of SEQUENCE OF type: `write_sequence_of` does not wrap itself as
    an open type, `read_sequence_of` expects one.  `SEQUENCE { a BOOLEAN, ..., b SEQUENCE OF BOOLEAN }`
    with a hand-written (non-`Option`) addition: the encoding succeeds, decoding fails. -/
theorem roundtrip_false : ¬ roundtrip := fun h => by
  have := h (.seq 0 2 (some 0) (.cons .m .bool (.cons .m (.seqOf none none false .bool) .nil)))
    (.seq (.cons (.bool true) (.cons (.list (.cons (.bool true) .nil)) .nil)))
    ([true, true] ++ [false, false, false, false, false, false, false] ++ [true] ++
      [false, false, false, false, false, false, false, true, true]) [] []
    (by decide +kernel) (by decide +kernel)
  have hok := congrArg Outcome.isOk this
  revert hok
  decide +kernel

/-- Finding F-frag, for EVERY count `n ≥ 16K` that is not the announced fragment size: the writer
    emits `11 0000mm` + all `n` elements, the reader takes `m · 16K` elements — whatever it returns
    is not the value written (`SEQUENCE OF BOOLEAN`; 20000 booleans decode as 16384). -/
theorem frag_ignored (bs : List Bool) (hn : 16384 ≤ bs.length) (hm : bs.length ≤ I64MAXu)
    (hne : bs.length ≠ min (bs.length / 16384) 4 * 16384) (pre post : Bits) :
    ∃ bits, enc (.seqOf none none false .bool) (.list (boolVals bs)) = ok bits ∧
      dec (.seqOf none none false .bool) (pre ++ bits ++ post) pre.length
        ≠ ok (.list (boolVals bs), pre.length + bits.length) :=
  ⟨_, enc_bools bs hm, frag_ignored_read bs hn hne pre post _⟩

/-- … so the full statement fails there too: 20000 × TRUE -/
theorem roundtrip_false_frag : ¬ roundtrip := fun h => by
  have hl : (List.replicate 20000 true).length = 20000 := List.length_replicate
  obtain ⟨bits, he, hd⟩ := frag_ignored (List.replicate 20000 true) (by rw [hl]; decide)
    (by rw [hl, I64MAXu_eq]; decide) (by rw [hl]; decide) [] []
  refine hd (h _ _ bits [] [] ?_ he)
  simp only [Typed, Ty.consistent, Ty.descrOk, typedOk, boolVals_length, hl, Bool.true_and,
    Bool.and_eq_true, decide_eq_true_eq]
  exact ⟨by rw [I64MAXu_eq]; decide, allVals_bools _ (fun _ => rfl) _⟩

end Asn1Verif.Props.C01
