import Asn1Verif.Uper.RejLemmas
/-
  The writer mirror never unwinds: `enc t v ≠ panic` for every type descriptor and every value tree
  (well-typed or not), by mutual structural recursion over `Ty`/`Fields`.  Its only `panic` branches
  (`&src[written..written + fs]` in `write_octetstring` and its fragment loop) are unreachable because an
  announced fragment never exceeds the length (`wLen_spec`).  Hence a violation anywhere in a value tree
  yields an *error* (`violates_err`).
-/
namespace Asn1Verif.Uper
open Asn1Verif Outcome Per

theorem wConstrained_ne_panic (lb ub v : Int) : wConstrained lb ub v ≠ panic := by
  by_cases h : v < lb ∨ ub < v
  · simp [wConstrained_err lb ub v h]
  · simp [wConstrained_ok lb ub v (by omega) (by omega)]

theorem wIndex_ne_panic (std : Nat) (ext : Bool) (i : Nat) : wIndex std ext i ≠ panic := by
  by_cases h : i < std ∨ ext = true
  · obtain ⟨b, hb⟩ := wIndex_ok (std := std) h
    simp [hb]
  · obtain rfl : ext = false := by simpa using fun hx => h (Or.inr hx)
    simp [Per.wIndex_err std i (by omega)]

theorem wExtLen_ne_panic (ext : Bool) (min max : Option Nat) (ul len : Nat) :
    wExtLen ext min max ul len ≠ panic := by
  by_cases h : len < min.getD 0 ∨ len > max.getD ul
  · cases ext
    · simp [wExtLen_rejects h]
    · obtain ⟨l, _, _, hl⟩ := wExtLen_ext_out h
      simp [hl]
  · rw [wExtLen_in h]
    exact bind_ne_panic (wLen_ne_panic _ _ _) fun _ _ => by simp

theorem wStr_ne_panic {α : Type} {enc : List α → Bits} {wf : List α → Outcome Bits}
    {oob : Outcome Bits} {z : Bool} (hwf : ∀ xs, ∃ b, wf xs = ok b) (lb ub : Option Nat)
    (ext : Bool) (src : List α) : wStr enc wf oob z lb ub ext src ≠ panic := by
  have hbody : ∀ (l u : Option Nat) (pre : Bits),
      (wLen l u src.length >>= fun x => strBody enc wf oob pre src x.1 x.2) ≠ panic := fun l u pre =>
    bind_ne_panic (wLen_ne_panic _ _ _) fun x hx => by
      obtain ⟨_, h, _⟩ := strBody_ok (enc := enc) (oob := oob) (pre := pre) (hdr := x.1) hwf
        (wLen_frag_le hx)
      simp [h]
  exact ite_ne_panic (ite_ne_panic (hbody none none _) (by simp))
    (ite_ne_panic (by simp) (ite_ne_panic (by simp [strBody]) (hbody lb ub _)))

theorem wOctets_ne_panic (lb ub : Option Nat) (ext : Bool) (src : List (BitVec 8)) :
    wOctets lb ub ext src ≠ panic := by
  rw [wOctets_str]
  exact wStr_ne_panic wOctFrag_ok lb ub ext src

theorem wBitString_ne_panic (lb ub : Option Nat) (ext : Bool) (bits : Bits) :
    wBitString lb ub ext bits ≠ panic := by
  rw [wBitString_str]
  exact wStr_ne_panic wBitFrag_ok lb ub ext bits

theorem encListWith_ne_panic (f : Val → Outcome Bits) (hf : ∀ v, f v ≠ panic) :
    ∀ vs : Vals, encListWith f vs ≠ panic
  | .nil => by simp [encListWith]
  | .cons v vs =>
    bind_ne_panic (hf v) fun _ _ => bind_ne_panic (encListWith_ne_panic f hf vs) fun _ _ => by simp

mutual
theorem enc_ne_panic : ∀ (t : Ty) (v : Val), enc t v ≠ panic
  | .bool, v => by
    unfold enc
    split <;> simp
  | .null, v => by
    unfold enc
    split <;> simp
  | .int min max ext w s, v => by
    unfold enc
    split
    · refine ite_ne_panic (bind_ne_panic ?_ fun _ _ => by simp)
        (bind_ne_panic (wConstrained_ne_panic _ _ _) fun _ _ => by simp)
      obtain ⟨b, hb⟩ := wUnconstrained_total ‹Int›
      simp [hb]
    · simp
  | .enum std total ext, v => by
    unfold enc
    split
    · exact wIndex_ne_panic _ _ _
    · simp
  | .str cs min max ext, v => by
    unfold enc
    split
    · split
      · simp
      · split
        · exact ite_ne_panic (by simp) (wOctets_ne_panic _ _ _ _)
        · exact ite_ne_panic (by simp)
            (bind_ne_panic (wExtLen_ne_panic _ _ _ _ _) fun _ _ => by simp)
    · simp
  | .oct min max ext, v => by
    unfold enc
    split
    · exact wOctets_ne_panic _ _ _ _
    · simp
  | .bits min max ext, v => by
    unfold enc
    split
    · exact wBitString_ne_panic _ _ _ _
    · simp
  | .seqOf min max ext elem, v => by
    unfold enc
    split
    · exact bind_ne_panic (wExtLen_ne_panic _ _ _ _ _) fun _ _ =>
        bind_ne_panic (encListWith_ne_panic _ (enc_ne_panic elem) _) fun _ _ => by simp
    · simp
  | .seq so fc ea fields, v => by
    unfold enc
    split
    · exact enc_seq_ne_panic (so := so) (fc := fc) fun i k t v hf _ _ =>
        fields_ne_panic fields i k t hf (contentOf k v)
    · simp
  | .choice std total ext alts, v => by
    unfold enc
    split
    · refine bind_ne_panic (wIndex_ne_panic _ _ _) fun _ _ => bind_ne_panic ?_ fun c _ => ?_
      · rw [encAlt_eq]
        split
        · exact fields_ne_panic alts _ _ _ ‹_› _
        · simp
      · exact ite_ne_panic (bind_ne_panic (openType_ne_panic c) fun _ _ => by simp) (by simp)
    · simp
theorem fields_ne_panic : ∀ (fields : Fields) (i : Nat) (k : Kind) (t : Ty),
    fields.get? i = some (k, t) → ∀ v, enc t v ≠ panic
  | .nil, i, k, t, h, _ => by cases h
  | .cons k0 t0 rest, 0, k, t, h, v => by
    cases h
    exact enc_ne_panic t0 v
  | .cons k0 t0 rest, i + 1, k, t, h, v => fields_ne_panic rest i k t h v
end

theorem violates_err {t : Ty} {v : Val} (h : Violates t v) : ∃ e, enc t v = err e := by
  cases he : enc t v with
  | ok b => exact absurd he (violates_not_ok h b)
  | err e => exact ⟨e, rfl⟩
  | panic => exact absurd he (enc_ne_panic t v)

end Asn1Verif.Uper
