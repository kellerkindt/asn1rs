import Asn1Verif.Front.TokenizerFlat
import Asn1Verif.Front.TokenizerLayout
/-
  Behind C13/C14: how the single pass `run` consumes each kind of separator piece and each lexical
  item of a rendered text, and the induction over the item list.
-/
namespace Asn1Verif.Front
open Asn1Verif Outcome

/-! ### character classes -/

theorem sep_ne {c : Char} (h : isSeparator c = true) :
    c ≠ '-' ∧ c ≠ '/' ∧ c ≠ '*' ∧ c ≠ '\n' ∧ c ≠ '\r' := by
  refine ⟨?_, ?_, ?_, ?_, ?_⟩ <;> (intro e; subst e; revert h; decide)

theorem textChar_ne {c : Char} (h : isTextChar c = true) :
    c ≠ '\n' ∧ c ≠ '\r' ∧ isSeparator c = false ∧ isTextStart c = true := by
  simp only [isTextChar, Bool.and_eq_true, Bool.not_eq_true'] at h
  refine ⟨?_, ?_, h.2, h.1⟩ <;> (intro e; subst e; revert h; decide)

/-! ### the single pass with its position as a pair

  `run` moves its line and column as `advance` does, so over a text `x` the position becomes
  `posAfter p x`: stated this way no lemma below computes a position. -/

def runAt (p : Nat × Nat) (mode : Mode) (st : St) (s : List Char) : Outcome (List Token) :=
  run p.1 p.2 mode st s

variable {p : Nat × Nat} {mode : Mode} {st : St} {c : Char} {R : List Char}

theorem posAfter_cons (p : Nat × Nat) (c : Char) (s : List Char) :
    posAfter p (c :: s) = posAfter (advance p c) s := rfl

theorem posAfter_append (p : Nat × Nat) (s t : List Char) :
    posAfter p (s ++ t) = posAfter (posAfter p s) t := List.foldl_append ..

theorem posAfter_noNl (p : Nat × Nat) (s : List Char) (h : s.contains '\n' = false) :
    posAfter p s = (p.1, p.2 + s.length) := by
  induction s generalizing p with
  | nil => rfl
  | cons c s ih =>
    simp only [List.contains_cons, Bool.or_eq_false_iff, beq_eq_false_iff_ne, ne_eq] at h
    rw [posAfter_cons, ih _ h.2, advance, if_neg (Ne.symm h.1), List.length_cons, Nat.add_assoc,
      Nat.add_comm 1]

theorem runAt_nl :
    runAt p mode st ('\n' :: R) = runAt (advance p '\n') .normal st.flush R := by
  rw [runAt, run_cons]; rfl

theorem runAt_cr :
    runAt p mode st ('\r' :: '\n' :: R) = runAt (advance p '\r') mode st ('\n' :: R) := by
  rw [runAt, run_cons]; rfl

theorem runAt_step (h1 : c ≠ '\n') (h2 : ¬ (c = '\r' ∧ R.head? = some '\n')) :
    runAt p .normal st (c :: R) =
      stepChar (atEndOfLast R) p.1 p.2 c (peekC R) st >>= fun (mode', st') =>
        runAt (advance p c) mode' st' R := by
  rw [runAt, run_cons]
  simp only [h1, h2, if_false, advance, runAt]

theorem runAt_skip1 (h1 : c ≠ '\n') (h2 : c ≠ '\r') :
    runAt p .skip1 st (c :: R) = runAt (advance p c) .normal st R := by
  rw [runAt, run_cons]
  simp only [h1, h2, if_false, false_and, advance, runAt]

theorem runAt_skipLine (h1 : c ≠ '\n') :
    runAt p .skipLine st (c :: R) = runAt (advance p c) .skipLine st R := by
  rw [runAt, run_cons]
  simp only [h1, if_false, ite_self, advance, runAt]

/-! ### states -/

def St.flushIf (st : St) (fl : Bool) : St := if fl then st.flush else st

theorem St.flush_mk (prev : Option Token) (toks : List Token) (n : Nat) :
    (St.mk prev toks n).flush = ⟨none, toks ++ prev.toList, n⟩ := by
  cases prev <;> simp [St.flush]

theorem St.flushIf_mk (prev : Option Token) (toks : List Token) (n : Nat) (fl : Bool) :
    (St.mk prev toks n).flushIf fl =
      ⟨if fl then none else prev, if fl then toks ++ prev.toList else toks, n⟩ := by
  cases fl
  · rfl
  · exact St.flush_mk prev toks n

theorem St.flushIf_flushIf (st : St) (a b : Bool) :
    (st.flushIf a).flushIf b = st.flushIf (a || b) := by
  cases a <;> cases b <;> simp [St.flushIf]

theorem St.flushIf_flush (st : St) (fl : Bool) : (st.flushIf fl).flush = st.flush := by
  cases fl <;> simp [St.flushIf]

theorem St.flushIf_nest (st : St) (fl : Bool) : (st.flushIf fl).nest = st.nest := by
  cases fl <;> simp [St.flushIf, St.flush_nest]

/-- the next text character would be appended to the pending token -/
def St.pendingText (st : St) : Bool :=
  match st.previous with
  | some t => t.strip.isText
  | none => false

theorem St.flushIf_pendingText (st : St) (fl : Bool) :
    (st.flushIf fl).pendingText = (st.pendingText && !fl) := by
  obtain ⟨p, ts, n⟩ := st
  cases fl <;> cases p <;> simp [St.flushIf, St.flush, St.pendingText]

theorem St.push_new (st : St) (t : Token) (h : (st.pendingText && t.strip.isText) = false) :
    st.push t = { st with tokens := st.flush.tokens, previous := some t } := by
  obtain ⟨_ | _ | _, ts, n⟩ := st <;> cases t <;> revert h <;>
    simp [St.push, Token.append, St.flush, St.pendingText, Token.strip, LexItem.isText]

/-! ### one character outside a comment -/

theorem peekC_cons {c : Char} (R : List Char) (h1 : c ≠ '\n') (h2 : c ≠ '\r') :
    peekC (c :: R) = some c := (peekC_eq_some h1 h2).mpr rfl

theorem peekC_cons_eq_some {d y : Char} {X : List Char} (h : peekC (d :: X) = some y) : d = y := by
  simp only [peekC] at h
  split at h
  · cases h
  · exact Option.some.inj h

theorem okPair_iff {c : Char} {next : Option Char} :
    okPair c next = true ↔ ¬ (c = '-' ∧ next = some '-') ∧ ¬ (c = '/' ∧ next = some '*') := by
  simp [okPair, Decidable.imp_iff_not_or]

theorem runAt_sep (hc : isSeparator c = true) (hn : st.nest = 0) :
    runAt p .normal st (c :: R) =
      runAt (advance p c) .normal (st.push (.separator (locOf p) c)) R := by
  obtain ⟨h1, h2, _, h4, h5⟩ := sep_ne hc
  rw [runAt_step h4 (h5 ·.1)]
  simp [stepChar, hn, h1, h2, hc, locOf]

theorem runAt_textChar (hc : isTextChar c = true) (hn : st.nest = 0)
    (hp : okPair c R.head? = true) :
    runAt p .normal st (c :: R) =
      runAt (advance p c) .normal (st.push (.text (locOf p) [c])) R := by
  obtain ⟨h1, h2, h3, h4⟩ := textChar_ne hc
  rw [runAt_step h1 (h2 ·.1)]
  simp [stepChar, hn, peekC_eq_some, okPair_iff.mp hp, h3, h4, locOf]

theorem runAt_blank (hc : c = ' ' ∨ c = '\t') (hn : st.nest = 0) :
    runAt p .normal st (c :: R) = runAt (advance p c) .normal st.flush R := by
  have e : c ≠ '\n' ∧ c ≠ '\r' ∧ c ≠ '-' ∧ c ≠ '/' ∧ isSeparator c = false ∧
      isTextStart c = false ∧ isFlush c = true := by
    rcases hc with rfl | rfl <;> decide
  rw [runAt_step e.1 (e.2.1 ·.1)]
  simp [stepChar, hn, e]

/-! ### line comments -/

theorem runAt_skipLine_body (b : List Char) : ∀ (p : Nat × Nat) (st : St) (R : List Char),
    b.contains '\n' = false →
    runAt p .skipLine st (b ++ '\n' :: R) = runAt (posAfter p (b ++ ['\n'])) .normal st.flush R := by
  induction b with
  | nil => intro p st R _; exact runAt_nl
  | cons c b ih =>
    intro p st R hb
    simp only [List.contains_cons, Bool.or_eq_false_iff, beq_eq_false_iff_ne, ne_eq] at hb
    rw [List.cons_append, runAt_skipLine (Ne.symm hb.1)]
    exact ih _ _ _ hb.2

theorem runAt_lineComment (b R : List Char)
    (hn : st.nest = 0) (hb : b.contains '\n' = false) :
    runAt p .normal st ((Piece.lineComment b).chars ++ R) =
      runAt (posAfter p (Piece.lineComment b).chars) .normal st.flush R := by
  simp only [Piece.chars, List.cons_append, List.append_assoc]
  rw [runAt_step (by decide) (by simp), peekC_cons _ (by decide) (by decide)]
  simp only [stepChar, hn, Nat.lt_irrefl, if_false, and_self, if_true, bind_ok]
  exact runAt_skipLine_body ('-' :: b) _ st R (by simpa using hb)

/-! ### block comments -/

/-- a two-character sequence: the loop body takes the second character from the iterator itself -/
theorem runAt_pair {st' : St} {d : Char}
    (hc : c ≠ '\n' ∧ c ≠ '\r') (hd : d ≠ '\n' ∧ d ≠ '\r')
    (h : stepChar (atEndOfLast (d :: R)) p.1 p.2 c (some d) st = ok (.skip1, st')) :
    runAt p .normal st (c :: d :: R) = runAt (advance (advance p c) d) .normal st' R := by
  rw [runAt_step hc.1 (hc.2 ·.1), peekC_cons _ hd.1 hd.2, h]
  exact runAt_skip1 hd.1 hd.2

theorem closeScan_cons_cons (n : Nat) (c d : Char) (rest' : List Char) :
    closeScan n (c :: d :: rest') =
      if c = '*' ∧ d = '/' then (if n ≤ 1 then some rest' else closeScan (n - 1) rest')
      else if c = '/' ∧ d = '*' then (if n < NEST_MAX then closeScan (n + 1) rest' else none)
      else closeScan n (d :: rest') := by
  rw [closeScan.eq_def]

theorem closeScan_not_atEnd {n : Nat} {x : List Char} (R : List Char)
    (h : closeScan n x = some []) : atEndOfLast (x ++ R) = false := by
  match x, h with
  | a :: b :: x, h =>
    -- a text of two or more characters ends the last line only if it is `\r\n`
    have hx : ¬ (a = '\r' ∧ b = '\n' ∧ x = []) := by
      rintro ⟨rfl, rfl, rfl⟩
      simp [closeScan] at h
    simp only [atEndOfLast, List.cons_append, List.cons.injEq, decide_false, Bool.false_or,
      List.append_eq_nil_iff, Bool.or_false, decide_eq_false_iff_not, and_false, List.cons_ne_nil]
    exact fun h' => hx ⟨h'.1, h'.2.1, h'.2.2.1⟩

theorem stepChar_inComment {last : Bool} {ln col0 : Nat} {c : Char} {peek : Option Char} {st : St}
    (hpos : 0 < st.nest) (h1 : ¬ (c = '*' ∧ peek = some '/')) (h2 : ¬ (c = '/' ∧ peek = some '*'))
    (hl : (peek.isNone && last) = false) : stepChar last ln col0 c peek st = ok (.normal, st) := by
  by_cases hs : c = '*'
  · simp_all [stepChar]
  · by_cases hsl : c = '/' <;> simp_all [stepChar]

/-- inside a block comment the pending token is pushed at every line feed -/
theorem runAt_comment (n : Nat) (x : List Char) :
    closeScan n x = some [] → 0 < n →
    ∀ (p : Nat × Nat) (prev : Option Token) (toks : List Token) (R : List Char),
    runAt p .normal ⟨prev, toks, n⟩ (x ++ R) =
      runAt (posAfter p x) .normal ((St.mk prev toks 0).flushIf (x.contains '\n')) R := by
  fun_induction closeScan n x with
  | case1 | case2 | case6 => nofun
  | case3 n c d rest' hcd hn =>
    obtain ⟨rfl, rfl⟩ := hcd
    rintro ⟨⟩ hpos p prev toks R
    obtain rfl : n = 1 := by omega
    exact runAt_pair (by decide) (by decide) (by simp [stepChar, St.flushIf])
  | case4 n c d rest' hcd hn ih =>
    obtain ⟨rfl, rfl⟩ := hcd
    intro h hpos p prev toks R
    exact (runAt_pair (st' := ⟨prev, toks, n - 1⟩) (by decide) (by decide)
      (by simp [stepChar, hpos])).trans (ih h (by omega) ..)
  | case5 n c d rest' _ hcd hn ih =>
    obtain ⟨rfl, rfl⟩ := hcd
    intro h hpos p prev toks R
    exact (runAt_pair (st' := ⟨prev, toks, n + 1⟩) (by decide) (by decide)
      (by simp [stepChar, hpos, St.incNest, hn])).trans (ih h (by omega) ..)
  | case7 n c d rest' h1 h2 ih =>
    intro h hpos p prev toks R
    have IH := ih h hpos
    simp only [List.cons_append] at IH ⊢
    by_cases hnl : c = '\n'
    · subst hnl
      rw [runAt_nl, St.flush_mk, IH, ← St.flush_mk]
      simp [St.flushIf, posAfter_cons]
    · rw [show (c :: d :: rest').contains '\n' = (d :: rest').contains '\n' by
        simp [Ne.symm hnl]]
      by_cases hcr : c = '\r' ∧ d = '\n'
      · obtain ⟨rfl, rfl⟩ := hcr
        rw [runAt_cr]
        exact IH ..
      · have hend : atEndOfLast (d :: (rest' ++ R)) = false := closeScan_not_atEnd R h
        rw [runAt_step hnl (by simpa using hcr), stepChar_inComment (st := ⟨prev, toks, n⟩) hpos
          (fun e => h1 ⟨e.1, peekC_cons_eq_some e.2⟩) (fun e => h2 ⟨e.1, peekC_cons_eq_some e.2⟩)
          (Bool.and_eq_false_iff.mpr (.inr hend))]
        exact IH ..

theorem runAt_blockComment (b R : List Char)
    (hn : st.nest = 0) (hb : (Piece.blockComment b).ok = true) :
    runAt p .normal st ((Piece.blockComment b).chars ++ R) =
      runAt (posAfter p (Piece.blockComment b).chars) .normal
        (st.flushIf (Piece.blockComment b).flushes) R := by
  obtain ⟨prev, toks, n⟩ := st
  subst hn
  simp only [Piece.ok, decide_eq_true_eq] at hb
  simp only [Piece.chars, List.cons_append]
  rw [runAt_pair (st' := (St.mk prev toks 1).flushIf Consts.TOKENIZER_OPEN_FLUSHES)
    (by decide) (by decide) (by simp [stepChar, St.incNest, NEST_MAX, St.flushIf]),
    St.flushIf_mk, runAt_comment 1 _ hb Nat.one_pos, ← St.flushIf_mk, St.flushIf_flushIf,
    show (b ++ ['*', '/']).contains '\n' = b.contains '\n' by simp]
  rfl

/-! ### a whole gap -/

theorem runAt_piece (q : Piece) (R : List Char)
    (hn : st.nest = 0) (hq : q.ok = true) :
    runAt p .normal st (q.chars ++ R) =
      runAt (posAfter p q.chars) .normal (st.flushIf q.flushes) R := by
  cases q with
  | space => exact runAt_blank (.inl rfl) hn
  | tab => exact runAt_blank (.inr rfl) hn
  | crlf => exact runAt_cr.trans runAt_nl
  | lf => exact runAt_nl
  | lineComment b => exact runAt_lineComment b R hn (by simpa [Piece.ok] using hq)
  | blockComment b => exact runAt_blockComment b R hn hq

theorem Gap.chars_cons (q : Piece) (g : Gap) : Gap.chars (q :: g) = q.chars ++ Gap.chars g := rfl

theorem runAt_gap (g : Gap) : ∀ (p : Nat × Nat) (st : St) (R : List Char),
    st.nest = 0 → g.all Piece.ok = true →
    runAt p .normal st (Gap.chars g ++ R) =
      runAt (posAfter p (Gap.chars g)) .normal (st.flushIf (g.any Piece.flushes)) R := by
  induction g with
  | nil => intro p st R _ _; rfl
  | cons q g ih =>
    intro p st R hn hg
    simp only [List.all_cons, Bool.and_eq_true] at hg
    rw [Gap.chars_cons, List.append_assoc, runAt_piece q _ hn hg.1,
      ih _ _ R (by rwa [St.flushIf_nest]) hg.2, posAfter_append, St.flushIf_flushIf, List.any_cons]

/-! ### lexical items -/

theorem runAt_textRun (s : List Char) : ∀ (p : Nat × Nat) (toks : List Token) (R : List Char)
    (loc : Location) (pre : List Char), s.all isTextChar = true → noOpener s R.head? = true →
    runAt p .normal ⟨some (.text loc pre), toks, 0⟩ (s ++ R) =
      runAt (posAfter p s) .normal ⟨some (.text loc (pre ++ s)), toks, 0⟩ R := by
  induction s with
  | nil => intro p toks R loc pre _ _; rw [List.append_nil]; rfl
  | cons c s ih =>
    intro p toks R loc pre hs hno
    simp only [List.all_cons, Bool.and_eq_true] at hs
    simp only [noOpener, Bool.and_eq_true] at hno
    rw [List.cons_append, runAt_textChar hs.1 rfl (by rw [List.head?_append]; exact hno.1)]
    exact (ih _ toks R loc (pre ++ [c]) hs.2 hno.2).trans (by rw [List.append_assoc]; rfl)

theorem runAt_item (it : LexItem) (R : List Char)
    (hok : it.ok = true) (hn : st.nest = 0) (hpt : (st.pendingText && it.isText) = false)
    (hnext : ∀ s, it = .text s → noOpener s R.head? = true) :
    runAt p .normal st (it.chars ++ R) =
      runAt (posAfter p it.chars) .normal
        ⟨some (it.tokenAt (locOf p)), st.flush.tokens, 0⟩ R := by
  cases it with
  | sep c =>
    refine (runAt_sep hok hn).trans ?_
    rw [St.push_new st _ (by simp [Token.strip, LexItem.isText]), hn]
    rfl
  | text s =>
    have hno := hnext s rfl
    simp only [LexItem.ok, Bool.and_eq_true, Bool.not_eq_true'] at hok
    match s, hok.1.1 with
    | c :: s, _ =>
      simp only [List.all_cons, noOpener, Bool.and_eq_true] at hok hno
      simp only [LexItem.chars, List.cons_append]
      rw [runAt_textChar hok.1.2.1 hn (by rw [List.head?_append]; exact hno.1),
        St.push_new st (.text (locOf p) [c]) hpt, hn]
      exact runAt_textRun s _ _ R _ _ hok.1.2.2 hno.2

/-! ### the item list -/

theorem noOpener_next (s : List Char) (h : Option Char) (h0 : noOpener s none = true)
    (hl : ∀ c, s.getLast? = some c → okPair c h = true) : noOpener s h = true := by
  induction s with
  | nil => rfl
  | cons c s ih =>
    simp only [noOpener, Bool.and_eq_true] at h0 ⊢
    cases s with
    | nil => exact ⟨hl c rfl, rfl⟩
    | cons d s => exact ⟨h0.1, ih h0.2 fun x hx => hl x (by rwa [List.getLast?_cons_cons])⟩

/-- A text item forms no `--` or `/*` with the character after it: that is the first one of a piece
    (never `*`, and `-` only as the start of a line comment, which may not follow a text item ending
    in `-`) or, after an empty gap, a separator. -/
theorem noOpener_follow (s : List Char) (g : Gap) (its : List LexItem) (gs : List Gap)
    (h0 : noOpener s none = true)
    (hd : ((LexItem.text s).endsWithDash && (g.head?.map Piece.isLineComment).getD false) = false)
    (hits : itemsOk true (!g.any Piece.flushes) its gs = true) :
    noOpener s (Gap.chars g ++ renderItems its gs).head? = true := by
  refine noOpener_next s _ h0 fun c hc => ?_
  simp only [LexItem.endsWithDash, hc] at hd
  cases g with
  | cons q g =>
    rw [Gap.chars_cons, List.append_assoc, List.head?_append]
    revert hd
    cases q <;> simp [Piece.chars, okPair, Piece.isLineComment]
  | nil =>
    match its, hits with
    | [], _ => simp [Gap.chars, renderItems, okPair]
    | .text t :: its, hits => simp [itemsOk, LexItem.isText] at hits
    | .sep d :: its, hits =>
      simp only [itemsOk, Bool.and_eq_true] at hits
      simp [Gap.chars, renderItems, LexItem.chars, okPair, sep_ne hits.1.1.1.1]

/-- `itemsOk`'s flag "the previous item is a text item and nothing that ends a token stands between
    it and the next item" is the state's "the pending token is a text token". -/
theorem runAt_items (items : List LexItem) : ∀ (gs : List Gap) (p : Nat × Nat) (st : St),
    st.nest = 0 → itemsOk true st.pendingText items gs = true →
    runAt p .normal st (renderItems items gs) = ok (st.flush.tokens ++ located p items gs) := by
  induction items with
  | nil => intro gs p st _ _; simp [renderItems, runAt, run, located]
  | cons it its ih =>
    intro gs p st hn hok
    simp only [itemsOk, Bool.and_eq_true, Bool.not_eq_true', if_true] at hok
    obtain ⟨⟨⟨⟨hit, hpt⟩, hg⟩, hdash⟩, hrest⟩ := hok
    have hnext : ∀ s, it = .text s →
        noOpener s (Gap.chars (gs.headD []) ++ renderItems its gs.tail).head? = true := by
      rintro s rfl
      simp only [LexItem.ok, Bool.and_eq_true] at hit
      exact noOpener_follow s _ its _ hit.2 hdash hrest
    rw [renderItems, runAt_item it _ hit hn hpt hnext, runAt_gap _ _ ⟨_, _, 0⟩ _ rfl hg,
      ih gs.tail _ _ (St.flushIf_nest ..)
        (by rw [St.flushIf_pendingText]; cases it <;> exact hrest),
      ← posAfter_append, St.flushIf_flush]
    exact congrArg ok (List.append_assoc ..)

theorem run_render (items : List LexItem) (L : Layout) (h : layoutOk true items L = true) :
    run 1 0 .normal {} (render items L) = ok (expectedTokens items L) := by
  simp only [layoutOk, Bool.and_eq_true] at h
  exact (runAt_gap L.lead (1, 0) {} _ rfl h.1).trans
    ((runAt_items items L.after _ _ (St.flushIf_nest ..)
      (by rw [St.flushIf_pendingText]; exact h.2)).trans (by rw [St.flushIf_flush]; rfl))

/-! ### what `located` means -/

theorem located_length (p : Nat × Nat) (items : List LexItem) (gs : List Gap) :
    (located p items gs).length = items.length := by
  induction items generalizing p gs <;> simp [located, *]

theorem located_strip (p : Nat × Nat) (items : List LexItem) (gs : List Gap) :
    (located p items gs).map Token.strip = items := by
  induction items generalizing p gs with
  | nil => rfl
  | cons it its ih =>
    simp only [located, List.map_cons, ih]
    cases it <;> rfl

theorem located_at (items : List LexItem) : ∀ (p : Nat × Nat) (gs : List Gap) (i : Nat)
    (h : i < items.length),
    (∃ post, renderItems items gs = renderItems (items.take i) gs ++ (items[i].chars ++ post)) ∧
    (located p items gs)[i]? =
      some (items[i].tokenAt (locOf (posAfter p (renderItems (items.take i) gs)))) := by
  induction items with
  | nil => nofun
  | cons it its ih =>
    intro p gs i h
    cases i with
    | zero => exact ⟨⟨_, rfl⟩, rfl⟩
    | succ i =>
      obtain ⟨⟨post, h1⟩, h2⟩ := ih (posAfter p (it.chars ++ Gap.chars (gs.headD []))) gs.tail i
        (Nat.lt_of_succ_lt_succ h)
      refine ⟨⟨post, ?_⟩, ?_⟩
      · simp only [renderItems, List.take_succ_cons, h1, List.getElem_cons_succ, List.append_assoc]
      · simpa only [posAfter_append, located, List.getElem?_cons_succ, List.getElem_cons_succ,
          renderItems, List.take_succ_cons] using h2

/-! ### layouts in which every non-empty gap ends the pending token -/

theorem itemsOk_strict_of (items : List LexItem) : ∀ (gs : List Gap) (pt : Bool),
    (∀ g ∈ gs, g.any Piece.flushes = !g.isEmpty) → itemsOk false pt items gs = true →
    itemsOk true pt items gs = true := by
  induction items with
  | nil => intro _ _ _ _; rfl
  | cons it its ih =>
    intro gs pt hs h
    have hg : (gs.headD []).any Piece.flushes = !(gs.headD []).isEmpty := by
      cases gs with
      | nil => rfl
      | cons g gs => exact hs g (.head _)
    simp only [itemsOk, Bool.and_eq_true, if_true, Bool.false_eq_true, if_false] at h ⊢
    exact ⟨h.1, hg ▸ ih _ _ (fun g hg => hs g (List.mem_of_mem_tail hg)) h.2⟩

theorem layoutOk_strict_of {items : List LexItem} {L : Layout}
    (hs : ∀ g ∈ L.after, g.any Piece.flushes = !g.isEmpty) (h : layoutOk false items L = true) :
    layoutOk true items L = true := by
  simp only [layoutOk, Bool.and_eq_true] at h ⊢
  exact ⟨h.1, itemsOk_strict_of items L.after false hs h.2⟩

theorem Gap.any_flushes {g : Gap} (h : ∀ p ∈ g, p.flushes = true) :
    g.any Piece.flushes = !g.isEmpty := by
  cases g <;> simp_all

/-- fix f6eaa14 (`Consts.TOKENIZER_OPEN_FLUSHES = true`): the arm that opens a block comment pushes the
    pending token too -/
theorem Piece.flushes_of_open_flushes (hf : Consts.TOKENIZER_OPEN_FLUSHES = true) (p : Piece) :
    p.flushes = true := by
  cases p <;> simp [Piece.flushes, hf]

theorem Layout.blockFree_of_whitespaceOnly {L : Layout} (h : L.whitespaceOnly = true) :
    L.blockFree = true := by
  simp only [Layout.whitespaceOnly, Layout.blockFree, List.all_eq_true] at h ⊢
  intro g hg p hp
  have := h g hg p hp
  cases p <;> first | rfl | exact this

/-- Closed decidable statements about a source without fix f6eaa14 are evaluated by the kernel under
    the alternative "or `TOKENIZER_OPEN_FLUSHES = true`": with the fix the evaluation stops at the flag
    (the statement under `hf` is vacuous then). -/
theorem of_not_open_flushes {p : Prop} (hf : Consts.TOKENIZER_OPEN_FLUSHES = false)
    (h : Consts.TOKENIZER_OPEN_FLUSHES = true ∨ p) : p :=
  h.resolve_left (by simp [hf])

end Asn1Verif.Front
