import Asn1Verif.Props.C07
/- GENERATED by tools/vlib.py: axiom audit of every property theorem -/
#print axioms Asn1Verif.Props.C07.parse_print_Tag
#print axioms Asn1Verif.Props.C07.parse_print_Integer
#print axioms Asn1Verif.Props.C07.parse_print_Size
#print axioms Asn1Verif.Props.C07.parse_print_Enumerated
#print axioms Asn1Verif.Props.C07.parse_print_Literal
#print axioms Asn1Verif.Props.C07.parse_print_StringTokens
#print axioms Asn1Verif.Props.C07.parse_print_Presence
#print axioms Asn1Verif.Props.C07.parse_print_Type
#print axioms Asn1Verif.Props.C07.parse_print_ComponentTypeList
#print axioms Asn1Verif.Props.C07.parse_print_Choice
#print axioms Asn1Verif.Props.C07.parse_print_OID
#print axioms Asn1Verif.Props.C07.parse_print_Imports
#print axioms Asn1Verif.Props.C07.parse_print_partial
#print axioms Asn1Verif.Props.C07.cex_widen
#print axioms Asn1Verif.Props.C07.cex_name
#print axioms Asn1Verif.Props.C07.parse_print_needs_noWiden
#print axioms Asn1Verif.Props.C07.parse_print_needs_niceNames
#print axioms Asn1Verif.Props.C07.parse_print_full_false
#print axioms Asn1Verif.Props.C07.ext_marker_first_collapses
