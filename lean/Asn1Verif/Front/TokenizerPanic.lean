import Asn1Verif.Front.TokenizerFlat
/-
  The panic condition of the tokenizer (C14, stated in Props/C13.lean): a token-free skeleton of the
  machine that only tracks the comment nesting counter; the model panics exactly when the skeleton
  says so and never returns an error.
-/
namespace Asn1Verif.Front
open Asn1Verif Outcome

/-- What one character does to the nesting counter (`none` = the Rust code panics here).
    `atEnd` = this is the last character of the last line; `next` = the character after it. -/
def stepNest (atEnd : Bool) (c : Char) (next : Option Char) (nest : Nat) : Option (Mode × Nat) :=
  if 0 < nest then
    if c = '*' then
      if next = some '/' then some (.skip1, nest - 1) else some (.normal, nest)
    else if c = '/' then
      if next = some '*' then (if nest < NEST_MAX then some (.skip1, nest + 1) else none)
      else some (.normal, nest)
    else if atEnd then none      -- `panic!("The file has unclosed comment blocks. …")`
    else some (.normal, nest)
  else if c = '-' ∧ next = some '-' then some (.skipLine, nest)
  else if c = '/' ∧ next = some '*' then
    (if nest < NEST_MAX then some (.skip1, nest + 1) else none)
  else some (.normal, nest)

/-- The panic condition on the raw text: `true` iff the scan reaches, at depth > 0, a character other
    than `*` and `/` after which only a line terminator or nothing follows — or the depth counter
    would exceed `i32::MAX`. -/
def panicScan : Nat → Mode → List Char → Bool
  | _, _, [] => false
  | nest, mode, c :: rest =>
    if c = '\n' then panicScan nest .normal rest
    else if c = '\r' ∧ rest.head? = some '\n' then panicScan nest mode rest
    else
      match mode with
      | .skipLine => panicScan nest .skipLine rest
      | .skip1 => panicScan nest .normal rest
      | .normal =>
        match stepNest (atEndOfLast rest) c rest.head? nest with
        | none => true
        | some (mode', nest') => panicScan nest' mode' rest

theorem St.push_nest (st : St) (t : Token) : (st.push t).nest = st.nest := by
  unfold St.push
  split
  · rfl
  · split <;> rfl

theorem St.incNest_bind {β : Type} (st : St) (f : St → Outcome β) :
    (st.incNest >>= f) =
      if st.nest < NEST_MAX then f { st with nest := st.nest + 1 } else panic := by
  unfold St.incNest; split <;> rfl

theorem stepChar_nest_map (last : Bool) (ln col0 : Nat) (c : Char) (peek : Option Char) (st : St) :
    (fun p : Mode × St => (p.1, p.2.nest)) <$> stepChar last ln col0 c peek st =
      (stepNest (peek.isNone && last) c peek st.nest).elim panic ok := by
  -- both sides are the same tree of conditions: push the two functions into its leaves
  simp only [stepChar, stepNest, St.incNest_bind, apply_ite (Functor.map _),
    apply_ite (Option.elim · (panic : Outcome (Mode × Nat)) ok)]
  simp only [Option.elim, map_ok, map_panic, apply_ite St.nest, St.push_nest, St.flush_nest,
    ite_self]

theorem peekC_isNone_and_atEndOfLast (R : List Char) :
    ((peekC R).isNone && atEndOfLast R) = atEndOfLast R := by
  rw [Bool.and_eq_right_iff_imp]
  intro h
  simp only [atEndOfLast, Bool.or_eq_true, decide_eq_true_eq] at h
  rcases h with (rfl | rfl) | rfl <;> rfl

theorem stepNest_peek (c : Char) (R : List Char) (n : Nat) :
    stepNest ((peekC R).isNone && atEndOfLast R) c (peekC R) n =
      stepNest (atEndOfLast R) c R.head? n := by
  simp [stepNest, peekC_isNone_and_atEndOfLast, peekC_eq_some]

theorem panicScan_cons (nest : Nat) (mode : Mode) (c : Char) (rest : List Char) :
    panicScan nest mode (c :: rest) =
      if c = '\n' then panicScan nest .normal rest
      else if c = '\r' ∧ rest.head? = some '\n' then panicScan nest mode rest
      else
        match mode with
        | .skipLine => panicScan nest .skipLine rest
        | .skip1 => panicScan nest .normal rest
        | .normal =>
          match stepNest (atEndOfLast rest) c rest.head? nest with
          | none => true
          | some (mode', nest') => panicScan nest' mode' rest := by
  rw [panicScan.eq_def]

theorem run_panic_iff (s : List Char) : ∀ (ln col0 : Nat) (mode : Mode) (st : St),
    (run ln col0 mode st s = panic ↔ panicScan st.nest mode s = true) ∧
      ∀ k, run ln col0 mode st s ≠ err k := by
  induction s with
  | nil => intro ln col0 mode st; simp [run, panicScan]
  | cons c rest ih =>
    intro ln col0 mode st
    rw [run_cons, panicScan_cons]
    split
    · exact St.flush_nest st ▸ ih (ln + 1) 0 .normal st.flush
    · split
      · exact ih ..
      · cases mode with
        | skipLine | skip1 => exact ih ..
        | normal =>
          have hs := stepChar_nest_map (atEndOfLast rest) ln col0 c (peekC rest) st
          rw [stepNest_peek] at hs
          simp only []
          cases hc : stepChar (atEndOfLast rest) ln col0 c (peekC rest) st <;>
            cases hn : stepNest (atEndOfLast rest) c rest.head? st.nest <;>
            simp [hc, hn] at hs ⊢
          subst hs
          exact ih ..

/-- `Tokenizer::parse` panics exactly under `panicScan`; otherwise it returns tokens -/
theorem tokenize_panic_iff (s : List Char) :
    (tokenize s = panic ↔ panicScan 0 .normal s = true) ∧ ∀ k, tokenize s ≠ err k := by
  rw [tokenize_eq_run]
  exact run_panic_iff s 1 0 .normal {}

/-- `s` contains `/*` -/
def hasOpen : List Char → Bool
  | c :: d :: rest => (c = '/' && d = '*') || hasOpen (d :: rest)
  | _ => false

/-- without a `/*` the nesting counter never leaves zero -/
theorem panicScan_noOpen (s : List Char) : ∀ (mode : Mode), hasOpen s = false →
    panicScan 0 mode s = false := by
  induction s with
  | nil => intro _ _; rfl
  | cons c rest ih =>
    intro mode h
    have ⟨hr, hp⟩ : hasOpen rest = false ∧ ¬ (c = '/' ∧ rest.head? = some '*') := by
      cases rest <;> simp_all [hasOpen]
    have ih' := fun m => ih m hr
    rw [panicScan_cons]
    cases mode <;> by_cases hd : c = '-' ∧ rest.head? = some '-' <;> simp [stepNest, hp, hd, ih']

end Asn1Verif.Front
