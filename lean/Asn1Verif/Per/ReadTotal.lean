import Asn1Verif.Per.PrimLemmasBitStr
/-
  L1 reader totality (C04, part 1): every reader of `Per/Prim.lean`, for all arguments and all inputs,
  never panics and on success returns a suffix of its input (no over-read, no rewind): `Good bs (r bs)`.
  `Reads m bs (r bs)` adds that a read returning `a` has taken at least `m a` bits; the bounds are those
  the layers above need: the least consumption (work bound of SEQUENCE OF) or the input paid per unit
  returned (allocation bound of the strings).
  The fragment loops recurse on the length of the remaining input and have a `panic` branch guarded by
  `r'.length < bs.length`; an unconstrained length determinant takes at least 8 bits (`rLen_none_reads`),
  so the guard always holds and the branch is dead.
-/
namespace Asn1Verif.Per.RT
open Asn1Verif Outcome Per

abbrev IsSuffix (rest bs : Bits) : Prop := rest <:+ bs

theorem isSuffix_iff {rest bs : Bits} : IsSuffix rest bs ↔ ∃ pre, bs = pre ++ rest :=
  ⟨fun ⟨t, h⟩ => ⟨t, h.symm⟩, fun ⟨t, h⟩ => ⟨t, h.symm⟩⟩

theorem isSuffix_iff_drop {rest bs : Bits} :
    IsSuffix rest bs ↔ rest.length ≤ bs.length ∧ rest = bs.drop (bs.length - rest.length) := by
  constructor
  · rintro ⟨t, rfl⟩
    refine ⟨by simp, ?_⟩
    have : (t ++ rest).length - rest.length = t.length := by simp
    rw [this]; simp
  · rintro ⟨_, h⟩; rw [h]; exact List.drop_suffix _ _

def Good {α : Type} (bs : Bits) : Outcome (α × Bits) → Prop
  | .ok (_, rest) => IsSuffix rest bs
  | .err _ => True
  | .panic => False

@[simp] theorem good_ok {α : Type} (bs : Bits) (a : α) (rest : Bits) :
    Good bs (ok (a, rest)) ↔ rest <:+ bs := Iff.rfl
@[simp] theorem good_err {α : Type} (bs : Bits) (k : ErrKind) :
    Good bs (err k : Outcome (α × Bits)) := trivial
@[simp] theorem good_panic {α : Type} (bs : Bits) :
    ¬ Good bs (panic : Outcome (α × Bits)) := id

theorem Good.ne_panic {α : Type} {bs : Bits} {o : Outcome (α × Bits)} (h : Good bs o) :
    o ≠ .panic := by
  intro e; subst e; exact h

theorem Good.suffix {α : Type} {bs : Bits} {o : Outcome (α × Bits)} (h : Good bs o)
    {a : α} {rest : Bits} (e : o = ok (a, rest)) : IsSuffix rest bs := by
  subst e; exact h

theorem good_iff {α : Type} {bs : Bits} {o : Outcome (α × Bits)} :
    Good bs o ↔ o ≠ .panic ∧ ∀ a rest, o = ok (a, rest) → ∃ pre, bs = pre ++ rest := by
  constructor
  · intro h; exact ⟨h.ne_panic, fun a rest e => isSuffix_iff.1 (h.suffix e)⟩
  · rintro ⟨h1, h2⟩
    match o, h1, h2 with
    | .ok (a, rest), _, h2 => exact isSuffix_iff.2 (h2 a rest rfl)
    | .err _, _, _ => trivial
    | .panic, h1, _ => exact h1 rfl

def Reads {α : Type} (m : α → Nat) (bs : Bits) : Outcome (α × Bits) → Prop
  | .ok (a, rest) => rest <:+ bs ∧ rest.length + m a ≤ bs.length
  | .err _ => True
  | .panic => False

section
variable {α β : Type} {bs : Bits} {o : Outcome (α × Bits)} {m : α → Nat}

theorem Reads.good (h : Reads m bs o) : Good bs o := by
  match o, h with
  | .ok _, h => exact h.1
  | .err _, _ => trivial

theorem Good.reads (h : Good bs o) : Reads (fun _ => 0) bs o := by
  match o, h with
  | .ok _, h => exact ⟨h, h.length_le⟩
  | .err _, _ => trivial

theorem Reads.of_ok (h : Reads m bs o) {a : α} {rest : Bits} (e : o = ok (a, rest)) :
    rest <:+ bs ∧ rest.length + m a ≤ bs.length := by
  subst e; exact h

theorem Reads.pure (a : α) (h : m a = 0) : Reads m bs (ok (a, bs)) :=
  ⟨List.suffix_refl bs, by rw [h]; exact Nat.le_refl _⟩

/-- the reader ran on a suffix that is `k` bits shorter: `k` more bits were taken -/
theorem Reads.frame {rest : Bits} {k : Nat} {m' : α → Nat} (hs : rest <:+ bs)
    (hk : rest.length + k ≤ bs.length) (h : Reads m rest o) (hm : ∀ a, m' a ≤ k + m a) :
    Reads m' bs o := by
  match o, h with
  | .ok (a, _), h => exact ⟨h.1.trans hs, by have := hm a; have := h.2; omega⟩
  | .err _, _ => trivial

theorem Reads.weaken {m' : α → Nat} (h : Reads m bs o) (hm : ∀ a, m' a ≤ m a) : Reads m' bs o :=
  Reads.frame (k := 0) (List.suffix_refl bs) (Nat.le_refl _) h (fun a => by have := hm a; omega)

/-- the continuation owes what the first step has not taken -/
theorem Reads.bind {x : Outcome (α × Bits)} {f : α × Bits → Outcome (β × Bits)} {m' : β → Nat}
    (hx : Reads m bs x)
    (hf : ∀ a rest, x = ok (a, rest) → Reads (fun b => m' b - m a) rest (f (a, rest))) :
    Reads m' bs (x >>= f) := by
  match x, hx, hf with
  | .ok (a, rest), hx, hf => exact Reads.frame hx.1 hx.2 (hf a rest rfl) (fun b => by omega)
  | .err _, _, _ => trivial

theorem Reads.ite {c : Prop} [Decidable c] {x y : Outcome (α × Bits)} (hx : c → Reads m bs x)
    (hy : ¬ c → Reads m bs y) : Reads m bs (if c then x else y) := by
  split
  · exact hx ‹_›
  · exact hy ‹_›

theorem Good.mono {rest : Bits} (hs : rest <:+ bs) (h : Good rest o) : Good bs o :=
  (Reads.frame (k := 0) (m' := fun _ => 0) hs hs.length_le h.reads (fun _ => Nat.le_refl _)).good

theorem Good.bind {x : Outcome (α × Bits)} {f : α × Bits → Outcome (β × Bits)} (hx : Good bs x)
    (hf : ∀ a rest, x = ok (a, rest) → rest <:+ bs → Good rest (f (a, rest))) :
    Good bs (x >>= f) :=
  (hx.reads.bind (m' := fun _ => 0) fun a rest e => (hf a rest e (hx.suffix e)).reads).good

theorem Good.ite {c : Prop} [Decidable c] {x y : Outcome (α × Bits)} (hx : c → Good bs x)
    (hy : ¬ c → Good bs y) : Good bs (if c then x else y) :=
  (Reads.ite (fun h => (hx h).reads) fun h => (hy h).reads).good

end

theorem rdBit_reads (bs : Bits) : Reads (fun _ => 1) bs (rdBit bs) := by
  cases bs with
  | nil => trivial
  | cons b r => exact ⟨List.suffix_cons b r, Nat.le_refl _⟩

theorem rdBits_reads (n : Nat) (bs : Bits) : Reads (fun _ => n) bs (rdBits n bs) := by
  unfold rdBits
  refine Reads.ite (fun _ => trivial) fun _ => ?_
  exact ⟨List.drop_suffix n bs, by simp only [List.length_drop]; omega⟩

theorem rdNat_reads (w : Nat) (bs : Bits) : Reads (fun _ => w) bs (rdNat w bs) := by
  rw [rdNat_eq]
  exact (rdBits_reads w bs).bind fun _ _ _ => Reads.pure _ (Nat.sub_self w)

theorem rdBit_good (bs : Bits) : Good bs (rdBit bs) := (rdBit_reads bs).good
theorem rdNat_good (w : Nat) (bs : Bits) : Good bs (rdNat w bs) := (rdNat_reads w bs).good
theorem rdBits_good (n : Nat) (bs : Bits) : Good bs (rdBits n bs) := (rdBits_reads n bs).good

theorem rNNBIc_reads (lb ub : Option Nat) (bs : Bits) :
    Reads (fun _ => bitWidth (ub.getD I64MAXu - lb.getD 0)) bs (rNNBIc lb ub bs) := by
  unfold rNNBIc
  exact (rdNat_reads _ bs).bind fun v rest _ =>
    Reads.ite (fun _ => trivial) fun _ => Reads.pure _ (Nat.sub_self _)

theorem rNNBIc_good (lb ub : Option Nat) (bs : Bits) : Good bs (rNNBIc lb ub bs) :=
  (rNNBIc_reads lb ub bs).good

/-- 8 bits for a length ≤ 127 and for a fragment header, 16 for 128 … 16383 -/
theorem rLen_none_reads (bs : Bits) : Reads (fun _ => 8) bs (rLen none none bs) := by
  unfold rLen
  simp only [Option.isSome_none, Bool.or_self, Bool.false_and, Bool.false_eq_true, ↓reduceIte]
  refine (rdBit_reads bs).bind fun b0 r0 _ => Reads.ite (fun _ => ?_) fun _ => ?_
  · exact (rNNBIc_reads _ _ r0).weaken fun _ => by decide
  · refine (rdBit_reads r0).bind fun b1 r1 _ => Reads.ite (fun _ => ?_) fun _ => ?_
    · exact (rNNBIc_reads _ _ r1).weaken fun _ => by decide
    · exact (rdNat_reads 6 r1).bind fun m r2 _ => Reads.pure _ rfl

theorem rLen_good (lb ub : Option Nat) (bs : Bits) : Good bs (rLen lb ub bs) := by
  unfold rLen
  dsimp only
  refine Good.ite (fun _ => Good.ite (fun _ => List.suffix_refl bs) fun _ => rNNBIc_good _ _ _)
    fun _ => Good.ite (fun _ => rNNBIc_good _ _ _) fun _ => ?_
  -- what is left is `rLen none none bs` unfolded
  exact (rLen_none_reads bs).good

theorem rLen_reads (lb ub : Option Nat) (bs : Bits) :
    Reads (fun _ => if lb.isNone && ub.isNone then 8 else 0) bs (rLen lb ub bs) :=
  match lb, ub with
  | none, none => rLen_none_reads bs
  | some _, _ => (rLen_good _ _ bs).reads
  | none, some _ => (rLen_good _ _ bs).reads

theorem rNNBI_good (lb ub : Option Nat) (bs : Bits) : Good bs (rNNBI lb ub bs) := by
  unfold rNNBI
  split
  · exact Good.bind (rLen_good _ _ _) fun n rest _ _ =>
      Good.ite (fun _ => rdNat_good _ _) fun _ => trivial
  · exact rNNBIc_good _ _ _

theorem rNNBI_some_reads (u : Nat) (bs : Bits) :
    Reads (fun _ => bitWidth u) bs (rNNBI none (some u) bs) :=
  rNNBIc_reads none (some u) bs

theorem r2s_good (bitLen : Nat) (bs : Bits) : Good bs (r2s bitLen bs) := by
  unfold r2s
  refine Good.ite (fun _ => trivial) fun _ => Good.bind (rdNat_good _ _) fun v rest _ _ => ?_
  exact Good.ite (fun _ => List.suffix_refl rest) fun _ => List.suffix_refl rest

theorem rConstrained_reads (lb ub : Int) (bs : Bits) :
    Reads (fun _ => if ub > lb then 1 else 0) bs (rConstrained lb ub bs) := by
  unfold rConstrained
  split
  · exact ((rNNBI_some_reads _ bs).weaken (m' := fun _ => 1) fun _ => bitWidth_pos (by omega)).bind
      fun o rest _ => Reads.ite (fun _ => trivial) fun _ => Reads.pure _ rfl
  · exact Reads.pure _ rfl

theorem rConstrained_good (lb ub : Int) (bs : Bits) : Good bs (rConstrained lb ub bs) :=
  (rConstrained_reads lb ub bs).good

theorem rSmall_good (bs : Bits) : Good bs (rSmall bs) := by
  unfold rSmall
  exact Good.bind (rdBit_good _) fun big rest _ _ =>
    Good.ite (fun _ => rNNBI_good _ _ _) fun _ => rNNBI_good _ _ _

theorem rSemi_good (lb : Int) (bs : Bits) : Good bs (rSemi lb bs) := by
  unfold rSemi
  exact Good.bind (rNNBI_good _ _ _) fun n rest _ _ =>
    Good.ite (fun _ => List.suffix_refl rest) fun _ => trivial

theorem rUnconstrained_reads (bs : Bits) : Reads (fun _ => 8) bs (rUnconstrained bs) := by
  unfold rUnconstrained
  exact (rLen_none_reads bs).bind fun n rest _ => (r2s_good _ rest).reads

theorem rUnconstrained_good (bs : Bits) : Good bs (rUnconstrained bs) :=
  (rUnconstrained_reads bs).good

theorem extBit_reads (extensible : Bool) (bs : Bits) :
    Reads (fun _ => if extensible then 1 else 0) bs
      (if extensible then rdBit bs else ok (false, bs)) := by
  split
  · exact rdBit_reads bs
  · exact Reads.pure _ rfl

theorem rIndex_reads (std : Nat) (ext : Bool) (bs : Bits) :
    Reads (fun _ => if ext || decide (2 ≤ std) then 1 else 0) bs (rIndex std ext bs) := by
  unfold rIndex
  cases ext with
  | true =>
    refine (rdBit_reads bs).bind fun isExt rest _ => (Good.ite (fun _ => ?_) fun _ => ?_).reads
    · exact Good.bind (rSmall_good _) fun n rest' _ _ =>
        Good.ite (fun _ => trivial) fun _ => List.suffix_refl rest'
    · exact Good.ite (fun _ => trivial) fun _ => rNNBI_good _ _ _
  | false =>
    simp only [Bool.false_eq_true, ↓reduceIte, bind_ok, Bool.false_or, decide_eq_true_eq]
    by_cases h0 : std = 0
    · rw [if_pos h0]; trivial
    · rw [if_neg h0]
      refine (rNNBI_some_reads _ bs).weaken fun _ => ?_
      split
      · exact bitWidth_pos (by omega)
      · exact Nat.zero_le _

theorem rIndex_good (stdVariants : Nat) (extensible : Bool) (bs : Bits) :
    Good bs (rIndex stdVariants extensible bs) :=
  (rIndex_reads stdVariants extensible bs).good

section Str
variable {α : Type} {cnt : Nat → Nat} {dec : Bits → List α}
  {rf : List α → Bits → Outcome (List α × Bits)} {z : Bool} {w : List α → Nat}

/-- `w`: the bits of input a list of items costs; 8 more for every length determinant, so each round
    leaves less input and the `panic` guarding the recursion is never reached -/
theorem rFrag_reads (hw : ∀ a b, w (a ++ b) = w a + w b)
    (hdec : ∀ n data, data.length = cnt n → w (dec data) ≤ cnt n)
    (hstep : ∀ acc bs, rf acc bs = rLen none none bs >>= fun p => rdBits (cnt p.1) p.2 >>= fun q =>
      if p.1 < Consts.LENGTH_16K then ok (acc ++ dec q.1, q.2)
      else if _hlt : q.2.length < bs.length then rf (acc ++ dec q.1) q.2 else panic)
    (acc : List α) (bs : Bits) : Reads (fun out => w out - w acc + 8) bs (rf acc bs) := by
  rw [hstep]
  refine (rLen_none_reads bs).bind fun n r e1 => (rdBits_reads (cnt n) r).bind fun data r' e2 => ?_
  dsimp only
  have hd := hdec n data (rdBits_len e2)
  have ha := hw acc (dec data)
  refine Reads.ite (fun _ => Reads.pure _ (by omega)) fun _ => ?_
  have h1 := (rLen_none_reads bs).of_ok e1
  have h2 := (rdBits_reads (cnt n) r).of_ok e2
  rw [dif_pos (show r'.length < bs.length by omega)]
  exact (rFrag_reads hw hdec hstep (acc ++ dec data) r').weaken fun out => by omega
termination_by bs.length
decreasing_by omega

variable (hdec : ∀ n data, data.length = cnt n → w (dec data) ≤ cnt n)
  (hrf : ∀ acc bs, Reads (fun out => w out - w acc + 8) bs (rf acc bs))
include hdec hrf

theorem strRBody_reads (n : Nat) (frag : Bool) (r : Bits) :
    Reads w r (strRBody cnt dec rf n frag r) := by
  refine (rdBits_reads _ r).bind fun data r' e => ?_
  have hd := hdec n data (rdBits_len e)
  exact Reads.ite (fun _ => (hrf _ r').weaken fun out => by omega) fun _ => Reads.pure _ (by omega)

variable (hw0 : w [] = 0)
include hw0

/-- allocation bound: a string reader that succeeds has consumed the bits of the items it returns -/
theorem rStr_ext_reads (lb ub : Option Nat) (ext : Bool) (bs : Bits) :
    Reads (fun out => w out + if ext then 1 else 0) bs (rStr cnt dec rf z lb ub ext bs) := by
  have body := strRBody_reads hdec hrf
  refine (extBit_reads ext bs).bind fun isExt r0 _ => ?_
  refine Reads.weaken (m := w) ?_ (fun _ => by omega)
  refine Reads.ite (fun _ => ?_) fun _ => Reads.ite (fun _ => Reads.pure _ hw0) fun _ =>
    Reads.ite (fun _ => body _ _ r0) fun _ => ?_
  · exact (rLen_good _ _ r0).reads.bind fun n r1 _ => body _ _ r1
  · exact (rLen_good _ _ r0).reads.bind fun n r1 _ => body _ _ r1

theorem rStr_reads (lb ub : Option Nat) (ext : Bool) (bs : Bits) :
    Reads (fun out => w out + if ext || (lb.isNone && ub.isNone) then 1 else 0) bs
      (rStr cnt dec rf z lb ub ext bs) := by
  cases ext with
  | true => exact rStr_ext_reads hdec hrf hw0 lb ub true bs
  | false =>
    cases lb <;> cases ub <;> try exact rStr_ext_reads hdec hrf hw0 _ _ false bs
    unfold rStr
    have hI : ¬ ((none : Option Nat).getD I64MAXu = 0) := by decide
    simp only [Bool.false_eq_true, ↓reduceIte, bind_ok, hI, and_false, Option.isSome_none,
      Bool.false_and]
    exact (rLen_none_reads bs).bind fun n r1 _ =>
      (strRBody_reads hdec hrf _ _ r1).weaken fun out => by
        simp only [Option.isNone_none, Bool.and_self, Bool.or_true, ↓reduceIte]; omega

end Str

theorem rOctFrag_good (acc : List (BitVec 8)) (bs : Bits) : Good bs (rOctFrag acc bs) :=
  (rFrag_reads (w := fun _ => 0) (fun _ _ => rfl) (fun _ _ _ => Nat.zero_le _) rOctFrag_step acc bs).good

theorem rOctets_reads (lb ub : Option Nat) (ext : Bool) (bs : Bits) :
    Reads (fun out => 8 * out.length + if ext || (lb.isNone && ub.isNone) then 1 else 0) bs
      (rOctets lb ub ext bs) := by
  rw [rOctets_str]
  exact rStr_reads (w := fun out => 8 * out.length)
    (fun n data h => Nat.le_of_eq (congrArg (8 * ·) (bitsBytes_length n data h)))
    (rFrag_reads (fun a b => by simp only [List.length_append, Nat.mul_add])
      (fun n data h => Nat.le_of_eq (congrArg (8 * ·) (bitsBytes_length n data h))) rOctFrag_step)
    rfl lb ub ext bs

theorem rOctets_good (lb ub : Option Nat) (extensible : Bool) (bs : Bits) :
    Good bs (rOctets lb ub extensible bs) :=
  (rOctets_reads lb ub extensible bs).good

theorem rBitFrag_good (acc : Bits) (bs : Bits) : Good bs (rBitFrag acc bs) :=
  (rFrag_reads (cnt := id) (dec := id) (w := fun _ => 0) (fun _ _ => rfl) (fun _ _ _ => Nat.zero_le _)
    rBitFrag_step acc bs).good

theorem rBitString_reads (lb ub : Option Nat) (ext : Bool) (bs : Bits) :
    Reads (fun out => out.length + if ext || (lb.isNone && ub.isNone) then 1 else 0) bs
      (rBitString lb ub ext bs) := by
  rw [rBitString_str]
  exact rStr_reads (cnt := id) (dec := id) (w := List.length) (fun n data h => Nat.le_of_eq h)
    (rFrag_reads (cnt := id) (dec := id) (fun a b => List.length_append) (fun n data h => Nat.le_of_eq h)
      rBitFrag_step)
    rfl lb ub ext bs

theorem rBitString_good (lb ub : Option Nat) (extensible : Bool) (bs : Bits) :
    Good bs (rBitString lb ub extensible bs) :=
  (rBitString_reads lb ub extensible bs).good

end Asn1Verif.Per.RT
