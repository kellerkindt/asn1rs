import Asn1Verif.Front.TotalBase
/-
  Totality (see TotalBase) for the constructs that do not nest: named numbers, INTEGER, SIZE, tags,
  ENUMERATED.  Where a pair `r` has to be taken apart before a `match` can be split, `split` is used
  for that too.
-/
namespace Asn1Verif.Front.Syn
open Except

theorem constantI64_post (t : Token) : Post (constantI64 t) (fun _ => True) := by
  unfold constantI64
  split
  · exact .ok trivial
  · exact .error

theorem constantU64_post (t : Token) : Post (constantU64 t) (fun _ => True) := by
  unfold constantU64
  split
  · exact .ok trivial
  · exact .error

theorem readConstant_post {R : Type} (parser : Token → FR R)
    (hp : ∀ t, Post (parser t) (fun _ => True)) (ts : List Token) :
    Post (readConstant parser ts) (fun (_, r) => r.length + 4 = ts.length) :=
  (nextTextOrErr_post ts).bind₂ fun _ ts1 h1 =>
  (nextSepEq_post '(' ts1).bind fun ts2 h2 =>
  (nextOrErr_post ts2).bind₂ fun v ts3 h3 =>
  (nextSepEq_post ')' ts3).bind fun ts4 h4 =>
  (hp v).bind fun _ _ => .pure (by omega)

theorem constantsLoop_post₂ {R : Type} (parser : Token → FR R)
    (hp : ∀ t, Post (parser t) (fun _ => True)) (fuel : Nat) (ts : List Token)
    (h : ts.length < fuel) :
    Post₂ (constantsLoop parser (fuel + 1) ts) (constantsLoop parser fuel ts)
      (fun (_, r) => r.length < ts.length) := by
  induction fuel generalizing ts with
  | zero => omega
  | succ fuel ih =>
    unfold constantsLoop
    refine (readConstant_post parser hp ts).same.bind₂ fun _ ts1 h1 => ?_
    refine (nextOrErr_post ts1).same.bind₂ fun t ts2 h2 => ?_
    refine (loopCtrl_post t).same.bind fun _ _ => .ite ?_ (.pure (by omega))
    exact (ih ts2 (by omega)).bind₂ fun _ ts3 h3 => .pure (by omega)

theorem maybeReadConstants_post₂ {R : Type} (parser : Token → FR R)
    (hp : ∀ t, Post (parser t) (fun _ => True)) (fuel : Nat) (ts : List Token)
    (h : ts.length ≤ fuel) :
    Post₂ (maybeReadConstants parser (fuel + 1) ts) (maybeReadConstants parser fuel ts)
      (fun (_, r) => r.length ≤ ts.length) := by
  unfold maybeReadConstants
  refine nextIsSep_cases '{' ts (fun ts0 h0 => ?_) (.ok (Nat.le_refl _))
  exact (constantsLoop_post₂ parser hp fuel ts0 (by omega)).mono fun ⟨_, r⟩ hr => by omega

theorem maybeExtensible_post (ts : List Token) :
    Post (maybeExtensible ts) (fun (_, r) => r.length ≤ ts.length) := by
  unfold maybeExtensible
  refine nextIsSep_cases ',' ts (fun ts0 h0 => ?_) (.ok (Nat.le_refl _))
  exact (dots_post 3 ts0).bind fun ts1 h1 => .pure (by omega)

theorem parseInteger_post₂ (fuel : Nat) (ts : List Token) (h : ts.length ≤ fuel) :
    Post₂ (parseInteger (fuel + 1) ts) (parseInteger fuel ts)
      (fun (_, r) => r.length ≤ ts.length) := by
  unfold parseInteger
  refine (maybeReadConstants_post₂ _ constantI64_post fuel ts h).bind fun r h1 => Post.same ?_
  split
  refine nextIsSep_cases '(' _ (fun ts1 h0 => ?_) (.pure h1)
  refine (nextOrErr_post ts1).bind₂ fun _ ts2 h2 => ?_
  refine (dots_post 2 ts2).bind fun ts3 h3 => ?_
  refine (nextOrErr_post ts3).bind₂ fun _ ts4 h4 => ?_
  refine (maybeExtensible_post ts4).bind₂ fun _ ts5 h5 => ?_
  exact (nextSepEq_post ')' ts5).bind fun ts6 h6 => .pure (by omega)

theorem parseSize_post (ts : List Token) :
    Post (parseSize ts) (fun (_, r) => r.length < ts.length) := by
  unfold parseSize
  refine (nextTextEqIC_post "SIZE" ts).bind fun ts1 h1 => ?_
  refine (nextSepEq_post '(' ts1).bind fun ts2 h2 => ?_
  refine (nextOrErr_post ts2).bind₂ fun _ ts3 h3 => .ite ?_ ?_
  · refine (nextOrErr_post ts3).bind₂ fun _ ts4 h4 => .ite (.pure (by omega)) (.ite ?_ .error)
    refine (dots_post 3 ts4).bind fun ts5 h5 => ?_
    exact (nextSepEq_post ')' ts5).bind fun ts6 h6 => .pure (by omega)
  · refine (dots_post 2 ts3).bind fun ts4 h4 => ?_
    refine (nextOrErr_post ts4).bind₂ fun _ ts5 h5 => .ite ?_ ?_
    · exact (nextSepEq_post ')' ts5).bind fun ts6 h6 => .pure (by omega)
    · refine (maybeExtensible_post ts5).bind₂ fun _ ts6 h6 => ?_
      exact (nextSepEq_post ')' ts6).bind fun ts7 h7 => .ite (.pure (by omega)) (.pure (by omega))

theorem maybeReadSize_post (ts : List Token) :
    Post (maybeReadSize ts) (fun (_, r) => r.length ≤ ts.length) := by
  unfold maybeReadSize
  refine nextIsSep_cases '(' ts (fun ts0 h0 => ?_)
    (.ite ((parseSize_post ts).mono fun ⟨_, r⟩ hr => by omega) (.ok (Nat.le_refl _)))
  refine (parseSize_post ts0).bind₂ fun _ ts1 h1 => ?_
  exact (nextSepEq_post ')' ts1).bind fun ts2 h2 => .pure (by omega)

theorem parseString_post (cs : Charset) (ts : List Token) :
    Post (parseString cs ts) (fun (_, r) => r.length ≤ ts.length) :=
  (maybeReadSize_post ts).bind₂ fun _ _ h1 => .pure h1

theorem parseTagNumber_post (t : Token) : Post (parseTagNumber t) (fun _ => True) := by
  unfold parseTagNumber
  split
  · exact .ok trivial
  · exact .error

theorem parseTag_post (ts : List Token) :
    Post (parseTag ts) (fun (_, r) => r.length < ts.length) := by
  unfold parseTag
  refine (nextOrErr_post ts).bind₂ fun t ts1 h1 => .ite ?_ (.ite ?_ (.ite ?_ (.ite ?_ .error)))
  -- the three tag classes that are followed by the number
  iterate 3
    refine (nextOrErr_post ts1).bind₂ fun n ts2 h2 => ?_
    exact (parseTagNumber_post n).bind fun _ _ => .pure (by omega)
  exact (parseTagNumber_post t).bind fun _ _ => .pure (by omega)

theorem nextWithOptTag_post (ts : List Token) :
    Post (nextWithOptTag ts) (fun (_, r) => r.length < ts.length) :=
  (nextOrErr_post ts).bind₂ fun _ ts1 h1 => .ite
    ((parseTag_post ts1).bind₂ fun _ ts2 h2 =>
      (nextSepEq_post ']' ts2).bind fun ts3 h3 =>
      (nextOrErr_post ts3).bind₂ fun _ ts4 h4 => .pure (by omega))
    (.pure (by omega))

theorem enumLoop_post₂ (fuel n : Nat) (ext : Bool) (ts : List Token) (h : ts.length < fuel) :
    Post₂ (enumLoop (fuel + 1) n ext ts) (enumLoop fuel n ext ts)
      (fun (_, r) => r.length < ts.length) := by
  induction fuel generalizing n ext ts with
  | zero => omega
  | succ fuel ih =>
    unfold enumLoop
    refine nextIsSep_cases '.' ts (fun ts0 h0 => ?_) ?_
    · refine .ite .error ?_
      refine (dots_post 2 ts0).same.bind fun ts1 h1 => ?_
      refine (nextOrErr_post ts1).same.bind₂ fun t ts2 h2 => ?_
      refine (loopCtrl_post t).same.bind fun _ _ => .ite ?_ (.pure (by omega))
      exact (ih n true ts2 (by omega)).bind₂ fun _ ts3 h3 => .pure (by omega)
    · refine (nextTextOrErr_post ts).same.bind₂ fun _ ts1 h1 => ?_
      refine (nextOrErr_post ts1).same.bind₂ fun _ ts2 h2 =>
        .ite (.ite ?_ (.pure (by omega))) (.ite ?_ .error)
      · exact (ih _ ext ts2 (by omega)).bind₂ fun _ ts3 h3 => .pure (by omega)
      · refine (nextOrErr_post ts2).same.bind fun r h3 => ?_
        split
        split
        · exact .error
        · refine (nextSepEq_post ')' _).same.bind fun ts4 h4 => ?_
          refine (nextOrErr_post ts4).same.bind₂ fun t ts5 h5 => ?_
          refine (loopCtrl_post t).same.bind fun _ _ => .ite ?_ (.pure (by omega))
          exact (ih _ ext ts5 (by omega)).bind₂ fun _ ts6 h6 => .pure (by omega)

theorem parseEnumerated_post₂ (fuel : Nat) (ts : List Token) (h : ts.length ≤ fuel) :
    Post₂ (parseEnumerated (fuel + 1) ts) (parseEnumerated fuel ts)
      (fun (_, r) => r.length ≤ ts.length) :=
  (nextSepEq_post '{' ts).same.bind fun ts1 h1 =>
  (enumLoop_post₂ fuel 0 false ts1 (by omega)).bind₂ fun _ ts2 h2 => .pure (by omega)

end Asn1Verif.Front.Syn
