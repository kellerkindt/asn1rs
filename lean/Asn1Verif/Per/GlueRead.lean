import Asn1Verif.Per.GlueBits
import Asn1Verif.Per.GlueSign
import Asn1Verif.Per.PrimLemmasWhole
/-
  The byte-level readers of `Per/Concrete.lean` (on a `BitsView`, the `Bits<'a>` of buffer.rs) return what
  the L1 readers of `Per/Prim.lean` return on the remaining bits of the view, advance the cursor by exactly
  the bits the L1 reader consumes, and fail exactly when (and how) the L1 readers fail.
-/
namespace Asn1Verif.Per.Glue
open Asn1Verif Asn1Verif.Bits Asn1Verif.Per Outcome

def remaining (v : BitsView) : Bits := (bitsOf v.slice 0 v.len).drop v.pos

@[simp] theorem length_remaining (v : BitsView) : (remaining v).length = v.len - v.pos := by
  rw [remaining, List.length_drop, length_bitsOf]

theorem remaining_take (v : BitsView) (n : Nat) (h : v.pos + n ≤ v.len) :
    (remaining v).take n = bitsOf v.slice v.pos n := by
  rw [remaining, bitsOf_drop _ _ (by omega), bitsOf_take _ _ (by omega), Nat.zero_add]

theorem remaining_advance (v : BitsView) (n : Nat) :
    remaining { v with pos := v.pos + n } = (remaining v).drop n :=
  List.drop_drop.symm

def Consumed (v : BitsView) (rest : Bits) (v' : BitsView) : Prop :=
  v'.slice = v.slice ∧ v'.len = v.len ∧ v'.Inv ∧ remaining v' = rest

theorem Consumed.inv {v v' : BitsView} {rest : Bits} (h : Consumed v rest v') : v'.Inv := h.2.2.1

theorem Consumed.remaining_eq {v v' : BitsView} {rest : Bits} (h : Consumed v rest v') :
    remaining v' = rest := h.2.2.2

theorem Consumed.refl {v : BitsView} (h : v.Inv) : Consumed v (remaining v) v := ⟨rfl, rfl, h, rfl⟩

theorem Consumed.trans {v v1 v2 : BitsView} {r1 r2 : Bits} (h1 : Consumed v r1 v1)
    (h2 : Consumed v1 r2 v2) : Consumed v r2 v2 :=
  ⟨h2.1.trans h1.1, h2.2.1.trans h1.2.1, h2.2.2⟩

/-- the outcome `c` of a concrete reader started on the view `v` refines the outcome `m` of the L1
    reader started on `remaining v` -/
def RRel {α : Type} (v : BitsView) (m : Outcome (α × Bits)) (c : Outcome (α × BitsView)) : Prop :=
  match m with
  | .ok (a, rest) => ∃ v', c = ok (a, v') ∧ v'.slice = v.slice ∧ v'.len = v.len ∧ v'.Inv ∧
      remaining v' = rest
  | .err k => c = err k
  | .panic => c = panic

theorem RRel.cases {α : Type} {v : BitsView} {m : Outcome (α × Bits)} {c : Outcome (α × BitsView)}
    (h : RRel v m c) :
    (∃ a v', m = ok (a, remaining v') ∧ c = ok (a, v') ∧ Consumed v (remaining v') v') ∨
      (∃ k, m = err k ∧ c = err k) ∨ (m = panic ∧ c = panic) := by
  cases m with
  | ok p =>
    obtain ⟨a, rest⟩ := p
    obtain ⟨v', e, hs, hl, hi, rfl⟩ := h
    exact .inl ⟨_, v', rfl, e, hs, hl, hi, rfl⟩
  | err k => exact .inr (.inl ⟨k, rfl, h⟩)
  | panic => exact .inr (.inr ⟨rfl, h⟩)

theorem RRel.of_view {α : Type} {v v1 : BitsView} {r1 : Bits} {m : Outcome (α × Bits)}
    {c : Outcome (α × BitsView)} (h1 : Consumed v r1 v1) (h : RRel v1 m c) : RRel v m c := by
  cases m with
  | ok p => obtain ⟨v2, e, p2⟩ := h; exact ⟨v2, e, h1.trans p2⟩
  | err k => exact h
  | panic => exact h

theorem RRel.bind {α β : Type} {v : BitsView} {m : Outcome (α × Bits)}
    {c : Outcome (α × BitsView)} {f : α × Bits → Outcome (β × Bits)}
    {g : α × BitsView → Outcome (β × BitsView)} (h : RRel v m c)
    (hk : ∀ a v', v'.Inv → RRel v' (f (a, remaining v')) (g (a, v'))) :
    RRel v (m >>= f) (c >>= g) := by
  rcases h.cases with ⟨a, v', rfl, rfl, p⟩ | ⟨k, rfl, rfl⟩ | ⟨rfl, rfl⟩
  · exact (hk a v' p.inv).of_view p
  · rfl
  · rfl

theorem RRel.ok {α : Type} {v : BitsView} (a : α) (h : v.Inv) :
    RRel v (Outcome.ok (a, remaining v)) (Outcome.ok (a, v)) := ⟨v, rfl, Consumed.refl h⟩

theorem RRel.explicit {α : Type} {v : BitsView} {a : α} {rest : Bits} {c : Outcome (α × BitsView)}
    (h : RRel v (Outcome.ok (a, rest)) c) :
    c = Outcome.ok (a, { v with pos := v.len - rest.length }) ∧
      BitsView.Inv { v with pos := v.len - rest.length } ∧
      remaining { v with pos := v.len - rest.length } = rest := by
  obtain ⟨v', h1, h2, h3, h4, h5⟩ := h
  have hp : v'.pos = v.len - rest.length := by
    have hl := length_remaining v'
    rw [h5, h3] at hl
    have := h4.2
    omega
  obtain ⟨s, l, p⟩ := v'
  subst h2 h3 hp
  exact ⟨h1, h4, h5⟩

theorem RRel.spelled {α : Type} {v : BitsView} {m : Outcome (α × Bits)} {c : Outcome (α × BitsView)} :
    RRel v m c →
    match m with
    | .ok (a, rest) => c = Outcome.ok (a, { v with pos := v.len - rest.length }) ∧
        BitsView.Inv { v with pos := v.len - rest.length } ∧
        remaining { v with pos := v.len - rest.length } = rest
    | .err k => c = Outcome.err k
    | .panic => c = Outcome.panic := by
  intro h
  cases m with
  | ok p => obtain ⟨a, rest⟩ := p; exact RRel.explicit h
  | err k => exact h
  | panic => exact h

theorem remaining_cons (v : BitsView) (hp : v.pos < v.len) :
    remaining v = getBit v.slice v.pos :: remaining { v with pos := v.pos + 1 } := by
  calc remaining v = (remaining v).take 1 ++ (remaining v).drop 1 := (List.take_append_drop 1 _).symm
    _ = _ := by rw [remaining_take v 1 hp, remaining_advance]; rfl

theorem readBit_refines (v : BitsView) (h : v.Inv) : RRel v (rdBit (remaining v)) v.readBit := by
  rw [BitsView.readBit_spec v h]
  by_cases hp : v.pos < v.len
  · rw [if_pos hp, remaining_cons v hp]
    exact ⟨_, rfl, rfl, rfl, ⟨h.1, hp⟩, rfl⟩
  · have : remaining v = [] := List.eq_nil_of_length_eq_zero (by rw [length_remaining]; omega)
    rw [if_neg hp, this]
    rfl

theorem readBits_eq (v : BitsView) (dst : List Byte) : v.readBits dst = v.readBitsWithOffset dst 0 :=
  rfl

/-- `read_bits_with_offset(&mut [0u8; n], off)` (`read_bits` for `off = 0`) reads `w` bits, `off + w = 8n` -/
theorem readZero_cases (v : BitsView) (h : v.Inv) {n off w : Nat} (hw : off + w = 8 * n) :
    ((remaining v).length < w ∧
      v.readBitsWithOffset (Concrete.zeroBytes n) off = err .endOfStream) ∨
    (w ≤ (remaining v).length ∧ ∃ dst v',
      v.readBitsWithOffset (Concrete.zeroBytes n) off = ok (dst, v') ∧ dst.length = n ∧
      bytesBits dst = List.replicate off false ++ (remaining v).take w ∧
      Consumed v ((remaining v).drop w) v') := by
  have e : v.readBitsWithOffset (Concrete.zeroBytes n) off =
      v.readBitsWithOffsetLen (Concrete.zeroBytes n) off w := by
    unfold BitsView.readBitsWithOffset BitsView.readBitsWithOffsetLen sliceReadBitsWithOffset failIf
    rw [byte_len_eq, length_zeroBytes, Nat.mul_comm n 8, ← hw, Nat.add_sub_cancel_left]
    have h1 : ¬ (off + w < off) := Nat.not_lt.2 (Nat.le_add_right _ _)
    simp only [h1, decide_false, Bool.false_eq_true, ite_false, Outcome.bind_ok]
  rw [e, length_remaining]
  by_cases hl : v.pos + w ≤ v.len
  · obtain ⟨dst, e1, hspec⟩ := BitsView.readBitsWithOffsetLen_ok v (Concrete.zeroBytes n) off w h hl
      (by rw [length_zeroBytes]; omega)
    refine .inr ⟨by omega, dst, _, e1, by rw [hspec.1, length_zeroBytes], ?_, rfl, rfl, ⟨h.1, hl⟩,
      remaining_advance v w⟩
    rw [bytesBits_of_copy hw hspec, remaining_take v w hl]
  · exact .inl ⟨by have := h.2; omega, BitsView.readBitsWithOffsetLen_eos v _ off w h.2 (by omega)⟩

theorem RRel.bind_readZero {β : Type} {v : BitsView} (h : v.Inv) {n off w : Nat}
    (hw : off + w = 8 * n) {f : Bits × Bits → Outcome (β × Bits)}
    {g : List Byte × BitsView → Outcome (β × BitsView)}
    (hk : ∀ bits dst v', v'.Inv → bits.length = w → dst.length = n →
      bytesBits dst = List.replicate off false ++ bits →
      RRel v' (f (bits, remaining v')) (g (dst, v'))) :
    RRel v (rdBits w (remaining v) >>= f)
      (v.readBitsWithOffset (Concrete.zeroBytes n) off >>= g) := by
  rcases readZero_cases v h hw with ⟨hlt, hc⟩ | ⟨hge, dst, v', hc, hd, hb, p⟩ <;> rw [rdBits, hc]
  · rw [if_pos hlt]; rfl
  · have := hk _ dst v' p.inv (List.length_take_of_le hge) hd hb
    rw [p.remaining_eq] at this
    rw [if_neg (Nat.not_lt.2 hge)]
    exact this.of_view p

theorem RRel.bind_readNat {β : Type} {v : BitsView} (h : v.Inv) {n off w : Nat}
    (hw : off + w = 8 * n) {f : Nat × Bits → Outcome (β × Bits)}
    {g : List Byte × BitsView → Outcome (β × BitsView)}
    (hk : ∀ dst v', v'.Inv → dst.length = n →
      RRel v' (f (Concrete.fromBeBytes dst, remaining v')) (g (dst, v'))) :
    RRel v (rdNat w (remaining v) >>= f)
      (v.readBitsWithOffset (Concrete.zeroBytes n) off >>= g) := by
  rw [rdNat_eq, bind_assoc]
  refine RRel.bind_readZero h hw fun bits dst v' h' _ hd hb => ?_
  have := hk dst v' h' hd
  rwa [← bitsToNat_bytesBits, hb, bitsToNat_zeros_append] at this

theorem rNNBIc_refines (lb ub : Option Nat) (v : BitsView) (h : v.Inv)
    (hub : ub.getD I64MAXu ≤ U64_MAX) :
    RRel v (Per.rNNBIc lb ub (remaining v)) (Concrete.rNNBIc lb ub v) := by
  unfold Per.rNNBIc Concrete.rNNBIc
  exact RRel.bind_readNat h (n := 8) (lz64_add_bitWidth (by omega)) fun dst v' hi _ =>
    rel_ite (fun _ => rfl) fun _ => RRel.ok _ hi

theorem rLen_refines (lb ub : Option Nat) (v : BitsView) (h : v.Inv)
    (hub : ub.getD I64MAXu ≤ U64_MAX) :
    RRel v (Per.rLen lb ub (remaining v)) (Concrete.rLen lb ub v) := by
  have field := rNNBIc_refines lb ub v h hub
  unfold Per.rLen Concrete.rLen
  refine rel_ite (fun _ => rel_ite (fun _ => RRel.ok _ h) fun _ => field) fun _ =>
    rel_ite (fun _ => field) fun _ => RRel.bind (readBit_refines v h) fun b0 v1 h1 =>
    rel_ite (fun _ => rNNBIc_refines none (some Consts.LENGTH_127) v1 h1 (by decide)) fun _ =>
    RRel.bind (readBit_refines v1 h1) fun b1 v2 h2 =>
    rel_ite (fun _ => rNNBIc_refines none (some (Consts.LENGTH_16K - 1)) v2 h2 (by decide)) fun _ =>
    RRel.bind_readNat h2 (n := 1) (w := 6) rfl fun dst v3 h3 hd => ?_
  match dst, hd with
  | [x], _ =>
    rw [show Concrete.fromBeBytes [x] = x.toNat from Nat.zero_add _]
    exact RRel.ok _ h3

theorem zeroBytes_drop (n k : Nat) : (Concrete.zeroBytes n).drop k = Concrete.zeroBytes (n - k) :=
  List.drop_replicate

theorem zeroBytes_take (n k : Nat) : (Concrete.zeroBytes n).take k = Concrete.zeroBytes (min k n) :=
  List.take_replicate

theorem fromBeBytes_zero_append (j : Nat) (bs : List Byte) :
    Concrete.fromBeBytes (Concrete.zeroBytes j ++ bs) = Concrete.fromBeBytes bs := by
  rw [← bitsToNat_bytesBits, bytesBits_append, bytesBits_eq_bitsOf (Concrete.zeroBytes j),
    bitsOf_zeroBytes, bitsToNat_zeros_append, bitsToNat_bytesBits]

theorem rNNBI_refines (lb ub : Option Nat) (v : BitsView) (h : v.Inv)
    (hub : ub.getD I64MAXu ≤ U64_MAX) :
    RRel v (Per.rNNBI lb ub (remaining v)) (Concrete.rNNBI lb ub v) := by
  cases lb with
  | some l => exact rNNBIc_refines (some l) ub v h hub
  | none =>
    cases ub with
    | some u => exact rNNBIc_refines none (some u) v h hub
    | none =>
      simp only [Per.rNNBI, Concrete.rNNBI, length_zeroBytes]
      refine RRel.bind (rLen_refines none none v h (by decide)) fun length v1 h1 =>
        rel_ite (fun hl => ?_) fun _ => rfl
      dsimp only at hl ⊢
      rw [rdNat_eq, zeroBytes_drop, Nat.sub_sub_self hl, zeroBytes_take, readBits_eq]
      refine RRel.bind_readZero h1 (Nat.zero_add _) fun bits dst v2 h2 _ _ hb => ?_
      rw [fromBeBytes_zero_append, ← bitsToNat_bytesBits, hb]
      exact RRel.ok _ h2

theorem r2s_refines (bitLen : Nat) (v : BitsView) (h : v.Inv) :
    RRel v (Per.r2s bitLen (remaining v)) (Concrete.r2s bitLen v) := by
  unfold Per.r2s Concrete.r2s
  delta Consts.BYTE_LEN
  simp only [length_zeroBytes, Nat.reduceMul]
  refine rel_ite (fun _ => rfl) fun hr => ?_
  rw [uSub_ok (by omega), bind_ok, rdNat_eq, bind_assoc]
  refine RRel.bind_readZero h (n := 8) (off := 64 - bitLen) (w := bitLen) (by omega)
    fun bits dst v' h' hl hd hb => ?_
  obtain ⟨probe, hi, hv⟩ := signExtend_value dst bits bitLen (by omega) (by omega) hd hl hb
  simp only [hi, Outcome.bind_ok, hv]
  split <;> exact RRel.ok _ h'

theorem rConstrained_refines (lb ub : Int) (v : BitsView) (h : v.Inv)
    (hl : I64_MIN ≤ lb) (hu : ub ≤ I64_MAX) :
    RRel v (Per.rConstrained lb ub (remaining v)) (Concrete.rConstrained lb ub v) := by
  unfold Per.rConstrained Concrete.rConstrained
  refine rel_ite (fun hlt => ?_) fun _ => RRel.ok _ h
  rw [wrappingSubAsU64_eq ub lb (by omega) hl hu]
  refine RRel.bind (rNNBI_refines none (some (ub - lb).toNat) v h (i64_range_le hl hu))
    fun offset v1 h1 =>
    rel_ite (fun _ => rfl) fun ho => ?_
  rw [wrappingAddU64_eq lb offset hl (by omega)]
  exact RRel.ok _ h1

theorem rSmall_refines (v : BitsView) (h : v.Inv) :
    RRel v (Per.rSmall (remaining v)) (Concrete.rSmall v) :=
  RRel.bind (readBit_refines v h) fun _ v1 h1 => rel_ite
    (fun _ => rNNBI_refines none none v1 h1 (by decide))
    fun _ => rNNBI_refines none (some (Consts.SMALL_NON_NEGATIVE_NUMBER - 1)) v1 h1 (by decide)

theorem rSemi_refines (lb : Int) (v : BitsView) (h : v.Inv) :
    RRel v (Per.rSemi lb (remaining v)) (Concrete.rSemi lb v) :=
  RRel.bind (rNNBI_refines none none v h (by decide)) fun _ v1 h1 =>
    rel_ite (fun _ => RRel.ok _ h1) fun _ => rfl

theorem rUnconstrained_refines (v : BitsView) (h : v.Inv) :
    RRel v (Per.rUnconstrained (remaining v)) (Concrete.rUnconstrained v) :=
  RRel.bind (rLen_refines none none v h (by decide)) fun n v1 h1 => r2s_refines (n * 8) v1 h1

theorem readExt_refines (ext : Bool) (v : BitsView) (h : v.Inv) :
    RRel v (if ext then rdBit (remaining v) else ok (false, remaining v))
      (if ext then v.readBit else ok (false, v)) :=
  rel_ite (fun _ => readBit_refines v h) fun _ => RRel.ok _ h

theorem rIndex_refines (std : Nat) (ext : Bool) (v : BitsView) (h : v.Inv) (hstd : std ≤ U64_MAX) :
    RRel v (Per.rIndex std ext (remaining v)) (Concrete.rIndex std ext v) := by
  unfold Per.rIndex Concrete.rIndex
  refine RRel.bind (readExt_refines ext v h) fun isExt v1 h1 => rel_ite
    (fun _ => RRel.bind (rSmall_refines v1 h1) fun n v2 h2 =>
      rel_ite (fun _ => rfl) fun _ => RRel.ok _ h2)
    fun _ => rel_ite (fun _ => rfl) fun h0 => ?_
  rw [uSub_ok (by omega), bind_ok]
  exact rNNBI_refines none (some (std - 1)) v1 h1 (by simp only [Option.getD_some]; omega)

end Asn1Verif.Per.Glue
