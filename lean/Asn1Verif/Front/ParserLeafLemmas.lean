import Asn1Verif.Front.ParserLemmas
/- parse ∘ print for INTEGER ranges and SIZE constraints. -/
namespace Asn1Verif.Front.Syn
open Except

@[simp] theorem maybeExtensible_print (e : Bool) (rest : List Token) :
    maybeExtensible (printExt e ++ .sep ')' :: rest) = .ok (e, .sep ')' :: rest) := by
  cases e <;> simp [maybeExtensible, printExt]

theorem rangeBound_print (kw : String) (hkw : alphaHead kw = true)
    (b : Option URange) (hw : boundWf kw b = true) :
    rangeBound (printRangeBound kw b) kw = b := by
  cases b with
  | none => simp [printRangeBound, rangeBound]
  | some l =>
    cases l with
    | lit i =>
      have h' : I64_MIN ≤ i ∧ i ≤ I64_MAX := by simpa [boundWf, inI64] using hw
      simp only [printRangeBound, rangeBound, tInt,
        if_neg (ne_of_eqIC_false (eqIC_int_kw i kw hkw)), parseI64_toString i h'.1 h'.2]
    | ref s =>
      simp only [boundWf, intRefWf, Bool.and_eq_true, Option.isNone_iff_eq_none, bne_iff_ne, ne_eq] at hw
      simp [printRangeBound, rangeBound, hw.1, hw.2]

theorem integerRange_id (r : Range URange) (hw : rangeNoWiden r = true) :
    integerRange r.min r.max r.ext = r := by
  unfold integerRange
  unfold rangeNoWiden at hw
  simp only [Bool.and_eq_true, Bool.not_eq_true', Bool.and_eq_false_iff, beq_eq_false_iff_ne] at hw
  rw [if_neg]
  rintro (⟨h1, h2⟩ | ⟨h1, h2⟩)
  · exact hw.1.elim (· h1) (· h2)
  · exact hw.2.elim (· h1) (· h2)

theorem parseInteger_plain (fuel : Nat) (ts rest : List Token) (cs : List (String × Int))
    (h : maybeReadConstants constantI64 fuel ts = .ok (cs, rest)) (hp : nextIsSep '(' rest = none) :
    parseInteger fuel ts = .ok ((⟨none, none, false⟩, cs), rest) := by
  rw [parseInteger, h, FR.bind_ok]
  simp only [hp]
  rfl

theorem parseInteger_range (fuel : Nat) (ts rest : List Token) (cs : List (String × Int))
    (t1 t2 : Token) (e : Bool)
    (h : maybeReadConstants constantI64 fuel ts =
      .ok (cs, .sep '(' :: t1 :: .sep '.' :: .sep '.' :: t2 :: (printExt e ++ .sep ')' :: rest))) :
    parseInteger fuel ts =
      .ok ((integerRange (rangeBound t1 "MIN") (rangeBound t2 "MAX") e, cs), rest) := by
  rw [parseInteger, h]
  cases e <;> rfl

/-- `parse_print_Integer` -/
theorem parseInteger_print (r : Range URange) (cs : List (String × Int))
    (hr : rangeWf r = true) (hw : rangeNoWiden r = true)
    (hcs : constsWfI cs = true) (fuel : Nat) (hfuel : cs.length ≤ fuel)
    (rest : List Token) (hrest : RestOk rest) :
    parseInteger fuel (printConstants tInt cs ++ (printRange r ++ rest)) = .ok ((r, cs), rest) := by
  have hc := maybeReadConstants_print tInt constantI64 inI64 constantI64_tInt cs hcs fuel hfuel
  rw [printRange]
  split
  · rename_i hnone
    obtain ⟨a, b, c⟩ := r
    obtain ⟨rfl, rfl, rfl⟩ := hnone
    exact parseInteger_plain fuel _ rest cs (hc rest hrest.brace) hrest.paren
  · simp only [rangeWf, Bool.and_eq_true] at hr
    rw [parseInteger_range fuel _ rest cs _ _ r.ext
      (by simpa only [List.cons_append, List.append_assoc, List.nil_append] using hc _ rfl),
      rangeBound_print "MIN" (by decide +kernel) r.min hr.1,
      rangeBound_print "MAX" (by decide +kernel) r.max hr.2, integerRange_id r hw]

/-- the literal `drop` (`0` for the lower, `SIZE_MAX` for the upper bound) is dropped and comes back
    as the default -/
theorem sizeBound_print (kw : String) (hkw : alphaHead kw = true) (drop : Nat) (a : USz)
    (hw : sizeAtomWf kw a = true) :
    (sizeBound (printSizeBound a) kw drop).getD (.lit drop) = a ∧
      (sizeBound (printSizeBound a) kw drop).isNone = decide (a = .lit drop) := by
  cases a with
  | lit n =>
    simp only [printSizeBound, sizeBound, tNat, if_neg (ne_of_eqIC_false (eqIC_nat_kw n kw hkw)),
      parseU64_toString n (of_decide_eq_true hw)]
    by_cases h0 : n = drop
    · subst h0; simp
    · simp [h0]
  | ref s =>
    simp only [sizeAtomWf, Bool.and_eq_true, Option.isNone_iff_eq_none, bne_iff_ne, ne_eq] at hw
    simp [printSizeBound, sizeBound, hw.1, hw.2]

@[simp] theorem printSizeBound_eqSep (a : USz) (c : Char) : (printSizeBound a).eqSep c = false := by
  cases a <;> rfl

theorem maybeReadSize_brace (ts : List Token) :
    maybeReadSize (.sep '{' :: ts) = .ok (.any, .sep '{' :: ts) := rfl

theorem maybeReadSize_paren (ts : List Token) :
    maybeReadSize (.sep '(' :: ts) =
      (parseSize ts >>= fun r => nextSepEq ')' r.2 >>= fun ts => .ok (r.1, ts)) := rfl

theorem parseSize_single (t : Token) (e : Bool) (ts : List Token) :
    parseSize (.text "SIZE" :: .sep '(' :: t :: (printExt e ++ .sep ')' :: ts)) =
      .ok (.fix (sizeStartOr0 (sizeBound t "MIN" 0)) e, ts) := by
  rw [parseSize, nextTextEqIC_cons, eqTextIC_text, eqIC_self, if_pos rfl, FR.bind_ok]
  cases e <;> rfl

theorem parseSize_range (t1 t2 : Token) (e : Bool) (ts : List Token) :
    parseSize (.text "SIZE" :: .sep '(' :: t1 :: .sep '.' :: .sep '.' :: t2 ::
        (printExt e ++ .sep ')' :: ts)) =
      if (sizeBound t1 "MIN" 0).isNone && (sizeBound t2 "MAX" SIZE_MAX).isNone && !e then
        .ok (.any, ts)
      else if sizeStartOr0 (sizeBound t1 "MIN" 0) = (sizeBound t2 "MAX" SIZE_MAX).getD (.lit SIZE_MAX)
      then .ok (.fix (sizeStartOr0 (sizeBound t1 "MIN" 0)) e, ts)
      else .ok (.range (sizeStartOr0 (sizeBound t1 "MIN" 0))
        ((sizeBound t2 "MAX" SIZE_MAX).getD (.lit SIZE_MAX)) e, ts) := by
  rw [parseSize, nextTextEqIC_cons, eqTextIC_text, eqIC_self, if_pos rfl, FR.bind_ok]
  cases e
  · rfl
  · -- `, ...` follows the bounds, not `)`: the test for the no-constraint shortcut fails
    show ite ((_ && _ && false) = true) _ _ = ite ((_ && _ && false) = true) _ _
    rw [Bool.and_false, if_neg Bool.false_ne_true, if_neg Bool.false_ne_true]
    rfl

/-- `parse_print_Size`; the result is the canonical form -/
theorem maybeReadSize_print (s : Size USz) (hw : sizeWf s = true)
    (rest : List Token) (hrest : RestOk rest) :
    maybeReadSize (printSize s ++ rest) = .ok (canonSize s, rest) := by
  cases s with
  | any =>
    simp only [tok, printSize, maybeReadSize, hrest.paren, hrest.size, canonSize]
  | fix n e =>
    simp only [tok, printSize, maybeReadSize_paren, parseSize_single, sizeStartOr0,
      (sizeBound_print "MIN" (by decide +kernel) 0 n hw).1, canonSize]
  | range a b e =>
    simp only [sizeWf, Bool.and_eq_true] at hw
    obtain ⟨h1, h1n⟩ := sizeBound_print "MIN" (by decide +kernel) 0 a hw.1
    obtain ⟨h2, h2n⟩ := sizeBound_print "MAX" (by decide +kernel) SIZE_MAX b hw.2
    simp only [tok, printSize, maybeReadSize_paren, parseSize_range, sizeStartOr0, h1, h1n, h2, h2n,
      Bool.and_eq_true, decide_eq_true_eq, Bool.not_eq_true', and_assoc, canonSize]
    by_cases hany : a = .lit 0 ∧ b = .lit SIZE_MAX ∧ e = false
    · rw [if_pos hany, if_pos hany]; rfl
    · rw [if_neg hany, if_neg hany]
      by_cases hab : a = b
      · rw [if_pos hab, if_pos hab]; rfl
      · rw [if_neg hab, if_neg hab]; rfl

end Asn1Verif.Front.Syn
