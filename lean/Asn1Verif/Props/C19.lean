import Asn1Verif.Uper.DiagLemmas
/-
  C19 — The diagnostic feature flag does not change decoding results.

  Models: `Uper/Impl.lean` (`dec`, the reader of the build without the feature) and
  `Uper/Diag.lean` (`decD`, the reader of the build with `descriptive-deserialize-errors`: the same
  control flow, threading the `scope_description` vector as a write-only log; the two
  `ScopeDescription::warning` sites push *conditionally on decoded values*).
  Lemmas: `Uper/DiagLemmas.lean` (`Erases`, mutual structural induction over `Ty` / `Fields`).

  `diag_erasure` is the property: for every type descriptor, input, start position and initial
  log the +feature reader returns exactly the outcome of the plain reader — the same `Ok` value
  with the same cursor (= the same number of consumed bits), the same error class, (and a panic
  where the other panics).  `log_monotone`: the log is write-only.  The tie of both models to the
  two real builds is the correspondence stream `uper-diag` (tools/checks/c19.py).
-/
namespace Asn1Verif.Props.C19
open Asn1Verif Asn1Verif.Uper Asn1Verif.Per Outcome

/-- **The feature does not change the result.**  Whatever the log so far, the +feature reader
    computes the outcome of the plain reader: same `Ok` value and cursor, same error class. -/
theorem diag_erasure (t : Ty) (inp : Bits) (pos : Nat) (log : List LogEntry) :
    (decD t inp pos log).1 = dec t inp pos :=
  (decD_erases t inp pos).fst log

/-- the same for the two other entry points of the mutual recursion (alternative `i` of a CHOICE,
    the components of a SEQUENCE) -/
theorem diag_erasure_alt (alts : Fields) (i : Nat) (inp : Bits) (pos : Nat) (log : List LogEntry) :
    (decAltD alts i inp pos log).1 = decAlt alts i inp pos :=
  (decAltD_erases alts i inp pos).fst log

theorem diag_erasure_fields (fs : Fields) (rootLeft optIdx addIdx : Nat) (ctx : SeqCtx)
    (inp : Bits) (pos : Nat) (log : List LogEntry) :
    (decFieldsD fs rootLeft optIdx addIdx ctx inp pos log).1 =
      decFields fs rootLeft optIdx addIdx ctx inp pos :=
  (decFieldsD_erases fs rootLeft optIdx addIdx ctx inp pos).fst log

/-- **The log is write-only**: what the reader returns extends what it was given (also on error) -/
theorem log_monotone (t : Ty) (inp : Bits) (pos : Nat) (log : List LogEntry) :
    log <+: (decD t inp pos log).2 :=
  (decD_erases t inp pos).isPrefix log

/-- the result never depends on the diagnostics collected so far -/
theorem result_independent_of_log (t : Ty) (inp : Bits) (pos : Nat) (log₁ log₂ : List LogEntry) :
    (decD t inp pos log₁).1 = (decD t inp pos log₂).1 := by
  rw [diag_erasure, diag_erasure]

/-- spelled out: same `Ok` value and same number of consumed bits … -/
theorem same_ok (t : Ty) (inp : Bits) (pos : Nat) (log : List LogEntry) (v : Val) (p : Nat) :
    (decD t inp pos log).1 = ok (v, p) ↔ dec t inp pos = ok (v, p) := by
  rw [diag_erasure]

/-- … same error class … -/
theorem same_err (t : Ty) (inp : Bits) (pos : Nat) (log : List LogEntry) (k : ErrKind) :
    (decD t inp pos log).1 = err k ↔ dec t inp pos = err k := by
  rw [diag_erasure]

/-- … and the feature introduces no panic (nor removes one) -/
theorem same_panic (t : Ty) (inp : Bits) (pos : Nat) (log : List LogEntry) :
    (decD t inp pos log).1 = .panic ↔ dec t inp pos = .panic := by
  rw [diag_erasure]

/-! ### non-vacuity: the log DOES depend on the data, the result does not

  `T ::= SEQUENCE { a BOOLEAN, ..., b BOOLEAN OPTIONAL }` as this version of the type knows it
  (one extension addition).  `inA` announces one addition, `inB` (sent by a newer version)
  announces two, the second one absent.  Both decode to the same value; only the second run logs
  the warning `read_number_of_ext_fields(2) > *number_of_ext_fields(1)`. -/

def tSeq : Ty := .seq 0 2 (some 0) (.cons .m .bool (.cons .o .bool .nil))

/-- ext=1, a=1, count-1=0 (7 bits), bitmap `1`, open type: length 1, octet `1000 0000` -/
def inA : Bits :=
  [true, true, false, false, false, false, false, false, false, true,
   false, false, false, false, false, false, false, true,
   true, false, false, false, false, false, false, false]

/-- the same with count-1=1 and bitmap `10` -/
def inB : Bits :=
  [true, true, false, false, false, false, false, false, true, true, false,
   false, false, false, false, false, false, false, true,
   true, false, false, false, false, false, false, false]

def isOkWith (o : Outcome (Val × Nat)) (v : Val) (p : Nat) : Bool :=
  match o with
  | .ok (w, q) => w == v && q == p
  | _ => false

example : tSeq.consistent = true := by decide

/-- same value (cursor at the respective end), the warning only in the second log -/
example :
    isOkWith (decD tSeq inA 0 []).1 (.seq (.cons (.bool true) (.cons (.some (.bool true)) .nil))) 26 = true ∧
    isOkWith (decD tSeq inB 0 []).1 (.seq (.cons (.bool true) (.cons (.some (.bool true)) .nil))) 27 = true ∧
    LogEntry.warningExtFields 2 1 ∉ (decD tSeq inA 0 []).2 ∧
    LogEntry.warningExtFields 2 1 ∈ (decD tSeq inB 0 []).2 := by decide +kernel

/-- the other value-dependent site: an extensible ENUMERATED with two known variants; the index
    sent is 2 resp. 3: same error class, different warnings -/
example :
    (decD (.enum 2 2 true) [true, false, false, false, false, false, false, false] 0 []).1
      = err .invalidChoiceIndex ∧
    (decD (.enum 2 2 true) [true, false, false, false, false, false, false, true] 0 []).1
      = err .invalidChoiceIndex ∧
    LogEntry.warningEnumIndex 2 1 ∈
      (decD (.enum 2 2 true) [true, false, false, false, false, false, false, false] 0 []).2 ∧
    LogEntry.warningEnumIndex 3 1 ∈
      (decD (.enum 2 2 true) [true, false, false, false, false, false, false, true] 0 []).2 ∧
    (decD (.enum 2 2 true) [true, false, false, false, false, false, false, false] 0 []).2 ≠
      (decD (.enum 2 2 true) [true, false, false, false, false, false, false, true] 0 []).2 := by
  refine ⟨by rfl, by rfl, by decide, by decide, by decide⟩

/-- the log is returned also on error (the real build moves it into the `Error`) -/
example : (decD .bool [] 0 []) = (err .endOfStream, [.boolean, .result (err .endOfStream)]) := by
  rfl

end Asn1Verif.Props.C19
