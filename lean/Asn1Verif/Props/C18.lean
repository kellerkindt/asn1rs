import Asn1Verif.Proto.Schema
import Asn1Verif.Proto.SchemaLemmas
import Asn1Verif.Proto.IntWidthLemmas
/-
  C18 — Protobuf bytes agree with the generated .proto schema.

  Models: `Proto/Schema.lean` (mirror of asn1rs-model/src/protobuf.rs and
  asn1rs-model/src/generate/protobuf.rs: `RustType → ProtobufType`, numbering of
  `append_definition`), `Proto/Codec.lean` (the writer; a value is written as a list of `Item`s =
  `write_tagged_*` calls, nested messages inside their content), `Codegen/IntType.lean` (the Rust
  integer type the converter selects, from which the schema takes `uint32/uint64/sint32/sint64`).
  Lemmas: `Proto/SchemaLemmas.lean`, `Proto/IntWidthLemmas.lean`.
  The text of the generated files is compared with the schema model by the `proto wire` requests
  of `./check C18`, and the real octets are decoded under the real files by protoc.
-/
namespace Asn1Verif.Props.C18
open Asn1Verif Asn1Verif.Proto Asn1Verif.Proto.Schema Outcome
open Asn1Verif.Uper (Ty Val Vals Fields Kind)

/-- the schema numbers the fields of a message (the members of a oneof) 1, 2, 3, … in declaration
    order: every component has a number, NULL components included -/
theorem schema_numbers (fs : Fields) :
    (rows fs 0).map Prod.fst = (List.range fs.length).map (· + 1) := by
  simpa using rows_numbers fs 0

/-- the schema entry of component `j` is `(j + 1, ptype t_j)` -/
theorem schema_row (fs : Fields) (j : Nat) (k : Kind) (t : Ty) (h : Fields.get? fs j = some (k, t)) :
    row? fs j = some (j + 1, ptype t) := by
  simpa [row?] using rows_get fs 0 j k t h

/-- the full statement: every wire field the writer emits for component `j` of a message carries
    the number and the wire type of the schema entry of that component -/
def schema_wire_agree : Prop :=
  ∀ (fs : Fields) (vs : Vals) (ls : List (List Item)) (c' : Nat), encFieldsI fs vs 0 = ok (ls, c') →
  ∀ (j : Nat) (l : List Item), ls[j]? = some l →
  ∃ row, row? fs j = some row ∧ ∀ it ∈ l, it.num = row.1 ∧ it.fmt = row.2.wire

/-- What the writer really does, for every message type without OPTIONAL NULL and every value: the
    fields of component `j` carry the number `(number of non-NULL components before j) + 1` and the
    wire type of the schema type of the component (varint for bool / the four integer types /
    enums, length-delimited for string, bytes, BIT STRING and nested messages, the element's wire
    type for `repeated`).  Induction over the component list. -/
theorem writer_rows (fs : Fields) (vs : Vals) (ls : List (List Item)) (c' : Nat)
    (hnn : Fields.noOptNull fs = true) (henc : encFieldsI fs vs 0 = ok (ls, c'))
    (j : Nat) (l : List Item) (hl : ls[j]? = some l) :
    ∃ k t, Fields.get? fs j = some (k, t) ∧
      ∀ it ∈ l, it.num = Fields.countTo fs j + 1 ∧ it.fmt = (ptype t).wire := by
  obtain ⟨k, t, hg, hall⟩ := encFieldsI_rows fs vs 0 ls c' hnn henc j l hl
  exact ⟨k, t, hg, fun it hit => ⟨by simpa using (hall it hit).1, (hall it hit).2⟩⟩

/-- **Agreement**, where it holds: if no NULL component precedes component `j` (all `j` components
    in front of it count), every field written for it has exactly the number and wire type the
    schema declares. -/
theorem schema_wire_agree_partial (fs : Fields) (vs : Vals) (ls : List (List Item)) (c' : Nat)
    (hnn : Fields.noOptNull fs = true) (henc : encFieldsI fs vs 0 = ok (ls, c'))
    (j : Nat) (l : List Item) (hl : ls[j]? = some l) (hnull : Fields.countTo fs j = j) :
    ∃ row, row? fs j = some row ∧ ∀ it ∈ l, it.num = row.1 ∧ it.fmt = row.2.wire := by
  obtain ⟨k, t, hg, hall⟩ := writer_rows fs vs ls c' hnn henc j l hl
  refine ⟨(j + 1, ptype t), schema_row fs j k t hg, fun it hit => ?_⟩
  obtain ⟨h1, h2⟩ := hall it hit
  exact ⟨by rw [h1, hnull], h2⟩

/-- the wire types agree unconditionally (only the numbers can be off) -/
theorem schema_wire_types_agree (fs : Fields) (vs : Vals) (ls : List (List Item)) (c' : Nat)
    (hnn : Fields.noOptNull fs = true) (henc : encFieldsI fs vs 0 = ok (ls, c'))
    (j : Nat) (l : List Item) (hl : ls[j]? = some l) :
    ∃ row, row? fs j = some row ∧ ∀ it ∈ l, it.fmt = row.2.wire := by
  obtain ⟨k, t, hg, hall⟩ := writer_rows fs vs ls c' hnn henc j l hl
  exact ⟨(j + 1, ptype t), schema_row fs j k t hg, fun it hit => (hall it hit).2⟩

/-- CHOICE: the single field inside the oneof wrapper carries the member number `index + 1` and the
    wire type of the member's schema type — for every CHOICE and every value (no exception) -/
theorem schema_oneof_agree (alts : Fields) (i : Nat) (x : Val) (content : List Item)
    (h : encAltI alts i i x = ok content) :
    ∃ row, row? alts i = some row ∧ ∀ it ∈ content, it.num = row.1 ∧ it.fmt = row.2.wire := by
  obtain ⟨k, t, hg, hall⟩ := encAltI_row alts i i x content h
  exact ⟨(i + 1, ptype t), schema_row alts i k t hg, hall⟩

/-! ### INTEGER: the varint is the encoding of the declared scalar type (F-proto-int-ext-width repaired) -/

/-- The wire type says only "varint"; which number a schema-driven parser makes of it depends on
    the declared scalar type (`uint32`, `uint64`: the plain value; `sint32`, `sint64`: zig-zag).
    For every INTEGER constraint with `i64` bounds and a non-empty root, extensible or not:
    the encoding `write_number` / `read_number` select from the constraint constants is the one of
    the scalar type `definition_type_to_protobuf_type` declares for the Rust type the converter
    selected — and that is what the schema model says for the descriptor of the generated code
    (`Schema.ptype`, compared with the real files by the `proto wire` requests). -/
theorem schema_int_encoding_agree (min max : Option Int) (ext : Bool)
    (hmin : Codegen.IntType.OptInI64 min) (hmax : Codegen.IntType.OptInI64 max)
    (hroot : RootNonEmpty min max) :
    (generatedClass min max ext).ptype = ptypeOfRust (Codegen.IntType.cascade min max ext).kind ∧
    ptype (generatedTy min max ext) = ptypeOfRust (Codegen.IntType.cascade min max ext).kind :=
  ⟨generatedClass_schema min max ext hmin hmax hroot, ptype_generatedTy min max ext hmin hmax hroot⟩

/-- … in particular an extensible constraint is written in the 64-bit encoding its schema type
    (`uint64` / `sint64`) demands, whatever its root -/
theorem schema_int_ext_is_64 (min max : Option Int)
    (hmin : Codegen.IntType.OptInI64 min) (hmax : Codegen.IntType.OptInI64 max)
    (hroot : RootNonEmpty min max) :
    (ptype (generatedTy min max true) = .uint64 ∧ generatedClass min max true = .u64) ∨
    (ptype (generatedTy min max true) = .sint64 ∧ generatedClass min max true = .s64) := by
  obtain ⟨h1, h2⟩ := schema_int_encoding_agree min max true hmin hmax hroot
  rw [h2, ← h1]
  rcases intClass_ext (Codegen.IntType.cascade min max true).constMin
    (Codegen.IntType.cascade min max true).constMax with h | h
  · left
    have : generatedClass min max true = .u64 := by
      simpa [generatedClass, Codegen.IntType.cascade, Codegen.IntType.extCascade_ext] using h
    exact ⟨by rw [this]; rfl, this⟩
  · right
    have : generatedClass min max true = .s64 := by
      simpa [generatedClass, Codegen.IntType.cascade, Codegen.IntType.extCascade_ext] using h
    exact ⟨by rw [this]; rfl, this⟩

/-- What the repair changed on the wire (extensible INTEGER: uint32 → uint64, sint32 → sint64):
    the varint of every value the 32-bit encodings carried in standard form is the same in the
    64-bit encoding — every `u32`, and every `-2^30 ≤ v < 2^30` under zig-zag.  Outside that range the
    old sint32 writer sign-extended the 32-bit zig-zag value to a ten-octet varint (regression
    example below), which only its own `as u32` reader undid. -/
theorem int_ext_wire_compat (v : Int) :
    (0 ≤ v → v < 2 ^ 32 → intToVarint .u32 v = intToVarint .u64 v) ∧
    (-(2 ^ 30) ≤ v → v < 2 ^ 30 → intToVarint .s32 v = intToVarint .s64 v) :=
  ⟨intToVarint_u32_eq_u64 v, sint32_eq_sint64 v⟩

/-- both hypotheses are met by 200 and by -5; the bound 2^30 is sharp on both sides -/
example : intToVarint .u32 200 = 200 ∧ intToVarint .s32 (-5) = 9 ∧ intToVarint .s64 (-5) = 9 ∧
    intToVarint .s32 (2 ^ 30) ≠ intToVarint .s64 (2 ^ 30) ∧
    intToVarint .s32 (-(2 ^ 30) - 1) ≠ intToVarint .s64 (-(2 ^ 30) - 1) := by decide +kernel

/-- non-vacuity: INTEGER (0..255, ...) → `u64`, `uint64`, class u64; INTEGER (-100..100, ...) →
    `i64`, `sint64`, class s64; INTEGER (-100..100) → `i8`, `sint32`, class s32 -/
example :
    generatedClass (some 0) (some 255) true = .u64 ∧
    (Codegen.IntType.cascade (some 0) (some 255) true).kind = .u64 ∧
    generatedClass (some (-100)) (some 100) true = .s64 ∧
    (Codegen.IntType.cascade (some (-100)) (some 100) true).kind = .i64 ∧
    generatedClass (some (-100)) (some 100) false = .s32 ∧
    (Codegen.IntType.cascade (some (-100)) (some 100) false).kind = .i8 := by decide +kernel

/-- the hypothesis `RootNonEmpty` cannot be dropped: `INTEGER (5..-3, ...)` (no value in the root;
    meaningless, but accepted by the front end) becomes an `i64` because its upper bound is
    negative — `sint64` in the schema — while the codec looks at the lower bound only and writes
    uint64.  (Round trip is not affected: `int_roundtrip_generated` has no such hypothesis.) -/
example : generatedClass (some 5) (some (-3)) true = .u64 ∧
    (Codegen.IntType.cascade (some 5) (some (-3)) true).kind = .i64 := by decide +kernel

/-- regression (former witnesses of F-proto-int-ext-width): in INTEGER (0..255, ...) (`u64`,
    `uint64 value = 1`) the value `u64::MAX` (−1 in the `i64` view of the codec) was written as
    `08 ff ff ff ff 0f` = 4294967295 and is now the ten-octet varint of 2^64 − 1; in INTEGER
    (-100..100, ...) (`i64`, `sint64 value = 1`) the value 2^30 was written as the sign-extended
    32-bit zig-zag value (ten octets, which a sint64 parser decodes to 2^63 − 2^30) and is now
    the varint of 2^31, the sint64 encoding of 2^30 -/
example :
    encode (wrap (.int (some 0) (some 255) true 64 true)) (wrapV (.int (-1))) =
      ok [0x08#8, 0xff#8, 0xff#8, 0xff#8, 0xff#8, 0xff#8, 0xff#8, 0xff#8, 0xff#8, 0xff#8, 0x01#8] ∧
    encode (wrap (.int (some (-100)) (some 100) true 64 true)) (wrapV (.int 1073741824)) =
      ok [0x08#8, 0x80#8, 0x80#8, 0x80#8, 0x80#8, 0x08#8] ∧
    varintToSint64 (2 ^ 31) = 1073741824#64 ∧
    sint32ToVarint 1073741824#32 = 2 ^ 64 - 2 ^ 31 ∧
    varintToSint64 (2 ^ 64 - 2 ^ 31) = BitVec.ofNat 64 (2 ^ 63 - 2 ^ 30) := by decide +kernel

/-- non-vacuity of the hypotheses of `schema_wire_agree_partial`:
    SEQUENCE { a INTEGER (0..7), b BOOLEAN OPTIONAL, n NULL }, component 1 -/
example :
    let fs : Fields := .cons .m (.int (some 0) (some 7) false 8 false) (.cons .o .bool (.cons .m .null .nil))
    Fields.noOptNull fs = true ∧ Fields.countTo fs 1 = 1 ∧
    (match encFieldsI fs (.cons (.int 5) (.cons (.some (.bool true)) (.cons .null .nil))) 0 with
     | .ok (ls, _) => ls.length == 3 && (ls[1]?.map (·.length)) == some 1
     | _ => false) = true := by decide +kernel

/-- SEQUENCE { a NULL, b BOOLEAN } — `message { bytes a = 1; bool b = 2; }` -/
def nullFirst : Fields := .cons .m .null (.cons .m .bool .nil)

/-- F-proto-null — the hypothesis `countTo fs j = j` cannot be dropped: the schema gives the NULL
    component the number 1 and `b` the number 2, the writer does not count the NULL and writes `b`
    as field 1 (`08 01`).  The full statement is false. -/
theorem schema_wire_disagree_null :
    row? nullFirst 1 = some (2, .bool) ∧
    (match encFieldsI nullFirst (.cons .null (.cons (.bool true) .nil)) 0 with
     | .ok (ls, _) => (ls[1]?.map (fun l => l.map Item.num)) == some [1] &&
                      itemsBytes ls.flatten == [0x08#8, 0x01#8]
     | _ => false) = true := by decide +kernel

theorem schema_wire_agree_false : ¬ schema_wire_agree := by
  intro h
  have henc : encFieldsI nullFirst (.cons .null (.cons (.bool true) .nil)) 0 =
      ok ([[], [.varint 1 1]], 1) := by decide +kernel
  obtain ⟨row, hr, hall⟩ := h nullFirst _ _ _ henc 1 [.varint 1 1] (by decide +kernel)
  have hrow : row? nullFirst 1 = some (2, .bool) := by decide +kernel
  rw [hrow] at hr
  simp only [Option.some.injEq] at hr
  subst hr
  have := (hall (.varint 1 1) (by simp)).1
  simp [Item.num] at this

end Asn1Verif.Props.C18
