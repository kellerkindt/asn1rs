import Asn1Verif.Props.C09
/- GENERATED by tools/vlib.py: axiom audit of every property theorem -/
#print axioms Asn1Verif.Props.C09.field_keyword_escaped
#print axioms Asn1Verif.Props.C09.variant_self_is_keyword
#print axioms Asn1Verif.Props.C09.ident_legal_false
#print axioms Asn1Verif.Props.C09.type_Self_is_keyword
#print axioms Asn1Verif.Props.C09.module_names_illegal
#print axioms Asn1Verif.Props.C09.weak_of_asn
#print axioms Asn1Verif.Props.C09.ident_shape
#print axioms Asn1Verif.Props.C09.module_shape
#print axioms Asn1Verif.Props.C09.field_keyword_iff
#print axioms Asn1Verif.Props.C09.variant_keyword_iff
#print axioms Asn1Verif.Props.C09.emitType_eq_emitVariant
#print axioms Asn1Verif.Props.C09.const_never_keyword
#print axioms Asn1Verif.Props.C09.ident_legal_partial
#print axioms Asn1Verif.Props.C09.layerB_identity
#print axioms Asn1Verif.Props.C09.collision_char
#print axioms Asn1Verif.Props.C09.sep_must_collide
#print axioms Asn1Verif.Props.C09.sep_must_collide_checked
#print axioms Asn1Verif.Props.C09.field_collision_lower_hyphen
