import Asn1Verif.Codegen.ConstsLemmas
import Asn1Verif.Codegen.ConstsLemmasInt
import Asn1Verif.Props.C15
/-
  C08, second half — the descriptor constants the attribute macro expands to match the source
  ASN.1 constraints.

  Model: `Codegen/ConstsModel.lean`.  `constsOf : Src → Uper.Ty` computes, from the type the front
  end delivers (`asn::Type`), the descriptor with the constants the generated code contains
  (STD_OPTIONAL_FIELDS, FIELD_COUNT, EXTENDED_AFTER_FIELD, VARIANT_COUNT, STD_VARIANT_COUNT,
  EXTENSIBLE, MIN, MAX, DEFAULT_VALUE, the Rust integer type), mirroring `convert_asn_to_rust`, the
  attribute round trip of the INTEGER range and `AsnDefWriter` *as coded*; `defConstsOf` is the
  descriptor of a definition (`N ::= T`), which is what `uper desc N` of the harness prints for
  every compiled zoo type.  Tie: stream `consts` (tools/consts_stream.py): `defConstsOf` of the
  source of every zoo type, evaluated by Lean, = the descriptor read back from the compiled code.

  1. `consts_consistent`: the constants always agree with the component list (`Ty.consistent`, the
     predicate the L2 theorems C01–C06 assume and the driver checks) — for every source whose marker
     indices name an existing item (`WellFormedSrc`).  The parsers guarantee that except for
     `SEQUENCE { ... }` without any component (`extension_after = Some(0)`, F-ext-first), where the
     generator panics before any constant is written (F-empty-ext); `consts_consistent_full_false`.
  2. `consts_match_*`: each constant in terms of the source.  Deviations of the code are `_partial`
     theorems with the excluded region as hypothesis, the full statement as a `def`, and a
     counterexample:
       - leading marker `SEQUENCE { ..., a T }`: the first addition is a root component;
       - INTEGER with an open end: `(a..MAX)` gets MAX = i64::MAX, `(MIN..b)` gets MIN = 0 (not
         extensible; `u64`/`u8`..) resp. 0 / i64::MIN (extensible, after the macro round trip);
         `(MIN..b)`, `b < 0`, not extensible: MAX = 2^64 + b (C15 F-int-min);
       - `(MIN..0, ...)`: the struct field is `u64`, the descriptor type the macro derives is `i64`.
-/
namespace Asn1Verif.Props.C08Consts
open Asn1Verif Asn1Verif.Consts Asn1Verif.Uper Asn1Verif.Codegen.IntType Asn1Verif.Codegen.ConstsModel
open Asn1Verif.Props.C15 (Valid)

/-! ### 1. the constants agree with the component list -/

/-- every type position: component, element, alternative -/
theorem consts_consistent (s : Src) (h : WellFormedSrc s) : (constsOf s).consistent = true :=
  constsOf_consistent s h

/-- every definition `N ::= s` (what the codec is handed for the generated type `N`) -/
theorem def_consts_consistent (s : Src) (h : WellFormedSrc s) : (defConstsOf s).consistent = true :=
  defConstsOf_consistent s h

/-- FULL statement, without the hypothesis -/
def ConstsConsistentFull : Prop := ∀ s : Src, (constsOf s).consistent = true

/-- `SEQUENCE { ... }`: EXTENDED_AFTER_FIELD = Some(0), FIELD_COUNT = 0 -/
theorem consts_consistent_full_false : ¬ ConstsConsistentFull := by
  intro h
  have := h (Src.sequenceSrc .nil (some .nil))
  revert this; decide

/-- what the parser records for `SEQUENCE { root, ..., adds }` is well-formed unless there is no
    component at all: the excluded region of `consts_consistent`, as far as the front end can reach
    it, is exactly `{ ... }` -/
theorem parsed_marker_ok (root adds : Comps) :
    markerOk (some (root.length - 1)) (root.append adds).length = true ↔ 0 < root.length + adds.length := by
  simp only [markerOk, decide_eq_true_eq, Comps.length_append]
  omega

/-- CHOICE / ENUMERATED: the parsers refuse a marker in front of the first item, so the recorded
    index always names an item -/
theorem parsed_marker_ok_alts (root adds : Nat) (h : 0 < root) :
    markerOk (some (root - 1)) (root + adds) = true := by
  simp only [markerOk, decide_eq_true_eq]
  omega

/-! ### 2a. SEQUENCE / SET -/

/-- the prefix STD_OPTIONAL_FIELDS is about: all components, or those up to and including the one
    the marker follows -/
def rootLen (extensionAfter : Option Nat) (len : Nat) : Nat :=
  match extensionAfter with
  | some k => k + 1
  | none => len

/-- FIELD_COUNT = number of components; EXTENDED_AFTER_FIELD = the recorded marker position;
    STD_OPTIONAL_FIELDS = number of components declared OPTIONAL or DEFAULT before or at the
    marker; every component keeps its position and the descriptor of its type.  No hypothesis. -/
theorem consts_match_seq (cs : Comps) (ea : Option Nat) :
    ∃ fs : Fields,
      constsOf (.sequence cs ea) = .seq (cs.optCount (rootLen ea cs.length)) cs.length ea fs ∧
      fs.length = cs.length ∧
      ∀ j, fs.get? j = (cs.get? j).map fun pt => (convKind ea j pt.1, constsOf pt.2) := by
  refine ⟨fieldsOf ea 0 cs, ?_, fieldsOf_length ea cs 0, ?_⟩
  · cases ea <;> simp only [constsOf, fieldsOf_length, stdOpt_declared, rootLen]
  · intro j
    rw [fieldsOf_get? ea cs 0 j, Nat.zero_add]

/-- a SET has the constants of the SEQUENCE with the same (sorted) component list -/
theorem consts_match_set (cs : Comps) (ea : Option Nat) :
    constsOf (.set cs ea) = constsOf (.sequence cs ea) := by
  simp only [constsOf]

/-- no marker: every component has the declared kind -/
theorem kinds_without_marker (j : Nat) (p : Presence) : convKind none j p = p.toKind :=
  convKind_root none j p (fun _ => nofun)

/-- root components (position at or before the marker) have the declared kind -/
theorem kinds_root (k j : Nat) (p : Presence) (h : j ≤ k) : convKind (some k) j p = p.toKind :=
  convKind_root (some k) j p (fun _ he => Option.some.inj he ▸ h)

/-- additions (position behind the marker) are never mandatory after conversion … -/
theorem kinds_additions (k j : Nat) (p : Presence) (h : k < j) :
    (convKind (some k) j p).isOptional = true :=
  convKind_addition k j p h

/-- … and keep the declared kind if they were declared OPTIONAL / DEFAULT -/
theorem kinds_additions_declared (k j : Nat) (p : Presence) (hp : p.isOptional = true) :
    convKind (some k) j p = p.toKind :=
  convKind_declared (some k) j p hp

/-- what the source `SEQUENCE { root, ..., adds }` demands of the constants -/
def SeqSourceMatch (root adds : Comps) : Prop :=
  ∃ fs : Fields,
    constsOf (Src.sequenceSrc root (some adds)) =
      .seq (root.optCount root.length) (root.length + adds.length) (some (root.length - 1)) fs ∧
    (∀ j, j < root.length → fs.get? j = (root.get? j).map fun pt => (pt.1.toKind, constsOf pt.2)) ∧
    (∀ j, ∃ k, fs.get? (root.length + j) = (adds.get? j).map (fun pt => (k, constsOf pt.2)) ∧
      k.isOptional = true)

/-- FULL statement -/
def SeqSourceMatchFull : Prop := ∀ root adds : Comps, SeqSourceMatch root adds

/-- holds whenever the marker follows at least one component -/
theorem consts_match_seq_source_partial (root adds : Comps) (h : 0 < root.length) :
    SeqSourceMatch root adds := by
  obtain ⟨fs, h1, _, h3⟩ := consts_match_seq (root.append adds) (some (root.length - 1))
  refine ⟨fs, ?_, ?_, ?_⟩
  · rw [Src.sequenceSrc, h1, rootLen, Nat.sub_add_cancel h,
      Comps.optCount_append_left root adds root.length (Nat.le_refl _), Comps.length_append]
  · intro j hj
    rw [h3 j, Comps.get?_append_left root adds j hj]
    exact Option.map_congr fun pt _ => by rw [kinds_root (root.length - 1) j pt.1 (by omega)]
  · intro j
    rw [h3 (root.length + j), Comps.get?_append_right root adds j]
    cases adds.get? j with
    | none => exact ⟨.o, rfl, rfl⟩
    | some pt =>
      exact ⟨convKind (some (root.length - 1)) (root.length + j) pt.1, rfl,
        convKind_addition _ _ _ (by omega)⟩

/-- `SEQUENCE { ..., a BOOLEAN }` (F-ext-first): recorded as `extension_after = Some(0)`, so the
    addition `a` stays mandatory and is announced as the root component the marker follows -/
theorem consts_match_seq_source_full_false : ¬ SeqSourceMatchFull := by
  intro h
  obtain ⟨fs, h1, _, h3⟩ := h .nil (.cons .mandatory .boolean .nil)
  obtain ⟨k, hk, hopt⟩ := h3 0
  obtain ⟨-, -, -, rfl⟩ := Ty.seq.inj (h1 : Ty.seq 0 1 (some 0) (.cons .m .bool .nil) = _)
  cases (hk : some (Kind.m, Ty.bool) = some (k, Ty.bool))
  exact Bool.false_ne_true hopt

/-- no marker at all: full -/
theorem consts_match_seq_source_nomarker (root : Comps) :
    ∃ fs : Fields,
      constsOf (Src.sequenceSrc root none) = .seq (root.optCount root.length) root.length none fs ∧
      ∀ j, fs.get? j = (root.get? j).map fun pt => (pt.1.toKind, constsOf pt.2) := by
  obtain ⟨fs, h1, _, h3⟩ := consts_match_seq root none
  refine ⟨fs, h1, fun j => ?_⟩
  rw [h3 j]
  exact Option.map_congr fun pt _ => by rw [kinds_without_marker]

/-! ### 2b. CHOICE / ENUMERATED -/

/-- VARIANT_COUNT = number of alternatives, STD_VARIANT_COUNT = recorded index + 1 (all of them
    without marker), EXTENSIBLE = marker present; every alternative keeps its position -/
theorem consts_match_choice (alts : Alts) (ea : Option Nat) :
    constsOf (.choice alts ea) = .choice (stdVariants ea alts.length) alts.length ea.isSome (altsOf alts) := by
  simp only [constsOf, altsOf_length]

theorem consts_match_enum (n : Nat) (ea : Option Nat) :
    constsOf (.enumerated n ea) = .enum (stdVariants ea n) n ea.isSome := by
  simp only [constsOf]

/-- `CHOICE { root, ..., adds }`: STD_VARIANT_COUNT = root alternatives, VARIANT_COUNT = all.
    (`root = []` with a marker is refused by the parser.) -/
theorem consts_match_choice_source (root adds : Alts) (h : 0 < root.length) :
    constsOf (Src.choiceSrc root (some adds)) =
      .choice root.length (root.length + adds.length) true (altsOf (root.append adds)) := by
  simp only [Src.choiceSrc, consts_match_choice, stdVariants, Alts.length_append, Option.isSome,
    Nat.sub_add_cancel h]

theorem consts_match_choice_source_nomarker (root : Alts) :
    constsOf (Src.choiceSrc root none) = .choice root.length root.length false (altsOf root) := by
  simp only [Src.choiceSrc, consts_match_choice, stdVariants, Option.isSome]

/-- `ENUMERATED { root items, ..., adds items }` -/
theorem consts_match_enum_source (root adds : Nat) (h : 0 < root) :
    constsOf (Src.enumSrc root (some adds)) = .enum root (root + adds) true := by
  simp only [Src.enumSrc, consts_match_enum, stdVariants, Option.isSome, Nat.sub_add_cancel h]

theorem consts_match_enum_source_nomarker (root : Nat) :
    constsOf (Src.enumSrc root none) = .enum root root false := by
  simp only [Src.enumSrc, consts_match_enum, stdVariants, Option.isSome]

/-! ### 2c. SIZE -/

/-- MIN / MAX / EXTENSIBLE of strings, octet strings, bit strings, SEQUENCE OF, SET OF are the
    declared size: `Any ↦ (None, None, false)`, `Fix(n, e) ↦ (Some n, Some n, e)`,
    `Range(a, b, e) ↦ (Some a, Some b, e)` -/
theorem consts_match_size (cs : Charset) (sz : Size) (e : Src) :
    constsOf (.string cs sz) = .str cs sz.min sz.max sz.extensible ∧
    constsOf (.octetString sz) = .oct sz.min sz.max sz.extensible ∧
    constsOf (.bitString sz) = .bits sz.min sz.max sz.extensible ∧
    constsOf (.sequenceOf sz e) = .seqOf sz.min sz.max sz.extensible (constsOf e) ∧
    constsOf (.setOf sz e) = .seqOf sz.min sz.max sz.extensible (constsOf e) := by
  simp only [constsOf, and_self]

theorem size_declared (n a b : Nat) (e : Bool) :
    (Size.any.min, Size.any.max, Size.any.extensible) = (none, none, false) ∧
    ((Size.fix n e).min, (Size.fix n e).max, (Size.fix n e).extensible) = (some n, some n, e) ∧
    ((Size.range a b e).min, (Size.range a b e).max, (Size.range a b e).extensible) = (some a, some b, e) :=
  ⟨rfl, rfl, rfl⟩

/-! ### 2d. INTEGER -/

theorem valid_in (lo hi : Option Int) (hv : Valid lo hi) : OptInI64 lo ∧ OptInI64 hi :=
  match lo, hi, hv with
  | none, none, _ => ⟨trivial, trivial⟩
  | none, some _, hv => ⟨trivial, hv⟩
  | some _, none, hv => ⟨hv, trivial⟩
  | some _, some _, hv => ⟨hv.1, hv.2.1⟩

/-- the descriptor of an INTEGER: constants and Rust type of the macro's second run -/
theorem consts_match_int_descriptor (lo hi : Option Int) (ext : Bool) :
    constsOf (.integer lo hi ext) =
      .int (intTy lo hi ext).constMin (intTy lo hi ext).constMax (intTy lo hi ext).ext
        (intTy lo hi ext).kind.bits (codecSigned (intTy lo hi ext).kind) := rfl

/-- EXTENSIBLE is the declared one, always -/
theorem consts_match_int_extensible (lo hi : Option Int) (ext : Bool) : (intTy lo hi ext).ext = ext := by
  have h1 : ∀ t : IntTy, t.intoAsn.2.2 = t.ext := by intro t; cases t <;> rfl
  rw [intTy, reconvert, cascade_ext, h1, choose_eq_cascade, cascade_ext]

/-- not extensible: the attribute round trip changes nothing — the walker works on exactly the type
    the converter chose (C15's theorems about `choose` apply verbatim) -/
theorem int_second_run_fixed (lo hi : Option Int) (hv : Valid lo hi) :
    intTy lo hi false = choose lo hi false := by
  unfold intTy
  rw [choose_eq_cascade]
  exact reconvert_fixed lo hi (valid_in lo hi hv).1 (valid_in lo hi hv).2

/-- extensible: the second run closes an open end of the printed range -/
theorem int_second_run_ext (lo hi : Option Int) (hv : Valid lo hi) :
    intTy lo hi true =
      match lo, hi with
      | none, some b =>
        if b = I64_MAX then .u64 none none true
        else if 0 < b then .u64 (some 0) (some b) true
        else .i64 I64_MIN b true
      | some a, none =>
        if a = 0 then .u64 none none true
        else if 0 < a then .u64 (some a) (some I64_MAX) true
        else .i64 a I64_MAX true
      | lo, hi => choose lo hi true := by
  unfold intTy
  rw [choose_eq_cascade, reconvert_ext lo hi (valid_in lo hi hv).1 (valid_in lo hi hv).2]
  match lo, hi, hv with
  | none, none, _ => rfl
  | none, some b, hb => exact ext_closed_min b hb
  | some a, none, ha => exact ext_closed_max a ha
  | some a, some b, _ => exact (choose_eq_cascade _ _ _).symm

/-- `(MIN..b, ...)` -/
theorem int_ext_min_open (b : Int) (hb : InI64 b) :
    intTy none (some b) true =
      if b = I64_MAX then .u64 none none true
      else if 0 < b then .u64 (some 0) (some b) true
      else .i64 I64_MIN b true :=
  int_second_run_ext none (some b) hb

/-- `(a..MAX, ...)` -/
theorem int_ext_max_open (a : Int) (ha : InI64 a) :
    intTy (some a) none true =
      if a = 0 then .u64 none none true
      else if 0 < a then .u64 (some a) (some I64_MAX) true
      else .i64 a I64_MAX true :=
  int_second_run_ext (some a) none ha

/-- `(a..b, ...)` and `(MIN..MAX, ...)`: the round trip changes nothing -/
theorem int_ext_closed (a b : Int) (hv : Valid (some a) (some b)) :
    intTy (some a) (some b) true = choose (some a) (some b) true :=
  int_second_run_ext (some a) (some b) hv

theorem int_ext_unconstrained : intTy none none true = choose none none true :=
  int_second_run_ext none none trivial

/-- FULL statement for MIN / MAX: a declared bound has its constant, except where the front end
    deliberately widens `(0..MAX)`, `(0..i64::MAX)`, `(MIN..i64::MAX)` to "no constraint"
    (the statement of C15 `ConstantsDeclared`, here for the constants of the macro expansion) -/
def IntConstsDeclared : Prop :=
  ∀ (lo hi : Option Int) (ext : Bool), Valid lo hi →
    (∀ a, lo = some a → (intTy lo hi ext).constMin = some a ∨
        (a = 0 ∧ (hi = none ∨ hi = some I64_MAX) ∧ (intTy lo hi ext).constMin = none)) ∧
    (∀ b, hi = some b → (intTy lo hi ext).constMax = some b ∨
        (b = I64_MAX ∧ (lo = none ∨ lo = some 0) ∧ (intTy lo hi ext).constMax = none))

/-- excluded (as in C15): `(MIN..b)` with `b < 0`, not extensible -/
theorem consts_match_int_partial (lo hi : Option Int) (ext : Bool) (hv : Valid lo hi)
    (hex : ¬ (lo = none ∧ ext = false ∧ ∃ b, hi = some b ∧ b < 0)) :
    (∀ a, lo = some a → (intTy lo hi ext).constMin = some a ∨
        (a = 0 ∧ (hi = none ∨ hi = some I64_MAX) ∧ (intTy lo hi ext).constMin = none)) ∧
    (∀ b, hi = some b → (intTy lo hi ext).constMax = some b ∨
        (b = I64_MAX ∧ (lo = none ∨ lo = some 0) ∧ (intTy lo hi ext).constMax = none)) := by
  have h1 := C15.constants_partial lo hi ext hv hex
  cases ext with
  | false => rw [int_second_run_fixed lo hi hv]; exact h1
  | true =>
    -- an end the macro closes is not a declared one; the declared one is kept or widened away
    cases lo with
    | none =>
      cases hi with
      | none => rw [int_ext_unconstrained]; exact h1
      | some b =>
        refine ⟨fun _ => nofun, fun _ hb' => ?_⟩
        cases hb'
        rw [int_ext_min_open b hv]
        split
        · exact Or.inr ⟨‹_›, Or.inl rfl, rfl⟩
        · split <;> exact Or.inl rfl
    | some a =>
      cases hi with
      | none =>
        refine ⟨fun _ ha' => ?_, fun _ => nofun⟩
        cases ha'
        rw [int_ext_max_open a hv]
        split
        · exact Or.inr ⟨‹_›, Or.inl rfl, rfl⟩
        · split <;> exact Or.inl rfl
      | some b => rw [int_ext_closed a b hv]; exact h1

/-- `INTEGER (MIN..-5)`: MAX = 18446744073709551611 (written into a `const MAX: Option<i64>`) -/
theorem consts_match_int_full_false : ¬ IntConstsDeclared := by
  intro h
  have := (h none (some (-5)) false (by decide)).2 (-5) rfl
  revert this; decide

/-- FULL statement for the open ends: where the source declares no bound (and the front end did not
    widen the other one away) there is no constant -/
def IntOpenEndsOpen : Prop :=
  ∀ (lo hi : Option Int) (ext : Bool), Valid lo hi →
    (lo = none → (intTy lo hi ext).constMin = none) ∧ (hi = none → (intTy lo hi ext).constMax = none)

/-- `INTEGER (5..MAX)`: MAX = Some(i64::MAX) (C02 F-semi); `INTEGER (MIN..5)`: MIN = Some(0) -/
theorem int_open_ends_false : ¬ IntOpenEndsOpen := by
  intro h
  have := (h (some 5) none false (by decide)).2 rfl
  revert this; decide

/-- what the constants are at an open end, exactly.  Upper end `(a..MAX)`, `a ≠ 0`: i64::MAX. -/
theorem int_open_max (a : Int) (ext : Bool) (ha : InI64 a) (h0 : a ≠ 0) :
    (intTy (some a) none ext).constMax = some I64_MAX := by
  cases ext with
  | true =>
    rw [int_ext_max_open a ha, if_neg h0]
    split <;> rfl
  | false =>
    -- the cascade reads `a..MAX` as `a..i64::MAX` and stores both numbers
    rw [int_second_run_fixed (some a) none ha, choose_eq_cascade, cascade_false, fixedCascade_getD]
    exact congrArg Prod.snd (cascade_stored_closed a I64_MAX false ha inI64_max ha.2 (fun h => h0 h.1))

/-- lower end `(MIN..b)`, `b ≠ i64::MAX`, not extensible: 0 (the type is unsigned, C15 F-int-min) -/
theorem int_open_min_fixed (b : Int) (hb : InI64 b) (h0 : b ≠ I64_MAX) :
    (intTy none (some b) false).constMin = some 0 := by
  -- the cascade reads `MIN..b` as `0..b`: an unsigned type, whose lower bound is `0 as uN`
  rw [int_second_run_fixed none (some b) hb, choose_eq_cascade, cascade_false, fixedCascade_getD]
  show (fixedCascade (some 0) (some b)).constMin = some 0
  rw [fixedCascade_eq 0 b hb, if_neg (fun h => h0 h.2), if_pos (Int.le_refl 0)]
  repeat' split
  all_goals rfl

/-- lower end `(MIN..b, ...)`: 0 for positive `b`, else i64::MIN -/
theorem int_open_min_ext (b : Int) (hb : InI64 b) (h0 : b ≠ I64_MAX) :
    (intTy none (some b) true).constMin = some (if 0 < b then 0 else I64_MIN) := by
  rw [int_ext_min_open b hb, if_neg h0]
  split <;> rfl

/-- FULL statement: the descriptor's integer type is the type of the struct field (first run) -/
def IntTypeStable : Prop :=
  ∀ (lo hi : Option Int) (ext : Bool), Valid lo hi → (intTy lo hi ext).kind = (choose lo hi ext).kind

/-- excluded: `(MIN..0, ...)` -/
theorem int_type_stable_partial (lo hi : Option Int) (ext : Bool) (hv : Valid lo hi)
    (hex : ¬ (lo = none ∧ hi = some 0 ∧ ext = true)) :
    (intTy lo hi ext).kind = (choose lo hi ext).kind := by
  cases ext with
  | false => rw [int_second_run_fixed lo hi hv]
  | true =>
    -- closing an open end keeps the sign of both ends, except that `min..0` becomes `i64::MIN..0`
    have hc := consts_facts
    rw [intTy, choose_eq_cascade, reconvert_ext lo hi (valid_in lo hi hv).1 (valid_in lo hi hv).2,
      cascade_true, cascade_true, extCascade_kind, extCascade_kind]
    refine ite_congr (propext ?_) (fun _ => rfl) (fun _ => rfl)
    match lo, hi with
    | none, none => exact Iff.rfl
    | none, some b =>
      have hb0 : b ≠ 0 := fun h => hex ⟨rfl, by rw [h], rfl⟩
      simp only [macroRange, Option.getD_some, Option.getD_none]
      split <;> omega
    | some a, none =>
      simp only [macroRange]
      split <;> simp only [Option.getD_some, Option.getD_none] <;> omega
    | some a, some b => exact Iff.rfl

/-- `INTEGER (MIN..0, ...)`: the converter declares the field `u64`, the macro describes it as
    `Integer<i64, ..>` with MIN = i64::MIN -/
theorem int_type_stable_false : ¬ IntTypeStable := by
  intro h
  have := h none (some 0) true (by decide)
  revert this; decide

/-! ### non-vacuity, worked examples, descriptors of compiled zoo types (as printed by the harness) -/

-- hypotheses of `consts_consistent`, `consts_match_seq_source_partial`, `consts_match_choice_source`,
-- `consts_match_enum_source`, `consts_match_int_partial`, `int_open_*`, `int_type_stable_partial`
example : WellFormedSrc (.sequence (.cons .optional (.ref (.enumerated 4 (some 1)))
    (.cons .mandatory (.choice (.cons .null (.cons (.sequenceOf .any .boolean) .nil)) (some 0)) .nil)) (some 0)) := by
  decide
example : 0 < (Comps.cons .optional .boolean .nil).length := by decide
example : 0 < (Alts.cons .boolean .nil).length := by decide
example : Valid (some 5) none ∧ ¬ ((some 5 : Option Int) = none ∧ true = false ∧ ∃ b, (none : Option Int) = some b ∧ b < 0) := by
  refine ⟨by decide, ?_⟩
  intro h; cases h.1
example : InI64 5 ∧ (5 : Int) ≠ 0 ∧ (5 : Int) ≠ I64_MAX := by decide
example : Valid none (some 5) ∧ ¬ ((none : Option Int) = none ∧ (some 5 : Option Int) = some 0 ∧ true = true) := by
  refine ⟨by decide, ?_⟩
  intro h; exact absurd h.2.1 (by decide)

-- `kinds_root`, `kinds_additions`, `kinds_additions_declared`, `parsed_marker_ok_alts`,
-- `consts_match_enum_source`, `int_second_run_*`, `int_ext_*`
example : (1 : Nat) ≤ 1 ∧ (1 : Nat) < 2 ∧ (Presence.default (.int 3)).isOptional = true ∧ (0 : Nat) < 2 := by decide
example : Valid (some (-5)) (some 5) ∧ Valid none (some 7) ∧ InI64 7 ∧ InI64 (-5) := by decide
-- outside the hypothesis of `consts_match_choice_source` / `consts_match_enum_source` (a marker in
-- front of the first item: refused by the parsers, so never handed to the generator) the recorded
-- index would be `0 - 1 = 0` and announce one root item
example : constsOf (Src.enumSrc 0 (some 2)) = .enum 1 2 true := by rfl

-- the deviations, evaluated
example : intTy (some 5) none false = .u64 (some 5) (some 9223372036854775807) false := rfl
example : intTy (some 5) none true = .u64 (some 5) (some 9223372036854775807) true := rfl
example : choose (some 5) none true = .u64 (some 5) none true := rfl
example : intTy none (some 5) true = .u64 (some 0) (some 5) true := rfl
example : choose none (some 5) true = .u64 none (some 5) true := rfl
example : intTy none (some 0) true = .i64 (-9223372036854775808) 0 true := rfl
example : choose none (some 0) true = .u64 none (some 0) true := rfl
example : intTy none (some 5) false = .u8 0 5 false := rfl
example : intTy none (some (-5)) false = .u64 (some 0) (some 18446744073709551611) false := rfl

-- zoo_leaf::IntSemi ::= INTEGER (5..MAX)
example : defConstsOf (.integer (some 5) none false)
    = .seq 0 1 none (.cons .m (.int (some 5) (some 9223372036854775807) false 64 true) .nil) := by rfl
-- zoo_leaf::IntHalf ::= INTEGER (0..9223372036854775807)
example : defConstsOf (.integer (some 0) (some 9223372036854775807) false)
    = .seq 0 1 none (.cons .m (.int none none false 64 true) .nil) := by rfl
-- zoo_leaf::ColorX ::= ENUMERATED { red, green, ..., blue, yellow }
example : defConstsOf (Src.enumSrc 2 (some 2)) = .enum 2 4 true := by rfl
-- zoo_leaf::OctLb ::= OCTET STRING (SIZE(1..MAX))   (the parser reads MAX as i64::MAX)
example : defConstsOf (.octetString (.range 1 9223372036854775807 false))
    = .seq 0 1 none (.cons .m (.oct (some 1) (some 9223372036854775807) false) .nil) := by rfl
-- zoo_leaf::ListList ::= SEQUENCE OF SEQUENCE (SIZE(0..3)) OF INTEGER (0..3)
example : defConstsOf (.sequenceOf .any (.sequenceOf (.range 0 3 false) (.integer (some 0) (some 3) false)))
    = .seq 0 1 none (.cons .m (.seqOf none none false
        (.seqOf (some 0) (some 3) false (.int (some 0) (some 3) false 8 false))) .nil) := by rfl
-- zoo_shape::S5 ::= SEQUENCE { f0 INTEGER (0..7) DEFAULT 3 }
example : defConstsOf (Src.sequenceSrc (.cons (.default (.int 3)) (.integer (some 0) (some 7) false) .nil) none)
    = .seq 1 1 none (.cons (.d (.int 3)) (.int (some 0) (some 7) false 8 false) .nil) := by rfl
-- zoo_set::SetX ::= SET { b [1] BOOLEAN, a [0] INTEGER (0..3), ..., d [3] BOOLEAN OPTIONAL, c [2] INTEGER (0..3) OPTIONAL }
-- after `sort_fields_canonically` (root components by tag, extension additions as written): a, b, d, c
example : defConstsOf (.set (.cons .mandatory (.integer (some 0) (some 3) false) (.cons .mandatory .boolean
      (.cons .optional .boolean (.cons .optional (.integer (some 0) (some 3) false) .nil)))) (some 1))
    = .seq 0 4 (some 1) (.cons .m (.int (some 0) (some 3) false 8 false) (.cons .m .bool
      (.cons .o .bool (.cons .o (.int (some 0) (some 3) false 8 false) .nil)))) := by rfl
-- zoo_nested::DefX ::= SEQUENCE { a BOOLEAN, ..., b INTEGER (0..7) DEFAULT 3, c BOOLEAN DEFAULT TRUE }
example : defConstsOf (Src.sequenceSrc (.cons .mandatory .boolean .nil)
      (some (.cons (.default (.int 3)) (.integer (some 0) (some 7) false) (.cons (.default (.bool true)) .boolean .nil))))
    = .seq 0 3 (some 0) (.cons .m .bool (.cons (.d (.int 3)) (.int (some 0) (some 7) false 8 false)
      (.cons (.d (.bool true)) .bool .nil))) := by rfl
-- zoo_nested::PickX ::= CHOICE { num INTEGER (0..100), flag BOOLEAN, ..., txt IA5String (SIZE(0..5)), inner Inner }
example : defConstsOf (Src.choiceSrc (.cons (.integer (some 0) (some 100) false) (.cons .boolean .nil))
      (some (.cons (.string .ia5 (.range 0 5 false))
        (.cons (.ref (.sequence (.cons .mandatory (.integer (some 0) (some 15) false) (.cons .optional .boolean .nil)) none)) .nil))))
    = .choice 2 4 true (.cons .m (.int (some 0) (some 100) false 8 false) (.cons .m .bool
      (.cons .m (.str .ia5 (some 0) (some 5) false)
        (.cons .m (.seq 1 2 none (.cons .m (.int (some 0) (some 15) false 8 false) (.cons .o .bool .nil))) .nil)))) := by rfl
-- zoo_leaf::ListColor ::= SEQUENCE OF ColorX   (reference to a structured definition: no wrapper)
example : defConstsOf (.sequenceOf .any (.ref (Src.enumSrc 2 (some 2))))
    = .seq 0 1 none (.cons .m (.seqOf none none false (.enum 2 4 true)) .nil) := by rfl
-- a mandatory extension addition is wrapped in `Option`: SEQUENCE { a BOOLEAN, ..., b BOOLEAN }
example : constsOf (Src.sequenceSrc (.cons .mandatory .boolean .nil) (some (.cons .mandatory .boolean .nil)))
    = .seq 0 2 (some 0) (.cons .m .bool (.cons .o .bool .nil)) := by rfl
-- the leading marker: SEQUENCE { ..., a BOOLEAN }
example : constsOf (Src.sequenceSrc .nil (some (.cons .mandatory .boolean .nil)))
    = .seq 0 1 (some 0) (.cons .m .bool .nil) := by rfl

end Asn1Verif.Props.C08Consts
