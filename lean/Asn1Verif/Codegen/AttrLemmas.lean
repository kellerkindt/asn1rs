import Asn1Verif.Codegen.Attr
import Asn1Verif.Codegen.NamesLemmas
/-
  Lemmas for C08: the attribute parser mirror reads back what the attribute printer mirror prints
  (Codegen/Attr.lean), piece by piece.
-/
namespace Asn1Verif.Codegen.Attr
open Asn1Verif.Codegen.Names

def InI64 (i : Int) : Prop := I64_MIN ≤ i ∧ i ≤ I64_MAX

/-- the next token does not open a group (what follows a printed type is `)`, `,` or nothing) -/
def NoLp : List Tok → Prop
  | .lp :: _ => False
  | _ => True

theorem noLp_rp (r : List Tok) : NoLp (.rp :: r) := trivial
theorem noLp_punct (c : Char) (r : List Tok) : NoLp (.punct c :: r) := trivial
theorem noLp_nil : NoLp [] := trivial

/-! ### numbers -/

theorem litInt_intToks (i : Int) (rest : List Tok) : litInt (intToks i ++ rest) = some (i, rest) := by
  unfold intToks
  split <;> simp only [List.cons_append, List.nil_append, litInt] <;> congr 2 <;> omega

theorem mmv_intToks (i : Int) (rest : List Tok) (h : InI64 i) :
    mmv (intToks i ++ rest) = some (some i, rest) := by
  simp only [mmv, litInt_intToks, h.1, h.2, and_self, if_true]

theorem mmv_ident (n : Name) (rest : List Tok) (h : isMinMax n = true) :
    mmv (.ident n :: rest) = some (none, rest) := by
  simp only [mmv, litInt, h, if_true]

theorem ellipsis_ext (rest : List Tok) :
    ellipsis (extToks true ++ rest) = some rest := rfl

/-- `h`: both ends given or both open; the other combinations come back changed (Props/C08.lean) -/
theorem integerRange_rt (lo hi : List Tok) (mn mx : Option Int) (ext : Bool) (rest : List Tok)
    (hlo : ∀ r, mmv (lo ++ r) = some (mn, r)) (hhi : ∀ r, mmv (hi ++ r) = some (mx, r))
    (h : mn.isSome = mx.isSome) :
    integerRange (lo ++ dots2 ++ hi ++ extToks ext ++ .rp :: rest)
      = some (.integer mn mx ext [], .rp :: rest) := by
  simp only [integerRange, List.append_assoc, hlo, dots2, List.cons_append, List.nil_append,
    Option.bind_eq_bind, Option.bind_some, expect, if_true, hhi]
  cases mn <;> cases mx <;> cases h <;> cases ext <;> simp [extToks, ellipsis]

/-! ### sizes -/

def SizeOk : Size → Prop
  | .any => True
  | .fix n _ => n ≤ USIZE_MAX
  | .range a b _ => a ≤ USIZE_MAX ∧ b ≤ USIZE_MAX ∧ a ≠ b

theorem sizeValue_num (n : Nat) (rest : List Tok) (h : n ≤ USIZE_MAX) :
    sizeValue (.num n :: rest) = some (n, rest) := by
  have h2 : (n : Int) ≤ (USIZE_MAX : Int) := by exact_mod_cast h
  simp [sizeValue, litInt, h2]

theorem sizeParse_fix (n : Nat) (ext : Bool) (rest : List Tok) (h : n ≤ USIZE_MAX) :
    sizeParse (.num n :: (extToks ext ++ .rp :: rest)) = some (.fix n ext, .rp :: rest) := by
  simp only [sizeParse, sizeValue_num n _ h, Option.bind_eq_bind, Option.bind_some]
  cases ext <;> rfl

theorem sizeParse_range (a b : Nat) (ext : Bool) (rest : List Tok) (ha : a ≤ USIZE_MAX)
    (hb : b ≤ USIZE_MAX) (hab : a ≠ b) :
    sizeParse (.num a :: (dots2 ++ .num b :: (extToks ext ++ .rp :: rest)))
      = some (.range a b ext, .rp :: rest) := by
  simp only [sizeParse, List.cons_append, List.nil_append, dots2, sizeValue_num a _ ha,
    Option.bind_eq_bind, Option.bind_some, atEnd, Bool.false_eq_true, if_false, expect, if_true,
    sizeValue_num b _ hb]
  cases ext <;> simp [extToks, ellipsis, hab]

def sizeBody : Size → List Tok
  | .any => []
  | .fix n ext => [.lp, .num n] ++ extToks ext ++ [.rp]
  | .range a b ext => [.lp, .num a] ++ dots2 ++ [.num b] ++ extToks ext ++ [.rp]

theorem sizeToks_fix (n : Nat) (ext : Bool) :
    sizeToks (.fix n ext) = some (kw "size" :: sizeBody (.fix n ext)) := by
  simp [sizeToks, sizeBody]

theorem sizeToks_range (a b : Nat) (ext : Bool) :
    sizeToks (.range a b ext) = some (kw "size" :: sizeBody (.range a b ext)) := by
  simp [sizeToks, sizeBody]

theorem sizeGroup_rt (sz : Size) (rest : List Tok) (h : SizeOk sz) (hne : sz ≠ .any) :
    sizeGroup (sizeBody sz ++ rest) = some (sz, rest) := by
  cases sz with
  | any => exact absurd rfl hne
  | fix n ext =>
    simp only [sizeGroup, sizeBody, List.cons_append, List.nil_append, List.append_assoc, openP, expect,
      if_true, Option.bind_eq_bind, Option.bind_some, sizeParse_fix n ext rest h, closeP]
  | range a b ext =>
    simp only [sizeGroup, sizeBody, List.cons_append, List.nil_append, List.append_assoc, openP, expect,
      if_true, Option.bind_eq_bind, Option.bind_some, sizeParse_range a b ext rest h.1 h.2.1 h.2.2,
      closeP]

theorem lower_size : lower "size".toList = "size".toList := by names_eval

theorem optSizeOrAny_size (sz : Size) (rest : List Tok) (h : SizeOk sz) (hne : sz ≠ .any) :
    optSizeOrAny ([.lp, kw "size"] ++ sizeBody sz ++ [.rp] ++ rest) = some (sz, rest) := by
  simp only [List.cons_append, List.append_assoc, List.nil_append, optSizeOrAny, kw, atEnd,
    Bool.false_eq_true, if_false, lower_size, if_true, sizeGroup_rt sz _ h hne, Option.bind_eq_bind,
    Option.bind_some, closeP, expect]

/-- the tokens a string / octet string type prints after its name -/
def sizeParams : Size → List Tok
  | .any => []
  | sz => [.lp, kw "size"] ++ sizeBody sz ++ [.rp]

theorem withParams_size (name : String) (sz : Size) :
    withParams name (sizeToks sz).toList = kw name :: sizeParams sz := by
  cases sz <;> simp [withParams, sizeToks, sizeParams, sizeBody]

theorem optSizeOrAny_params (sz : Size) (rest : List Tok) (h : SizeOk sz) (hr : NoLp rest) :
    optSizeOrAny (sizeParams sz ++ rest) = some (sz, rest) := by
  cases sz with
  | any =>
    cases rest with
    | nil => rfl
    | cons x xs =>
      cases x with
      | lp => exact False.elim hr
      | _ => rfl
  | _ => exact optSizeOrAny_size _ rest h nofun

/-- `bit_string()` / `bit_string(size(..))`: always one (possibly empty) parameter -/
def bitParams : Size → List Tok
  | .any => [.lp, .rp]
  | sz => [.lp, kw "size"] ++ sizeBody sz ++ [.rp]

theorem withParams_bits (sz : Size) :
    withParams "bit_string" [(sizeToks sz).getD []] = kw "bit_string" :: bitParams sz := by
  cases sz <;> simp [withParams, sizeToks, bitParams, sizeBody]

theorem optSizeOrAny_bits (sz : Size) (rest : List Tok) (h : SizeOk sz) :
    optSizeOrAny (bitParams sz ++ rest) = some (sz, rest) := by
  cases sz with
  | any => rfl
  | _ => exact optSizeOrAny_size _ rest h nofun

/-- the optional `size(..),` in front of the element type of `sequence_of` / `set_of` -/
def seqPrefix : Size → List Tok
  | .any => []
  | sz => [kw "size"] ++ sizeBody sz ++ [.punct ',']

theorem withParams_seq (name : String) (sz : Size) (elem : List Tok) :
    withParams name ((sizeToks sz).toList ++ [elem]) = [kw name, .lp] ++ seqPrefix sz ++ elem ++ [.rp] := by
  cases sz <;> simp [withParams, sizeToks, seqPrefix, sizeBody]

theorem seqSize_rt (sz : Size) (h : SizeOk sz) (n : Name) (r : List Tok)
    (hn : lower n ≠ "size".toList) :
    seqSize (seqPrefix sz ++ .ident n :: r) = some (sz, .ident n :: r) := by
  cases sz with
  | any => simp only [seqPrefix, List.nil_append, seqSize, if_neg hn]
  | _ =>
    simp only [seqPrefix, List.cons_append, List.append_assoc, List.nil_append, seqSize, kw,
      lower_size, if_true, sizeGroup_rt _ _ h nofun, Option.bind_eq_bind, Option.bind_some, expect]

/-! ### tags -/

def TagOk : Tag → Prop
  | .universal n | .application n | .contextSpecific n | .priv n => n ≤ USIZE_MAX

def tagBody : Tag → List Tok
  | .universal n => [.lp, kw "UNIVERSAL", .lp, .num n, .rp, .rp]
  | .application n => [.lp, kw "APPLICATION", .lp, .num n, .rp, .rp]
  | .priv n => [.lp, kw "PRIVATE", .lp, .num n, .rp, .rp]
  | .contextSpecific n => [.lp, .num n, .rp]

theorem tagToks_eq (t : Tag) : tagToks t = kw "tag" :: tagBody t := by
  cases t <;> rfl

theorem lower_tag : lower "tag".toList = "tag".toList := by names_eval

theorem attrTag_rt (t : Tag) (rest : List Tok) (h : TagOk t) :
    attrTag (tagBody t ++ rest) = some (t, rest) := by
  have ⟨l1, l2, l3, d1, d2, d3⟩ :
      lower "UNIVERSAL".toList = "universal".toList ∧ lower "APPLICATION".toList = "application".toList ∧
      lower "PRIVATE".toList = "private".toList ∧ "application".toList ≠ "universal".toList ∧
      "private".toList ≠ "universal".toList ∧ "private".toList ≠ "application".toList := by
    names_eval
  cases t <;>
    simp only [tagBody, kw, List.cons_append, List.nil_append, attrTag, tagNumber,
      if_pos (show _ ≤ USIZE_MAX from h), l1, l2, l3, if_neg d1, if_neg d2, if_neg d3, if_true, skipGroup]

/-! ### default literals -/

def LitOk : Lit → Prop
  | .bool _ => True
  | .str _ => True
  | .int i => InI64 i
  | .octets _ => False
  | .enumVariant _ _ => True

/-- the literal as the macro reads it back: item references come back with the mangled names -/
def normLit : Lit → Lit
  | .enumVariant ty var => .enumVariant (structOrEnumA ty) (variantA var)
  | l => l

/-- so a mangled item name is neither `true` nor `false`, which `defaultLit` would read as a boolean -/
theorem variantA_ne_of_lower (n s : Name) (hs : s.head?.map Char.isLower = some true) :
    variantA n ≠ s := by
  intro he
  rcases variantA_head n with h | ⟨c, r, h⟩ <;> rw [← he, h] at hs
  · cases hs
  · simp only [List.head?_cons, Option.map_some, not_lower_toUpper] at hs
    cases hs

theorem defaultLit_rt (v : Lit) (rest : List Tok) (h : LitOk v) :
    defaultLit (litToks v ++ .rp :: rest) = some (normLit v, .rp :: rest) := by
  cases v with
  | bool b => cases b <;> simp [litToks, kw, defaultLit, normLit]
  | str s => rfl
  | int i =>
    have hl := litInt_intToks i (.rp :: rest)
    simp only [litToks, normLit]
    unfold intToks at hl ⊢
    split <;> rename_i hi <;>
      simp only [hi, if_true, if_false, List.cons_append, List.nil_append] at hl ⊢ <;>
      simp only [defaultLit, hl, h.1, h.2, and_self, if_true]
  | octets bs => exact h.elim
  | enumVariant ty var =>
    simp only [litToks, List.cons_append, List.nil_append, defaultLit, pathLit, structOrEnumA,
      if_neg (variantA_ne_of_lower ty "true".toList (by decide +kernel)),
      if_neg (variantA_ne_of_lower ty "false".toList (by decide +kernel)), normLit]

/-! ### types -/

/-- the fragment on which printing, then parsing is the identity up to `norm`: everything except
    the deviations listed in Props/C08.lean -/
def Frag : AType → Prop
  | .boolean => True
  | .null => True
  | .integer mn mx _ cs =>
    cs = [] ∧ ((mn = none ∧ mx = none) ∨ ∃ a b, mn = some a ∧ mx = some b ∧ InI64 a ∧ InI64 b)
  | .string sz _ => SizeOk sz
  | .octetString sz => SizeOk sz
  | .bitString sz => SizeOk sz
  | .optional t => Frag t
  | .default t v => Frag t ∧ LitOk v
  | .sequenceOf t sz => Frag t ∧ SizeOk sz
  | .setOf t sz => Frag t ∧ SizeOk sz
  | .complex _ tag => ∃ t, tag = some t ∧ TagOk t

def norm : AType → AType
  | .optional t => .optional (norm t)
  | .default t v => .default (norm t) (normLit v)
  | .sequenceOf t s => .sequenceOf (norm t) s
  | .setOf t s => .setOf (norm t) s
  | t => t

/-- the name `asn_attribute_type` prints for each class of type that `parse_type_pre_stepped`
    tells apart -/
def kwName : Kw → String
  | .octetString => "octet_string"
  | .bitString => "bit_string"
  | .charset c => charsetName c
  | .integer => "integer"
  | .complex => "complex"
  | .optional => "optional"
  | .default => "default"
  | .boolean => "boolean"
  | .null => "null"
  | .sequenceOf => "sequence_of"
  | .setOf => "set_of"
  | .other => ""

/-- one evaluation for the whole table: the names in `kwOf` are unfolded once, not once per row -/
theorem kwOf_kwName (k : Kw) :
    kwOf (lower (kwName k).toList) = k ∧ lower (kwName k).toList ≠ "size".toList := by
  have table : ∀ k ∈ [Kw.octetString, .bitString, .charset .utf8, .charset .numeric,
      .charset .printable, .charset .ia5, .charset .visible, .integer, .complex, .optional, .default,
      .boolean, .null, .sequenceOf, .setOf, .other],
      kwOf (lower (kwName k).toList) = k ∧ lower (kwName k).toList ≠ "size".toList := by
    decide +kernel
  cases k with
  | charset c => cases c <;> exact table _ (by decide)
  | _ => exact table _ (by decide)

theorem typeToks_head (t : AType) : ∃ (k : Kw) (r : List Tok), typeToks t = kw (kwName k) :: r := by
  cases t with
  | boolean => exact ⟨.boolean, [], rfl⟩
  | null => exact ⟨.null, [], rfl⟩
  | integer mn mx ext cs => exact ⟨.integer, _, rfl⟩
  | string sz cs => exact ⟨.charset cs, _, withParams_size _ _⟩
  | octetString sz => exact ⟨.octetString, _, withParams_size _ _⟩
  | bitString sz => exact ⟨.bitString, _, withParams_bits _⟩
  | optional t => exact ⟨.optional, _, rfl⟩
  | default t v => exact ⟨.default, _, rfl⟩
  | sequenceOf t sz => exact ⟨.sequenceOf, _, withParams_seq _ _ _⟩
  | setOf t sz => exact ⟨.setOf, _, withParams_seq _ _ _⟩
  | complex n tag => exact ⟨.complex, _, rfl⟩

theorem atEnd_intToks (i : Int) (r : List Tok) : atEnd (intToks i ++ r) = false := by
  unfold intToks; split <;> rfl

/-- the nesting depth `parseTy` needs is bounded by the number of tokens -/
theorem parseTy_typeToks (t : AType) : Frag t → ∀ (fuel : Nat) (rest : List Tok),
    (typeToks t).length ≤ fuel → NoLp rest →
    parseTy (fuel + 1) (typeToks t ++ rest) = some (norm t, rest) := by
  induction t with
  | boolean | null =>
    intro _ fuel rest _ _
    have hk : kwOf (lower "boolean".toList) = .boolean ∧ kwOf (lower "null".toList) = .null :=
      ⟨(kwOf_kwName .boolean).1, (kwOf_kwName .null).1⟩
    simp only [typeToks, kw, List.cons_append, List.nil_append, parseTy, hk, norm]
  | integer mn mx ext cs =>
    intro h fuel rest _ _
    have hk : kwOf (lower "integer".toList) = .integer := (kwOf_kwName .integer).1
    have e1 : ∀ r : List Tok, atEnd (.lp :: r) = false := fun _ => rfl
    obtain ⟨rfl, h⟩ := h
    rcases h with ⟨rfl, rfl⟩ | ⟨a, b, rfl, rfl, ha, hb⟩
    · have := integerRange_rt [kw "min"] [kw "max"] none none ext rest
        (fun r => mmv_ident "min".toList r (by decide +kernel))
        (fun r => mmv_ident "max".toList r (by decide +kernel)) rfl
      simp only [kw, List.cons_append, List.nil_append, List.append_assoc] at this
      simp only [typeToks, withParams, kw, List.cons_append, List.nil_append, List.append_assoc,
        List.flatMap_nil, parseTy, hk, atEnd, Bool.false_eq_true, if_false, openP, expect, if_true,
        Option.bind_eq_bind, Option.bind_some, this, closeP, norm]
    · have := integerRange_rt (intToks a) (intToks b) (some a) (some b) ext rest
        (fun r => mmv_intToks a r ha) (fun r => mmv_intToks b r hb) rfl
      simp only [List.append_assoc] at this
      simp only [typeToks, withParams, kw, List.cons_append, List.nil_append, List.append_assoc,
        List.flatMap_nil, parseTy, hk, e1, atEnd_intToks, Bool.false_eq_true, if_false, openP,
        expect, if_true, Option.bind_eq_bind, Option.bind_some, this, closeP, norm]
  | string sz _ | octetString sz =>
    intro h fuel rest _ hr
    have hk : (∀ c, kwOf (lower (charsetName c).toList) = .charset c) ∧
        kwOf (lower "octet_string".toList) = .octetString :=
      ⟨fun c => (kwOf_kwName (.charset c)).1, (kwOf_kwName .octetString).1⟩
    simp only [typeToks, withParams_size, kw, List.cons_append, parseTy, hk,
      optSizeOrAny_params sz rest h hr, Option.map_some, norm]
  | bitString sz =>
    intro h fuel rest _ _
    have hk : kwOf (lower "bit_string".toList) = .bitString := (kwOf_kwName .bitString).1
    simp only [typeToks, withParams_bits, kw, List.cons_append, parseTy, hk,
      optSizeOrAny_bits sz rest h, Option.map_some, norm]
  | optional t ih =>
    intro h fuel rest hf _
    have hk : kwOf (lower "optional".toList) = .optional := (kwOf_kwName .optional).1
    simp only [typeToks, withParams, List.cons_append, List.nil_append, List.append_assoc,
      List.flatMap_nil, List.length_cons, List.length_append, List.length_nil] at hf ⊢
    obtain ⟨k, rfl⟩ : ∃ k, fuel = k + 1 := ⟨fuel - 1, by omega⟩
    simp only [kw, parseTy, hk, openP, expect, if_true, Option.bind_eq_bind, Option.bind_some,
      ih h k (.rp :: rest) (by omega) (noLp_rp rest), closeP, norm]
  | default t v ih =>
    intro h fuel rest hf _
    have hk : kwOf (lower "default".toList) = .default := (kwOf_kwName .default).1
    simp only [typeToks, withParams, List.cons_append, List.nil_append, List.append_assoc,
      List.flatMap_cons, List.flatMap_nil, List.length_cons, List.length_append, List.length_nil]
      at hf ⊢
    obtain ⟨k, rfl⟩ : ∃ k, fuel = k + 1 := ⟨fuel - 1, by omega⟩
    simp only [kw, parseTy, hk, openP, expect, if_true, Option.bind_eq_bind, Option.bind_some,
      ih h.1 k (.punct ',' :: (litToks v ++ .rp :: rest)) (by omega) (noLp_punct ',' _),
      defaultLit_rt v rest h.2, closeP, norm]
  | sequenceOf t sz ih | setOf t sz ih =>
    intro h fuel rest hf _
    have hk : kwOf (lower "sequence_of".toList) = .sequenceOf ∧ kwOf (lower "set_of".toList) = .setOf :=
      ⟨(kwOf_kwName .sequenceOf).1, (kwOf_kwName .setOf).1⟩
    obtain ⟨k', r, hs⟩ := typeToks_head t
    simp only [typeToks, withParams_seq, List.cons_append, List.nil_append, List.append_assoc,
      List.length_cons, List.length_append, List.length_nil] at hf ⊢
    obtain ⟨k, rfl⟩ : ∃ k, fuel = k + 1 := ⟨fuel - 1, by omega⟩
    have ih := ih h.1 k (.rp :: rest) (by omega) (noLp_rp rest)
    rw [hs] at ih ⊢
    simp only [kw, List.cons_append] at ih ⊢
    rw [parseTy]
    simp only [hk, openP, expect, if_true, Option.bind_eq_bind, Option.bind_some,
      seqSize_rt sz h.2 _ _ (kwOf_kwName k').2, ih, closeP, norm]
  | complex n tag =>
    intro h fuel rest _ _
    have hk : kwOf (lower "complex".toList) = .complex := (kwOf_kwName .complex).1
    obtain ⟨tg, rfl, htg⟩ := h
    simp only [typeToks, withParams, tagToks_eq, kw, Option.map_some, Option.toList_some,
      List.cons_append, List.nil_append, List.append_assoc, List.flatMap_cons, List.flatMap_nil,
      parseTy, hk, openP, expect, if_true, Option.bind_eq_bind, Option.bind_some, lower_tag,
      attrTag_rt tg (.rp :: rest) htg, closeP, norm]

/-! ### the whole attribute of a component: type, tag, constants -/

theorem length_le_flatMap {α β : Type} (f : α → List β) (hf : ∀ a, f a ≠ []) (l : List α) :
    l.length ≤ (l.flatMap f).length := by
  induction l with
  | nil => exact Nat.le_refl _
  | cons a l ih =>
    have := List.length_pos_iff.mpr (hf a)
    simp only [List.flatMap_cons, List.length_cons, List.length_append]
    omega

theorem constLit_rt (c : Name × Int) (more : List Tok) (h : InI64 c.2) :
    constLit (.ident c.1 :: .lp :: (intToks c.2 ++ .rp :: more)) = some (c, more) := by
  simp only [constLit, litInt_intToks, h.1, h.2, and_self, if_true, closeP, expect, Option.map_some]

theorem constList_rt (c : Name × Int) (cs : List (Name × Int)) (h : ∀ x ∈ c :: cs, InI64 x.2)
    (rest : List Tok) (fuel : Nat) (hf : cs.length < fuel) :
    constList fuel (.ident c.1 :: .lp :: (intToks c.2 ++ .rp ::
      ((cs.flatMap fun d => .punct ',' :: .ident d.1 :: .lp :: (intToks d.2 ++ [.rp])) ++ .rp :: rest)))
      = some (c :: cs, .rp :: rest) := by
  induction cs generalizing c fuel with
  | nil =>
    obtain ⟨k, rfl⟩ : ∃ k, fuel = k + 1 := ⟨fuel - 1, by omega⟩
    simp only [List.flatMap_nil, List.nil_append, constList, constLit_rt c _ (h c (by simp)),
      Option.bind_eq_bind, Option.bind_some, atEnd, if_true]
  | cons d ds ih =>
    obtain ⟨k, rfl⟩ : ∃ k, fuel = k + 1 := ⟨fuel - 1, by omega⟩
    have ih := ih d (fun x hx => h x (List.mem_cons_of_mem _ hx)) k (by simpa using hf)
    simp only [List.flatMap_cons, List.append_assoc, List.cons_append, List.nil_append, constList,
      constLit_rt c _ (h c (by simp)), Option.bind_eq_bind, Option.bind_some, atEnd,
      Bool.false_eq_true, if_false, expect, if_true, ih]

def FieldOk (f : FieldIn) : Prop :=
  Frag f.ty ∧ (∀ t, f.tag = some t → TagOk t) ∧ (∀ c ∈ f.consts, InI64 c.2)

theorem lower_const : lower "const".toList = "const".toList := by names_eval
theorem const_ne_tag : "const".toList ≠ "tag".toList := by names_eval

theorem attrLoop_tag (acc : Parsed) (t : Tag) (rest : List Tok) (fuel : Nat) (ht : TagOk t) :
    attrLoop (fuel + 1) acc (tagToks t ++ rest)
      = (eofOrComma rest).bind (attrLoop fuel { acc with tag := some t }) := by
  simp only [tagToks_eq, kw, List.cons_append, attrLoop, lower_tag, if_true, attrTag_rt t rest ht,
    Option.bind_eq_bind, Option.bind_some]

/-- `const(..)` is the last thing in the attribute -/
theorem attrLoop_consts (acc : Parsed) (c : Name × Int) (cs : List (Name × Int))
    (h : ∀ x ∈ c :: cs, InI64 x.2) (fuel : Nat) :
    attrLoop (fuel + 2) acc (constToks (c :: cs))
      = some { acc with consts := acc.consts ++ (c :: cs) } := by
  have hl := constList_rt c cs h []
  simp only [constToks, kw, List.cons_append, List.nil_append, List.append_assoc, attrLoop, lower_const,
    if_neg const_ne_tag, if_true, openP, expect, Option.bind_eq_bind, Option.bind_some]
  have := length_le_flatMap (fun d : Name × Int => Tok.punct ',' :: .ident d.1 :: .lp :: (intToks d.2 ++ [.rp]))
    nofun cs
  rw [hl _ (by simp only [List.length_cons, List.length_append]; omega)]
  rfl

/-- everything after the type: `, tag(..)` and `, const(..)` -/
def tailToks (f : FieldIn) : List Tok :=
  (match f.tag with | some t => .punct ',' :: tagToks t | none => []) ++
  (match f.consts with | [] => [] | cs => .punct ',' :: constToks cs)

theorem fieldToks_eq (f : FieldIn) : fieldToks f = typeToks f.ty ++ tailToks f :=
  List.append_assoc ..

theorem noLp_tail (f : FieldIn) : NoLp (tailToks f) := by
  unfold tailToks
  cases f.tag <;> cases f.consts <;> trivial

/-- one round per part, and one to see the end -/
theorem tail_rt (f : FieldIn) (p : AType) (h : FieldOk f) (fuel : Nat)
    (hf : (tailToks f).length < fuel) :
    (eofOrComma (tailToks f)).bind (attrLoop fuel { primary := p })
      = some { primary := p, tag := f.tag, consts := f.consts } := by
  obtain ⟨ty, tag, consts⟩ := f
  obtain ⟨_, htag, hcs⟩ := h
  rcases tag with _ | t <;> rcases consts with _ | ⟨c, cs⟩ <;>
    simp only [tailToks, List.nil_append, List.cons_append, List.append_nil, List.length_nil,
      List.length_cons, List.length_append] at hf ⊢
  · obtain ⟨k, rfl⟩ : ∃ k, fuel = k + 1 := ⟨fuel - 1, by omega⟩
    rfl
  · obtain ⟨k, rfl⟩ : ∃ k, fuel = k + 2 := ⟨fuel - 2, by omega⟩
    simp only [eofOrComma, atEnd, Bool.false_eq_true, if_false, Option.bind_some,
      attrLoop_consts _ c cs hcs, List.nil_append]
  · obtain ⟨k, rfl⟩ : ∃ k, fuel = k + 2 := ⟨fuel - 2, by omega⟩
    have := attrLoop_tag { primary := p } t [] (k + 1) (htag t rfl)
    simp only [List.append_nil] at this
    simp only [eofOrComma, atEnd, Bool.false_eq_true, if_false, Option.bind_some, this, if_true]
    rfl
  · obtain ⟨k, rfl⟩ : ∃ k, fuel = k + 3 := ⟨fuel - 3, by omega⟩
    simp only [eofOrComma, atEnd, Bool.false_eq_true, if_false, Option.bind_some,
      attrLoop_tag _ t _ _ (htag t rfl), attrLoop_consts _ c cs hcs, List.nil_append]

/-- `AsnAttribute::parse` on the printed attribute of a component -/
theorem parseAttr_fieldToks (f : FieldIn) (h : FieldOk f) :
    parseAttr (fieldToks f) = some { primary := norm f.ty, tag := f.tag, consts := f.consts } := by
  obtain ⟨k, r, hs⟩ := typeToks_head f.ty
  have hp := parseTy_typeToks f.ty h.1 (fieldToks f).length (tailToks f)
    (by rw [fieldToks_eq, List.length_append]; omega) (noLp_tail f)
  have hcons : fieldToks f = .ident (kwName k).toList :: (r ++ tailToks f) := by
    rw [fieldToks_eq, hs]; rfl
  rw [← fieldToks_eq, hcons] at hp
  rw [hcons]
  simp only [parseAttr, hp, Option.bind_eq_bind, Option.bind_some]
  exact tail_rt f _ h _ (by simp only [List.length_cons, List.length_append]; omega)

end Asn1Verif.Codegen.Attr
