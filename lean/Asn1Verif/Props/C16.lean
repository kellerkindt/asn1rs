import Asn1Verif.Codegen.TagsLemmas
/-
  C16 — SET components are encoded in canonical tag order (X.680 8.6); tags assigned per X.680.

  Property theorems only; the model is `Codegen/Tags.lean`, helper lemmas `Codegen/TagsLemmas.lean`.
  All statements are about arbitrary component lists (no bound on the number of components).

  Against X.680 / X.691 two full statements are FALSE for the current code; each is proved in a
  partial form, next to a counterexample: `SetOrderCanonical` (an automatically tagged CHOICE
  decides a position) and `ExtensionSplitPerText` (marker in front of the first component).
-/
namespace Asn1Verif.Props.C16
open Asn1Verif Asn1Verif.Codegen.Tags

/-! ### the order -/

/-- the derived `Ord` of `enum Tag` ranks the classes as X.680 8.6 a) demands:
    UNIVERSAL < APPLICATION < context-specific < PRIVATE (ranks re-extracted from tag.rs) -/
theorem ranks_in_x680_order :
    Consts.TAG_ORD_DERIVED = true ∧
    Consts.TAG_RANK_Universal < Consts.TAG_RANK_Application ∧
    Consts.TAG_RANK_Application < Consts.TAG_RANK_ContextSpecific ∧
    Consts.TAG_RANK_ContextSpecific < Consts.TAG_RANK_Private := by decide

/-- X.680 8.6: class first, then ascending number; a total order, distinct tags never tie -/
theorem tag_order_is_x680 (a b c : Tag) :
    (a.le b = true ↔ a.cls < b.cls ∨ (a.cls = b.cls ∧ a.num ≤ b.num)) ∧
    (a.le b || b.le a) = true ∧
    (a.le b = true → b.le c = true → a.le c = true) ∧
    (a.le b = true → b.le a = true → a = b) :=
  ⟨Tag.le_iff a b, Tag.le_total a b, Tag.le_trans a b c, Tag.le_antisymm a b⟩

/-- any universal tag sorts before any application tag, … — whatever the numbers -/
theorem class_order (m n : Nat) :
    (Tag.universal m).le (Tag.application n) = true ∧
    (Tag.application m).le (Tag.contextSpecific n) = true ∧
    (Tag.contextSpecific m).le (Tag.priv n) = true ∧
    (Tag.application m).le (Tag.universal n) = false ∧
    (Tag.contextSpecific m).le (Tag.application n) = false ∧
    (Tag.priv m).le (Tag.contextSpecific n) = false := by
  simp [Tag.le, Tag.universal, Tag.application, Tag.contextSpecific, Tag.priv,
    Consts.TAG_RANK_Universal, Consts.TAG_RANK_Application, Consts.TAG_RANK_ContextSpecific,
    Consts.TAG_RANK_Private]

/-- the `Tag::DEFAULT_*` constants (re-extracted) are the universal tags of X.680 -/
theorem default_tags_are_x680 (k : Builtin) : defaultTag k = Tag.universal (x680Universal k) := by
  cases k <;> rfl

/-! ### the SET sort -/

/-- "`a` may stand in front of `b`" among root components (X.680 8.6): class rank, then number -/
def TagBefore (a b : RField) : Prop :=
  ∃ ta tb, a.tag = some ta ∧ b.tag = some tb ∧
    (ta.cls < tb.cls ∨ (ta.cls = tb.cls ∧ ta.num ≤ tb.num))

/-- "`a` may stand in front of `b`" (X.691 21.1): a root component before an extension addition;
    two root components in canonical tag order; two extension additions in either order as far as
    tags go — their order is the textual one (`set_order`, third clause) -/
def CanonBefore (a b : Bool × RField) : Prop :=
  (a.1 = false ∧ b.1 = true) ∨ (a.1 = true ∧ b.1 = true) ∨
  (a.1 = false ∧ b.1 = false ∧ TagBefore a.2 b.2)

/-- every component the sort sees carries a tag, once `sort_fields_canonically` returns -/
theorem sorted_fields_tagged (fields : List RField) (e : Option Nat) (out : List RField)
    (h : sortFieldsCanonically fields e = .ok out) :
    ∀ p ∈ prepare fields e, ∃ t, p.2.tag = some t := by
  intro p hp
  have hmem : p.2 ∈ (prepare fields e).map (·.2) := List.mem_map_of_mem hp
  rw [map_snd_prepare] at hmem
  obtain ⟨f, hf, hfp⟩ := List.mem_map.1 hmem
  exact Option.isSome_iff_exists.1
    (hfp ▸ ((sortFieldsCanonically_eq_ok_iff fields e out).1 h).1 f hf)

/-- **the SET order** (X.691 21.1, X.680 8.6).  With `n` the number of root components
    (`extension_after + 1`; all of them without a marker) and every component carrying its own
    tag where given, else the tag of its type (`RField.withTypeTag`):
    * the first `n` emitted components are a permutation of the root components,
    * pairwise in canonical tag order (class rank, then number),
    * and the extension additions follow exactly as they are written: the emitted list behind
      position `n` IS the textual list behind position `n`. -/
theorem set_order (fields : List RField) (e : Option Nat) (out : List RField)
    (h : sortFieldsCanonically fields e = .ok out) :
    (out.take (rootCount e fields.length)).Perm
      ((fields.take (rootCount e fields.length)).map RField.withTypeTag) ∧
    (out.take (rootCount e fields.length)).Pairwise TagBefore ∧
    out.drop (rootCount e fields.length) =
      (fields.drop (rootCount e fields.length)).map RField.withTypeTag := by
  obtain ⟨hall, rfl⟩ := (sortFieldsCanonically_eq_ok_iff fields e out).1 h
  have hlen : (((fields.take (rootCount e fields.length)).map RField.withTypeTag).mergeSort
      tagLe).length = rootCount e fields.length := by
    rw [List.length_mergeSort, List.length_map, List.length_take,
      Nat.min_eq_left (rootCount_le e fields.length)]
  rw [sortKeyed_eq, List.take_left' hlen, List.drop_left' hlen]
  refine ⟨List.mergeSort_perm _ _, ?_, rfl⟩
  -- every root component the sort saw carries a tag, so the key order is the tag order
  have htag : ∀ a ∈ ((fields.take (rootCount e fields.length)).map RField.withTypeTag).mergeSort
      tagLe, ∃ t, a.tag = some t := fun a ha => by
    obtain ⟨f, hf, rfl⟩ := List.mem_map.1 ((List.mergeSort_perm _ _).mem_iff.1 ha)
    exact Option.isSome_iff_exists.1 (hall f (List.mem_of_mem_take hf))
  refine (List.pairwise_mergeSort tagLe_trans tagLe_total _).imp_of_mem ?_
  intro a b ha hb (hab : optTagLe a.tag b.tag = true)
  obtain ⟨ta, hta⟩ := htag a ha
  obtain ⟨tb, htb⟩ := htag b hb
  rw [hta, htb] at hab
  exact ⟨ta, tb, hta, htb, (Tag.le_iff ta tb).1 hab⟩

/-- … in terms of names: behind the root components the emitted names are the textual names -/
theorem set_order_additions_textual (fields : List RField) (e : Option Nat) (out : List RField)
    (h : sortFieldsCanonically fields e = .ok out) :
    (out.drop (rootCount e fields.length)).map (·.name) =
      (fields.drop (rootCount e fields.length)).map (·.name) := by
  rw [(set_order fields e out h).2.2, List.map_map]
  rfl

/-- the sort does not touch `extension_after`: the descriptor's `EXTENDED_AFTER_FIELD` is the index
    the walker was handed, and the root components are the ones in front of it before and after -/
theorem set_order_ext_after (o : EncodingOrdering) (fields : List RField) (e : Option Nat)
    (em : Emitted) (h : writeConstraints o fields e = .ok em) : em.extAfter = e :=
  writeConstraints_extAfter o fields e em h

/-- **a new version that appends extension additions** (marker behind component `k` of the old
    list) emits the old order followed by the new additions as written: nothing the old version
    knows changes its place (the premise of C05 for SET; false before the repair, when the
    additions were sorted among themselves) -/
theorem set_order_append_additions (fields adds : List RField) (k : Nat) (hk : k < fields.length)
    (out : List RField) (h : sortFieldsCanonically fields (some k) = .ok out)
    (ha : ∀ f ∈ adds, (f.tag.orElse fun _ => f.typeTag).isSome = true) :
    sortFieldsCanonically (fields ++ adds) (some k) = .ok (out ++ adds.map RField.withTypeTag) :=
  sortFieldsCanonically_append fields adds k hk out h ha

/-- the emitted SET order is a permutation of the components: nothing lost, nothing doubled.
    (`prepare` only fills in the type's tag where the component has none.) -/
theorem set_order_perm (fields : List RField) (e : Option Nat) (out : List RField)
    (h : sortFieldsCanonically fields e = .ok out) :
    out.Perm ((prepare fields e).map (·.2)) ∧
    (out.map (·.name)).Perm (fields.map (·.name)) := by
  obtain ⟨_, rfl⟩ := (sortFieldsCanonically_eq_ok_iff fields e out).1 h
  exact ⟨(sortKeyed_perm fields e).map _, emitOrder_names_perm .sort fields e _ h⟩

/-- the whole emitted list is in order w.r.t. `CanonBefore`: any component emitted earlier may
    stand in front of any component emitted later -/
theorem set_order_sorted (fields : List RField) (e : Option Nat) (out : List RField)
    (h : sortFieldsCanonically fields e = .ok out) :
    ∃ keyed : List (Bool × RField), out = keyed.map (·.2) ∧ keyed.Perm (prepare fields e) ∧
      keyed.Pairwise CanonBefore := by
  have htag := sorted_fields_tagged fields e out h
  obtain ⟨_, rfl⟩ := (sortFieldsCanonically_eq_ok_iff fields e out).1 h
  refine ⟨sortKeyed fields e, rfl, sortKeyed_perm fields e,
    (sortKeyed_pairwise fields e).imp_of_mem ?_⟩
  intro a b ha hb hab
  rcases (keyLe_iff a b).1 hab with hab | hab | ⟨h1, h2, h3⟩
  · exact Or.inl hab
  · exact Or.inr (Or.inl hab)
  · obtain ⟨ta, hta⟩ := htag a ((sortKeyed_perm fields e).mem_iff.1 ha)
    obtain ⟨tb, htb⟩ := htag b ((sortKeyed_perm fields e).mem_iff.1 hb)
    rw [hta, htb] at h3
    exact Or.inr (Or.inr ⟨h1, h2, ta, tb, hta, htb, (Tag.le_iff ta tb).1 h3⟩)

/-- what the key of component `i` is: the extended flag of its textual index, its explicit tag
    where given, else the tag of its type -/
theorem sort_key_of_component (fields : List RField) (e : Option Nat) (i : Nat)
    (h : i < fields.length) :
    (prepare fields e)[i]'(by rw [length_prepare]; exact h) =
      (extendedFlag e i,
       { fields[i] with tag := fields[i].tag.orElse fun _ => fields[i].typeTag }) :=
  getElem_prepare fields e i _

/-- root components before extension additions: once an addition has been emitted, only
    additions follow -/
theorem root_before_extension (fields : List RField) (e : Option Nat) :
    (sortKeyed fields e).Pairwise (fun a b => a.1 = true → b.1 = true) := by
  refine (sortKeyed_pairwise fields e).imp ?_
  intro a b hab ha
  rw [keyLe_iff] at hab
  rcases hab with ⟨h1, _⟩ | ⟨_, h2⟩ | ⟨h1, _, _⟩
  · rw [ha] at h1; cases h1
  · exact h2
  · rw [ha] at h1; cases h1

/-- stability: two components in textual order whose keys do not force a swap (in particular:
    equal keys) keep their textual order -/
theorem set_order_stable (fields : List RField) (e : Option Nat) (a b : Bool × RField)
    (hab : [a, b].Sublist (prepare fields e)) (hle : keyLe a b = true) :
    [a, b].Sublist (sortKeyed fields e) :=
  List.sublist_mergeSort keyLe_trans keyLe_total (List.pairwise_pair.2 hle) hab

/-! ### automatic tags -/

/-- automatic tags `0..n-1` (context class, textual index) are assigned iff no component of the
    list carries a tag; otherwise every component keeps exactly what it had -/
theorem automatic_tags_iff (fields : List RField) :
    (NoneTagged fields →
      assignImplicitTags fields =
        fields.zipIdx.map fun (f, i) => { f with tag := some (Tag.contextSpecific i) }) ∧
    (¬ NoneTagged fields → assignImplicitTags fields = fields) ∧
    (assignImplicitTags fields ≠ fields ↔ NoneTagged fields ∧ fields ≠ []) := by
  refine ⟨assignImplicitTags_of_noneTagged fields, assignImplicitTags_of_tagged fields, ?_⟩
  constructor
  · intro hne
    by_cases hn : NoneTagged fields
    · refine ⟨hn, ?_⟩
      intro hnil; subst hnil
      exact hne (by simp [assignImplicitTags])
    · exact absurd (assignImplicitTags_of_tagged fields hn) hne
  · rintro ⟨hn, hne⟩ heq
    cases fields with
    | nil => exact hne rfl
    | cons f rest =>
      have h1 : f.tag = none := hn f (by simp)
      rw [assignImplicitTags_of_noneTagged _ hn] at heq
      simp only [List.zipIdx_cons, List.map_cons, List.cons.injEq] at heq
      have := congrArg RField.tag heq.1
      simp [h1] at this

/-- … and then the list is already in canonical order, wherever the extension marker is:
    the SET is emitted in textual order -/
theorem automatic_set_order_textual (fields : List RField) (e : Option Nat)
    (h : NoneTagged fields) :
    emitOrder .sort (assignImplicitTags fields) e = .ok (assignImplicitTags fields) :=
  sort_assignImplicitTags_of_noneTagged fields e h

/-! ### SEQUENCE -/

/-- SEQUENCE: the sort is not applied, the emitted order is the textual order -/
theorem sequence_order_textual (fields : List RField) (e : Option Nat) :
    emitOrder .keep fields e = .ok fields := rfl

theorem sequence_pipeline_order_textual (env : Env) (c : Components) (em : Emitted)
    (h : emit env .keep c = some (.ok em)) : em.order = c.fields.map (·.name) := by
  obtain ⟨_, ho, hord⟩ := emit_order env .keep c em h
  cases ho
  rw [hord, map_name_rfieldOf]

/-! ### TagResolver -/

/-- the type tag of an untagged reference to a name that is not being resolved already is the tag
    of the referenced definition: its own tag if it has one, else the tag of its body (references
    are followed, the name goes on the stack) -/
theorem resolver_reference (env : Env) (fuel : Nat) (vis : List String) (n : String) (d : Def)
    (hv : vis.contains n = false) (h : env.lookup n = some d) :
    resolveTypeTag env (fuel + 1) vis (.ref n) =
      (match d.tag with
       | some t => some (some t)
       | none => resolveTypeTag env fuel (n :: vis) d.ty) := by
  simp only [resolveTypeTag, hv, h]
  cases d.tag <;> rfl

/-- … and `resolve_tag` starts with an empty stack -/
theorem resolver_reference_top (env : Env) (fuel : Nat) (n : String) (d : Def)
    (h : env.lookup n = some d) :
    resolveTag env (fuel + 1) n =
      (match d.tag with
       | some t => some (some t)
       | none => resolveTypeTag env fuel [n] d.ty) :=
  resolver_reference env fuel [] n d rfl h

/-- **a reference that leads back to a name whose tag is being resolved has no tag** (`None`);
    the resolver returns instead of recursing for ever -/
theorem resolver_cycle_has_no_tag (env : Env) (fuel : Nat) (vis : List String) (n : String)
    (h : n ∈ vis) : resolveTypeTag env (fuel + 1) vis (.ref n) = some none :=
  resolveTypeTag_visiting env fuel vis n h

/-- an untagged CHOICE resolves to the smallest tag among its root alternatives -/
theorem resolver_choice_is_minimum (env : Env) (fuel : Nat) (vis : List String)
    (alts : List (Option Tag × Ty)) (e : Option Nat) (m : Tag)
    (h : resolveTypeTag env (fuel + 1) vis (.choice alts e) = some (some m)) :
    ∃ ts, collectTags (resolveTypeTag env fuel vis) (rootAlts alts e) = some (some ts) ∧
      m ∈ ts ∧ ∀ t ∈ ts, m.le t = true := by
  simp only [resolveTypeTag] at h
  split at h
  · cases h
  · cases h
  · next ts hc => exact ⟨ts, hc, minTag_spec ts m (Option.some.inj h)⟩

/-- the answer of the resolver does not depend on the fuel (a device of the mirror) -/
theorem resolver_fuel_independent (env : Env) (f f' : Nat) (hff : f ≤ f') (vis : List String)
    (t : Ty) (x : Option Tag) (h : resolveTypeTag env f vis t = some x) :
    resolveTypeTag env f' vis t = some x :=
  resolveTypeTag_mono env f f' hff vis t x h

/-- **total**: for EVERY module — reference cycles included —, every stack and every type the
    resolver answers as soon as the fuel reaches the explicit bound
    `depth t + (definitions not on the stack) · (deepest definition + 1)` -/
theorem resolver_total (env : Env) (fuel : Nat) (vis : List String) (t : Ty)
    (hf : fuelBound env vis t ≤ fuel) : ∃ x, resolveTypeTag env fuel vis t = some x :=
  resolveTypeTag_total env fuel vis t hf

/-- **the repair changes nothing where the resolver used to answer**: on an acyclic module (some
    rank function decreases along every reference of every definition) the stack is never hit and
    the repaired resolver computes, with the same fuel, exactly what the resolver without a stack
    (`resolveTypeTagUnrepaired`, the code before the repair) computed -/
theorem resolver_unchanged_on_acyclic (env : Env) (r : String → Nat) (hac : Acyclic env r)
    (fuel : Nat) (t : Ty) :
    resolveTypeTag env fuel [] t = resolveTypeTagUnrepaired env fuel t :=
  resolveTypeTag_eq_unrepaired env r hac fuel [] t (by intro n hn; cases hn)

/-- the fuel the compiled driver uses is enough, for every module and type -/
theorem resolver_default_fuel_suffices (env : Env) (t : Ty) :
    ∃ x, resolveTypeTag env (defaultFuel env t) [] t = some x :=
  defaultFuel_sufficient env t

/-! ### the whole pipeline -/

/-- **stage 1 always terminates**: the pipeline answers (an emitted type, the compile error of
    stage 2, or the one panic) for every module, reference cycles included -/
theorem pipeline_terminates (env : Env) (o : EncodingOrdering) (c : Components) :
    ∃ r, emit env o c = some r :=
  emit_isSome env o c

/-- the two-stage pipeline never panics, except for an extension marker in an empty list
    (`SET { ... }`); in particular "Field .. is missing a tag assignment" and "Complex type ..
    requires a tag" are unreachable: stage 2 refuses such input with a compile error before -/
theorem pipeline_never_panics (env : Env) (o : EncodingOrdering) (c : Components)
    (h : c.fields ≠ [] ∨ c.markers = []) : emit env o c ≠ some .panic :=
  emit_ne_panic env o c h

/-- whatever is emitted is a permutation of the declared components -/
theorem pipeline_order_perm (env : Env) (o : EncodingOrdering) (c : Components) (em : Emitted)
    (h : emit env o c = some (.ok em)) : em.order.Perm (c.fields.map (·.name)) := by
  obtain ⟨ordered, ho, hord⟩ := emit_order env o c em h
  rw [hord, ← map_name_rfieldOf env]
  exact emitOrder_names_perm o _ _ ordered ho

/-! ### end to end against X.680 / X.691 -/

/-- **full statement** (one marker at most; a second root list is outside the statement):
    whenever the generator emits a SET, the order is the one X.691 21.1 prescribes (`specOrder`:
    root components in the canonical order of X.680 8.6 under X.680's tags, extension additions
    as written).  FALSE for the current code, see the counterexample. -/
def SetOrderCanonical : Prop :=
  ∀ (env : Env) (c : Components) (em : Emitted), c.markers.length ≤ 1 →
    emit env .sort c = some (.ok em) → em.order = specOrder env c

/-- **partial** (one open finding, F-C16-1): when no automatically tagged CHOICE decides a
    position (`TagsAgree`, decidable), the emitted SET order is the prescribed one — for every
    position of the marker, in front of the first component included (there the whole list is
    additions and stays as written; what is wrong in that case is the split the descriptor
    states, `ExtensionSplitPerText` below) -/
theorem set_order_canonical_partial (env : Env) (c : Components) (em : Emitted)
    (hm : c.markers.length ≤ 1) (ht : TagsAgree env c)
    (h : emit env .sort c = some (.ok em)) : em.order = specOrder env c :=
  emit_sort_eq_specOrder env c em hm ht h

/-- **full statement**: the components the descriptor treats as extension additions
    (`EXTENDED_AFTER_FIELD`: every index above it) are exactly the ones declared behind the
    marker.  FALSE for the current code (marker in front of the first component). -/
def ExtensionSplitPerText : Prop :=
  ∀ (env : Env) (o : EncodingOrdering) (c : Components) (em : Emitted), c.markers.length ≤ 1 →
    emit env o c = some (.ok em) →
    ∀ i, i < c.fields.length → extendedFlag em.extAfter i = c.isExtension i

/-- **partial** (open finding F-C16-2): with the marker not in front of the first component -/
theorem extension_split_partial (env : Env) (o : EncodingOrdering) (c : Components) (em : Emitted)
    (hm : c.markers.length ≤ 1) (h0 : 0 ∉ c.markers) (h : emit env o c = some (.ok em)) (i : Nat) :
    extendedFlag em.extAfter i = c.isExtension i := by
  rw [writeConstraints_extAfter o _ _ em (emit_ok env o c em h)]
  exact extendedFlag_eq_isExtension c hm h0 i

/-! #### counterexamples: the full statements are false for the current code -/

/-- `Cb ::= CHOICE { v0 BOOLEAN, v1 INTEGER }` — no alternative tagged: automatic tags `[0] [1]` -/
def envCb : Env :=
  [{ name := "Cb", tag := none,
     ty := .choice [(none, .builtin .boolean), (none, .builtin .integer)] none }]

/-- `SET { a [APPLICATION 1] INTEGER, c Cb }` -/
def setWithAutoChoice : Components :=
  { fields := [{ name := "a", tag := some (Tag.application 1), ty := .builtin .integer },
               { name := "c", tag := none, ty := .ref "Cb" }] }

/-- `SET { ..., a [APPLICATION 1] INTEGER, b BOOLEAN }` -/
def setMarkerFirst : Components :=
  { fields := [{ name := "a", tag := some (Tag.application 1), ty := .builtin .integer },
               { name := "b", tag := none, ty := .builtin .boolean }],
    markers := [0] }

/-- evaluation of a concrete instance by the kernel.  The sort is `List.mergeSort`, defined by
    well-founded recursion, which does not reduce: it is first replaced by the insertion sort it
    equals (`sortKeyed_eq_foldr`, `specOrder_eq_foldr`). -/
macro "eval_tags" : tactic => `(tactic|
  (simp only [emit, writeConstraints, emitOrder, sortFieldsCanonically, sortKeyed_eq_foldr,
      specOrder_eq_foldr]
   decide +kernel))

/-- the generator orders `c` by `UNIVERSAL 1` (BOOLEAN, as if the alternatives were not
    tagged automatically) and emits `c, a` … -/
theorem emitted_with_auto_choice :
    (emit envCb .sort setWithAutoChoice).map (fun o => o.bind fun em => .ok em.order)
      = some (.ok ["c", "a"]) := by
  eval_tags

/-- … X.680 gives `c` the tag `[0]`: canonical order `a, c` -/
theorem spec_with_auto_choice : specOrder envCb setWithAutoChoice = ["a", "c"] := by
  eval_tags

theorem set_order_canonical_fails_choice : ¬ SetOrderCanonical := by
  intro h
  obtain ⟨o, hem, ho⟩ := Option.map_eq_some_iff.1 emitted_with_auto_choice
  obtain ⟨em, rfl, hord⟩ := Outcome.bind_eq_ok.1 ho
  have := h envCb setWithAutoChoice em (by decide) hem
  rw [spec_with_auto_choice, Outcome.ok.inj hord] at this
  exact absurd this (by decide)

/-- marker in front of the first component: the emitted order `a, b` is the prescribed one (both
    are additions, they stay as written) — but the descriptor announces `a` as a root component:
    `EXTENDED_AFTER_FIELD = Some(0)` … -/
theorem emitted_marker_first :
    (emit [] .sort setMarkerFirst).map (fun o => o.bind fun em => .ok (em.order, em.extAfter))
      = some (.ok (["a", "b"], some 0)) := by
  eval_tags

theorem spec_marker_first : specOrder [] setMarkerFirst = ["a", "b"] := by
  eval_tags

/-- … although `a` is declared behind the marker -/
theorem extension_split_fails_marker : ¬ ExtensionSplitPerText := by
  intro h
  obtain ⟨o, hem, ho⟩ := Option.map_eq_some_iff.1 emitted_marker_first
  obtain ⟨em, rfl, hp⟩ := Outcome.bind_eq_ok.1 ho
  have h2 := h [] .sort setMarkerFirst em (by decide) hem 0 (by decide)
  rw [(Prod.mk.inj (Outcome.ok.inj hp)).2] at h2
  exact absurd h2 (by decide)

/-! ### the `TAG` constants -/

/-- an explicit tag is what the component gets, whatever its type -/
theorem tag_const_explicit (rf : RField) (t : Tag) (h : rf.tag = some t) :
    tagConst rf = .ok t := by
  rw [tagConst_eq, h]; rfl

/-- **full statement**: an untagged component of a plain type gets the universal tag of its
    type — mandatory, OPTIONAL or DEFAULT, SET OF included. -/
def TagConstPerX680 : Prop :=
  ∀ (rf : RField) (k : Builtin), rf.kind = .builtin k → rf.tag = none →
    tagConst rf = .ok (Tag.universal (x680Universal k))

/-- the full statement holds (it failed for DEFAULT components and SET OF before
    `write_field_constraint` was repaired: both used `Tag::DEFAULT_SEQUENCE_OF`) -/
theorem tag_const : TagConstPerX680 := by
  intro rf k hk ht
  rw [tagConst_eq, ht, RField.innerTag, hk]
  exact congrArg Outcome.ok (default_tags_are_x680 k)

/-- regression, the witnesses of the two former findings: `b SET OF …` untagged has `TAG`
    `UNIVERSAL 17` (was 16), `b BOOLEAN DEFAULT TRUE` untagged has `UNIVERSAL 1` (was 16) -/
example : tagConst { name := "b", tag := none, typeTag := some (Tag.universal 17),
                     kind := .builtin .setOf, presence := .required } = .ok (Tag.universal 17) := by
  decide +kernel
example : tagConst { name := "b", tag := none, typeTag := some (Tag.universal 1),
                     kind := .builtin .boolean, presence := .default } = .ok (Tag.universal 1) := by
  decide +kernel
-- a DEFAULT component of a referenced type takes the tag stage 1 printed for the reference
example : tagConst { name := "b", tag := none, typeTag := some (Tag.application 7),
                     kind := .complex, presence := .default } = .ok (Tag.application 7) := by
  decide +kernel

/-- **the type's own `TAG`** (the type carries no tag of its own): `UNIVERSAL 16` for a SEQUENCE,
    `UNIVERSAL 17` for a SET (was 16 for both before `write_sequence_or_set_constraint` was
    repaired) -/
theorem own_tag (o : EncodingOrdering) (fields : List RField) (e : Option Nat) (em : Emitted)
    (h : writeConstraints o fields e = .ok em) :
    em.ownTag = Tag.universal (x680Universal (match o with | .keep => .sequence | .sort => .set)) := by
  obtain ⟨_, _, _, _, rfl⟩ := (writeConstraints_eq_ok_iff o fields e em).1 h
  cases o <;> rfl

/-! ### non-vacuity -/

/-- `SET { a [APPLICATION 1] INTEGER, b BOOLEAN, ..., c [0] NULL, d X }`, `X ::= [PRIVATE 2] INTEGER` -/
def envX : Env := [{ name := "X", tag := some (Tag.priv 2), ty := .builtin .integer }]
def sampleSet : Components :=
  { fields := [{ name := "a", tag := some (Tag.application 1), ty := .builtin .integer },
               { name := "b", tag := none, ty := .builtin .boolean },
               { name := "c", tag := some (Tag.contextSpecific 0), ty := .builtin .null },
               { name := "d", tag := none, ty := .ref "X" }],
    markers := [2] }

-- the hypotheses of `set_order_canonical_partial` / `extension_split_partial` hold for it and it
-- is reordered: b, a | c, d
example : sampleSet.markers.length ≤ 1 ∧ 0 ∉ sampleSet.markers ∧ TagsAgree envX sampleSet := by
  decide +kernel
example : (emit envX .sort sampleSet).map (fun o => o.bind fun em => .ok (em.order, em.extAfter))
    = some (.ok (["b", "a", "c", "d"], some 1)) := by
  eval_tags
example : specOrder envX sampleSet = ["b", "a", "c", "d"] := by
  eval_tags
/-- the same with the additions in descending tag order:
    `SET { a [APPLICATION 1] INTEGER, b BOOLEAN, ..., c [5] NULL, d [2] INTEGER }` -/
def sampleSetDesc : Components :=
  { fields := [{ name := "a", tag := some (Tag.application 1), ty := .builtin .integer },
               { name := "b", tag := none, ty := .builtin .boolean },
               { name := "c", tag := some (Tag.contextSpecific 5), ty := .builtin .null },
               { name := "d", tag := some (Tag.contextSpecific 2), ty := .builtin .integer }],
    markers := [2] }
-- the root components are sorted (b, a), the additions stay as written (c, d — before the repair
-- of `sort_fields_canonically`: d, c)
example : (emit [] .sort sampleSetDesc).map (fun o => o.bind fun em => .ok (em.order, em.extAfter))
    = some (.ok (["b", "a", "c", "d"], some 1)) := by
  eval_tags
example : specOrder [] sampleSetDesc = ["b", "a", "c", "d"] := by
  eval_tags
/-- regression, the witness of the former finding F-set-additions-sorted (C05, `zoo_ver::SetV1/V2`):
    `SetV1 ::= SET { a [0] INTEGER, ..., b [5] BOOLEAN OPTIONAL }`,
    `SetV2 ::= SET { a [0] INTEGER, ..., b [5] BOOLEAN OPTIONAL, c [2] INTEGER OPTIONAL }` -/
def rfA : RField :=
  { name := "a", tag := some (Tag.contextSpecific 0), typeTag := some (Tag.universal 2),
    kind := .builtin .integer, presence := .required }
def rfB : RField :=
  { name := "b", tag := some (Tag.contextSpecific 5), typeTag := some (Tag.universal 1),
    kind := .builtin .boolean, presence := .optional }
def rfC : RField :=
  { name := "c", tag := some (Tag.contextSpecific 2), typeTag := some (Tag.universal 2),
    kind := .builtin .integer, presence := .optional }
-- V2 is emitted a, b, c = V1's order followed by the new addition (was a, c, b)
example : sortFieldsCanonically [rfA, rfB] (some 0) = .ok [rfA, rfB] ∧
    sortFieldsCanonically ([rfA, rfB] ++ [rfC]) (some 0) = .ok ([rfA, rfB] ++ [rfC]) := by
  eval_tags
-- `set_order` / `set_order_append_additions`: the hypotheses on this instance
example : rootCount (some 0) [rfA, rfB].length = 1 ∧ 0 < [rfA, rfB].length ∧
    ∀ f ∈ [rfC], (f.tag.orElse fun _ => f.typeTag).isSome = true := by decide +kernel
-- the marker in front of the first component: inside `set_order_canonical_partial`, outside
-- `extension_split_partial`
example : setMarkerFirst.markers.length ≤ 1 ∧ TagsAgree [] setMarkerFirst ∧
    0 ∈ setMarkerFirst.markers := by decide +kernel
-- `TagsAgree` is false exactly on the counterexample
example : ¬ TagsAgree envCb setWithAutoChoice := by decide +kernel
-- an all-untagged list satisfies `NoneTagged`, a mixed one does not
def rfUntagged : RField :=
  { name := "a", tag := none, typeTag := some (Tag.universal 2), kind := .builtin .integer,
    presence := .required }
def rfTagged : RField := { rfUntagged with tag := some (Tag.priv 1) }
example : NoneTagged [rfUntagged, rfUntagged] := by decide +kernel
example : ¬ NoneTagged [rfUntagged, rfTagged] := by decide +kernel
-- a module that is not listed in dependency order
def envChain : Env :=
  [{ name := "A", tag := none, ty := .ref "B" },
   { name := "B", tag := none, ty := .choice [(none, .ref "C"), (some (Tag.priv 1), .builtin .null)] none },
   { name := "C", tag := none, ty := .builtin .integer }]
example : resolveTypeTag envChain (defaultFuel envChain (.ref "A")) [] (.ref "A")
    = some (some (Tag.universal 2)) := by decide +kernel
-- `resolver_total`: the bound for `A` in `envChain` (1 + 3 · (2 + 1) = 10) and the least amount
-- that works (5)
example : fuelBound envChain [] (.ref "A") = 10 ∧
    resolveTypeTag envChain 4 [] (.ref "A") = none ∧
    resolveTypeTag envChain 5 [] (.ref "A") = some (some (Tag.universal 2)) := by decide +kernel
-- `resolver_reference` / `resolver_choice_is_minimum`: instances of the hypotheses
example : (envChain.lookup "B").map (·.name) = some "B" ∧ ["A"].contains "B" = false := by decide +kernel
example : resolveTypeTag envChain 5 ["B", "A"] envChain[1].ty = some (some (Tag.universal 2)) := by
  decide +kernel
-- `resolver_unchanged_on_acyclic`: `envChain` is acyclic, with its rank function; on the cyclic
-- `R ::= CHOICE { x R, y INTEGER }` (written out in the last example; it is `envRec` below) the
-- resolver without a stack exhausts the fuel given, here 50
def rankChain (n : String) : Nat := if n = "A" then 2 else if n = "B" then 1 else 0
example : Acyclic envChain rankChain := by unfold Acyclic; decide +kernel
example : resolveTypeTagUnrepaired envChain 5 (.ref "A") = some (some (Tag.universal 2)) := by decide +kernel
example : resolveTypeTagUnrepaired
    [{ name := "R", tag := none, ty := .choice [(none, .ref "R"), (none, .builtin .integer)] none }]
    50 (.ref "R") = none := by decide +kernel
-- reference cycles (the witnesses of the former finding tags.cyclic-abort: the real resolver
-- overflowed its stack) now have a defined answer: no tag
/-- `R ::= CHOICE { x R, y INTEGER }` -/
def envRec : Env :=
  [{ name := "R", tag := none,
     ty := .choice [(none, .ref "R"), (none, .builtin .integer)] none }]
/-- `A ::= B`, `B ::= A` -/
def envLoop : Env :=
  [{ name := "A", tag := none, ty := .ref "B" }, { name := "B", tag := none, ty := .ref "A" }]
example : resolveTypeTag envRec (defaultFuel envRec (.ref "R")) [] (.ref "R") = some none := by
  decide +kernel
example : resolveTypeTag envLoop (defaultFuel envLoop (.ref "A")) [] (.ref "A") = some none ∧
    resolveTypeTag [{ name := "A", tag := none, ty := .ref "A" }] 2 [] (.ref "A") = some none := by
  decide +kernel
-- a cycle that is cut by explicit tags is not followed: `R ::= CHOICE { x [0] R, y [1] INTEGER }`
example : resolveTypeTag
    [{ name := "R", tag := none,
       ty := .choice [(some (Tag.contextSpecific 0), .ref "R"),
                      (some (Tag.contextSpecific 1), .builtin .integer)] none }]
    3 [] (.ref "R") = some (some (Tag.contextSpecific 0)) := by decide +kernel
-- `resolver_cycle_has_no_tag`: an instance of the hypothesis
example : "R" ∈ ["R"] := by decide +kernel
-- the whole pipeline on the first witness, `SET { a R, b [APPLICATION 1] BOOLEAN }`: `complex(R)`
-- without a tag is refused by stage 2 (compile error), the process does not abort
example : emit envRec .sort
    { fields := [{ name := "a", tag := none, ty := .ref "R" },
                 { name := "b", tag := some (Tag.application 1), ty := .builtin .boolean }] }
    = some (.err .other) := by eval_tags
-- stability: two components with the same key stay in textual order
def rfX : RField :=
  { name := "x", tag := some (Tag.universal 1), typeTag := none, kind := .complex,
    presence := .required }
def rfY : RField :=
  { name := "y", tag := none, typeTag := some (Tag.universal 1), kind := .builtin .boolean,
    presence := .required }
example : (sortKeyed [rfX, rfY] none).map (·.2.name) = ["x", "y"] := by
  eval_tags
example : (sortKeyed [rfY, rfX] none).map (·.2.name) = ["y", "x"] := by
  eval_tags

-- `set_order_perm` / `set_order_sorted` / `own_tag` / `set_order_ext_after`: an instance of the hypothesis
example : sortFieldsCanonically [rfTagged, rfY] none
    = .ok [{ rfY with tag := some (Tag.universal 1) }, rfTagged] := by
  eval_tags
example : (writeConstraints .sort [rfTagged, rfY] none).bind (fun em => .ok (em.order, em.ownTag))
    = .ok (["y", "a"], Tag.universal 17) := by
  eval_tags
-- regression, the witness of the former finding tags.set-own-tag: `SET { a BOOLEAN }` has `TAG`
-- `UNIVERSAL 17` (was 16); the same list as a SEQUENCE: 16
example : (emit [] .sort { fields := [{ name := "a", tag := none, ty := .builtin .boolean }] }).map
      (fun o => o.bind fun em => .ok em.ownTag) = some (.ok (Tag.universal 17)) ∧
    (emit [] .keep { fields := [{ name := "a", tag := none, ty := .builtin .boolean }] }).map
      (fun o => o.bind fun em => .ok em.ownTag) = some (.ok (Tag.universal 16)) := by
  eval_tags
-- `set_order_stable`: a pair in textual order with equal keys
example : [(false, rfX), (false, { rfY with tag := some (Tag.universal 1) })].Sublist
      (prepare [rfX, rfY] none) ∧
    keyLe (false, rfX) (false, { rfY with tag := some (Tag.universal 1) }) = true := by decide +kernel
-- `sequence_pipeline_order_textual` / `pipeline_order_perm`: the same components as a SEQUENCE
example : (emit envX .keep sampleSet).map (fun o => o.bind fun em => .ok em.order)
    = some (.ok ["a", "b", "c", "d"]) := by
  eval_tags
-- `pipeline_never_panics`: the hypothesis, and the excluded shape `SET { ... }` does panic
example : sampleSet.fields ≠ [] ∨ sampleSet.markers = [] := by decide +kernel
example : emit [] .sort { fields := [], markers := [0] } = some .panic := by eval_tags
-- `tag_const`, `tag_const_explicit`
example : rfUntagged.kind = .builtin .integer ∧ rfUntagged.tag = none := by decide +kernel
example : tagConst rfUntagged = .ok (Tag.universal 2) ∧ tagConst rfTagged = .ok (Tag.priv 1) := by
  decide +kernel
-- an unresolvable reference ends in the compile error of stage 2, not in a panic
example : emit [] .sort { fields := [{ name := "a", tag := some (Tag.priv 1), ty := .ref "Nope" }] }
    = some (.err .other) := by eval_tags

end Asn1Verif.Props.C16
