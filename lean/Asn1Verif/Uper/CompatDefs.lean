import Asn1Verif.Uper.RoundTrip
/-
  C05 — schema versions: appending extension additions / alternatives to a component list, and how
  the side conditions of V2 = V1 + additions split into those of V1 and of the additions.
-/
namespace Asn1Verif.Uper
open Asn1Verif Outcome Per

def Fields.append : Fields → Fields → Fields
  | .nil, b => b
  | .cons k t r, b => .cons k t (r.append b)

def Vals.append : Vals → Vals → Vals
  | .nil, b => b
  | .cons v r, b => .cons v (r.append b)

/-- the values of absent OPTIONAL / DEFAULT components -/
def Fields.absents : Fields → Vals
  | .nil => .nil
  | .cons k _ r => .cons k.absent r.absents

/-- what the generator emits for extension additions -/
def Fields.allOpt : Fields → Bool
  | .nil => true
  | .cons k _ r => k.isOptional && r.allOpt

theorem Fields.append_nil : ∀ (fs : Fields), fs.append .nil = fs
  | .nil => rfl
  | .cons k t r => congrArg (Fields.cons k t) (Fields.append_nil r)

theorem Vals.append_nil : ∀ (vs : Vals), vs.append .nil = vs
  | .nil => rfl
  | .cons v r => congrArg (Vals.cons v) (Vals.append_nil r)

theorem Fields.length_append : ∀ (a b : Fields), (a.append b).length = a.length + b.length
  | .nil, b => (Nat.zero_add _).symm
  | .cons k t r, b => by
    simp only [Fields.append, Fields.length, Fields.length_append r b]; omega

theorem vals_length_append : ∀ (a b : Vals), (a.append b).length = a.length + b.length
  | .nil, b => (Nat.zero_add _).symm
  | .cons v r, b => by simp only [Vals.append, Vals.length, vals_length_append r b]; omega

theorem optCount_append : ∀ (a b : Fields) (n : Nat), n ≤ a.length →
    (a.append b).optCount n = a.optCount n
  | .nil, b, n, h => by
    obtain rfl : n = 0 := Nat.le_zero.1 h
    exact optCount_zero b
  | .cons k t r, b, 0, _ => rfl
  | .cons k t r, b, n + 1, h =>
    congrArg (_ + ·) (optCount_append r b n (Nat.le_of_succ_le_succ h))

theorem consistent_append : ∀ (a b : Fields), a.consistent = true → b.consistent = true →
    (a.append b).consistent = true
  | .nil, _, _, hb => hb
  | .cons k t r, b, ha, hb => by
    simp only [Fields.append, Fields.consistent, Bool.and_eq_true] at ha ⊢
    exact ⟨ha.1, consistent_append r b ha.2 hb⟩

theorem rtOk_append (b : Fields) : ∀ (a : Fields) (n : Nat), (a.append b).rtOk n = true →
    a.rtOk n = true ∧ b.rtOk (n - a.length) = true
  | .nil, n, h => ⟨rfl, h⟩
  | .cons k t r, n, h => by
    simp only [Fields.append, Fields.rtOk, Bool.and_eq_true] at h ⊢
    have ih := rtOk_append b r (n - 1) h.2
    rw [Nat.sub_sub, Nat.add_comm] at ih
    exact ⟨⟨h.1, ih.1⟩, ih.2⟩

theorem valOkFields_append (b : Fields) (avs : Vals) : ∀ (a : Fields) (vs : Vals) (n : Nat),
    vs.length = a.length → valOkFields (a.append b) (vs.append avs) n = true →
    valOkFields a vs n = true ∧ valOkFields b avs (n - a.length) = true
  | .nil, .nil, n, _, h => ⟨rfl, h⟩
  | .nil, .cons .., _, hl, _ => by cases hl
  | .cons .., .nil, _, hl, _ => by cases hl
  | .cons k t r, .cons v vs, n, hl, h => by
    simp only [Fields.append, Vals.append, valOkFields, Bool.and_eq_true] at h ⊢
    have ih := valOkFields_append b avs r vs (n - 1) (Nat.succ.inj hl) h.2
    rw [Nat.sub_sub, Nat.add_comm] at ih
    exact ⟨⟨h.1, ih.1⟩, ih.2⟩

end Asn1Verif.Uper
