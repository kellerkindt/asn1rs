import Asn1Verif.Bits.BufferLemmas
/-
  C11 — Bit-level buffer operations equal a naive bit-vector model.

  Property theorems only; helper lemmas live in `Bits/SliceLemmas.lean`, `Bits/BufferLemmas.lean`.
  Models: `Bits/Slice.lean` (mirror of slice.rs), `Bits/Buffer.lean` (mirror of buffer.rs).
  `getBit bs i` is the naive model: bit `i` (MSB first) of the byte list.
-/
namespace Asn1Verif.Props.C11
open Asn1Verif Asn1Verif.Bits Outcome

/-- Writing `len` bits from any bit offset `sp` of `src` to any bit position `dp` of `dst`
    (the function behind every `write_bits*`/`read_bits*`): when both are long enough the result
    has the same length, exactly the `len` destination bits equal the source bits, and every other
    bit is unchanged.  No bound on any size. -/
theorem copy_spec (src : List Byte) (sp : Nat) (dst : List Byte) (dp len : Nat)
    (hd : dp + len ≤ dst.length * 8) (hs : sp + len ≤ src.length * 8) :
    ∃ dst', bitStringCopyBulked src sp dst dp len = ok dst' ∧ dst'.length = dst.length ∧
      ∀ j, getBit dst' j =
        if dp ≤ j ∧ j < dp + len then getBit src (sp + (j - dp)) else getBit dst j := by
  exact ⟨_, bitStringCopyBulked_ok hd hs, copyLoop_spec hd⟩

/-- … and fails with an error (never a panic, never a partial success) otherwise:
    destination too short ⇒ `InsufficientSpaceInDestinationBuffer`, else source too short ⇒
    `InsufficientDataInSourceBuffer`. -/
theorem copy_err_iff (src : List Byte) (sp : Nat) (dst : List Byte) (dp len : Nat) :
    (dst.length * 8 < dp + len → bitStringCopyBulked src sp dst dp len = err .insufficientSpace) ∧
    (dp + len ≤ dst.length * 8 → src.length * 8 < sp + len →
        bitStringCopyBulked src sp dst dp len = err .endOfStream) := by
  rw [bitStringCopyBulked_eq]
  exact ⟨bitStringCopy_err_space, bitStringCopy_err_data⟩

/-- the optimised (head / whole bytes / tail) copy is extensionally the bit-by-bit copy -/
theorem bulked_eq_simple : bitStringCopyBulked = bitStringCopy := by
  funext src sp dst dp len; exact bitStringCopyBulked_eq src sp dst dp len

theorem copy_never_panics (src : List Byte) (sp : Nat) (dst : List Byte) (dp len : Nat) :
    bitStringCopyBulked src sp dst dp len ≠ .panic := by
  rw [bitStringCopyBulked_eq]; unfold bitStringCopy
  split; · simp
  split <;> simp

/-- slice writer `(&mut [u8], &mut usize)`: one bit -/
theorem slice_write_bit (bs : List Byte) (pos : Nat) (x : Bool) :
    (pos < bs.length * 8 → sliceWriteBit bs pos x = ok (setBit bs pos x, pos + 1) ∧
        ∀ j, getBit (setBit bs pos x) j = if j = pos then x else getBit bs j) ∧
    (bs.length * 8 ≤ pos → sliceWriteBit bs pos x = err .endOfStream) := by
  unfold sliceWriteBit; rw [byte_len_eq]
  exact ⟨fun h => ⟨if_neg (by omega), fun j => getBit_setBit bs pos j x h⟩,
    fun h => if_pos (by omega)⟩

/-- slice reader `(&[u8], &mut usize)`: one bit; at or past the end it is an error -/
theorem slice_read_bit (bs : List Byte) (pos : Nat) :
    sliceReadBit bs pos =
      if pos < bs.length * 8 then ok (getBit bs pos, pos + 1) else err .endOfStream :=
  sliceReadBit_eq bs pos

/-- slice writer and slice reader agree on where bit `pos` lives: whatever one `write_bit`
    stored at any in-range position is what `read_bit` returns from there, both cursors end at
    `pos + 1`, and a read anywhere else sees the old bit. -/
theorem slice_write_then_read_bit (bs : List Byte) (pos : Nat) (x : Bool)
    (h : pos < bs.length * 8) :
    ∃ bs', sliceWriteBit bs pos x = ok (bs', pos + 1) ∧ bs'.length = bs.length ∧
      sliceReadBit bs' pos = ok (x, pos + 1) ∧
      ∀ j, j ≠ pos → j < bs.length * 8 → sliceReadBit bs' j = ok (getBit bs j, j + 1) := by
  obtain ⟨hw, hg⟩ := (slice_write_bit bs pos x).1 h
  refine ⟨setBit bs pos x, hw, length_setBit bs pos x, ?_, ?_⟩
  · rw [slice_read_bit, length_setBit, if_pos h, hg pos, if_pos rfl]
  · intro j hj hjl
    rw [slice_read_bit, length_setBit, if_pos hjl, hg j, if_neg hj]

/-- multi-bit write through the slice writer: cursor advances by exactly `len` -/
theorem slice_write_bits (bs : List Byte) (pos : Nat) (src : List Byte) (off len : Nat)
    (hd : pos + len ≤ bs.length * 8) (hs : off + len ≤ src.length * 8) :
    ∃ bs', sliceWriteBitsWithOffsetLen bs pos src off len = ok (bs', pos + len) ∧
      CopySpec src off bs pos len bs' := by
  unfold sliceWriteBitsWithOffsetLen
  rw [bitStringCopyBulked_ok hd hs]; exact ⟨_, rfl, copyLoop_spec hd⟩

/-- reading is the mirror image -/
theorem slice_read_bits (bs : List Byte) (pos : Nat) (dst : List Byte) (off len : Nat)
    (hd : off + len ≤ dst.length * 8) (hs : pos + len ≤ bs.length * 8) :
    ∃ dst', sliceReadBitsWithOffsetLen bs pos dst off len = ok (dst', pos + len) ∧
      CopySpec bs pos dst off len dst' := by
  unfold sliceReadBitsWithOffsetLen
  rw [bitStringCopyBulked_ok hd hs]; exact ⟨_, rfl, copyLoop_spec hd⟩

/-! ### the growable buffer: invariant over arbitrary operation sequences -/

inductive WOp where
  | bit (x : Bool)
  | bits (src : List Byte) (off len : Nat)

def WOp.run (b : BitBuffer) : WOp → Outcome BitBuffer
  | .bit x => b.writeBit x
  | .bits src off len => b.writeBitsWithOffsetLen src off len

def WOp.bitsWritten : WOp → List Bool
  | .bit x => [x]
  | .bits src off len => bitsOf src off len

def WOp.Valid : WOp → Prop
  | .bit _ => True
  | .bits src off len => off + len ≤ src.length * 8

def runOps (b : BitBuffer) : List WOp → Outcome BitBuffer
  | [] => ok b
  | op :: ops => op.run b >>= fun b' => runOps b' ops

/-- one step: a valid write succeeds, keeps the invariant (exactly ⌈bit_len/8⌉ bytes, zero
    padding), appends exactly the written bits and leaves the read cursor alone -/
theorem step_inv (b : BitBuffer) (op : WOp) (h : b.Inv) (hv : op.Valid) :
    ∃ b', op.run b = ok b' ∧ b'.Inv ∧ b'.abs = b.abs ++ op.bitsWritten ∧ b'.rp = b.rp := by
  cases op with
  | bit x => exact BitBuffer.writeBit_abs b x h
  | bits src off len => exact BitBuffer.writeBitsWithOffsetLen_abs b src off len h hv

/-- an invalid write (source too short) is an error, not a panic -/
theorem step_invalid (b : BitBuffer) (op : WOp) (h : b.Inv) (hv : ¬ op.Valid) :
    op.run b = err .endOfStream := by
  cases op with
  | bit x => exact absurd trivial hv
  | bits src off len =>
    exact BitBuffer.writeBitsWithOffsetLen_err b src off len (by simp [WOp.Valid] at hv; omega)

/-- every reachable state: any sequence of valid writes starting from the empty buffer (or any
    state satisfying the invariant) -/
theorem ops_inv (b : BitBuffer) (ops : List WOp) (h : b.Inv) (hv : ∀ op ∈ ops, op.Valid) :
    ∃ b', runOps b ops = ok b' ∧ b'.Inv ∧
      b'.abs = b.abs ++ (ops.map WOp.bitsWritten).flatten ∧ b'.rp = b.rp := by
  induction ops generalizing b with
  | nil => exact ⟨b, rfl, h, by simp, rfl⟩
  | cons op ops ih =>
    obtain ⟨b1, h1, h2, h3, h4⟩ := step_inv b op h (hv op (by simp))
    obtain ⟨b2, g1, g2, g3, g4⟩ := ih b1 h2 (fun o ho => hv o (by simp [ho]))
    refine ⟨b2, ?_, g2, ?_, by rw [g4, h4]⟩
    · simp [runOps, h1, g1]
    · rw [g3, h3]; simp

/-- no operation sequence whatsoever makes the buffer panic -/
theorem ops_never_panic (b : BitBuffer) (ops : List WOp) (h : b.Inv) : runOps b ops ≠ .panic := by
  induction ops generalizing b with
  | nil => simp [runOps]
  | cons op ops ih =>
    by_cases hv : op.Valid
    · obtain ⟨b1, h1, h2, _, _⟩ := step_inv b op h hv
      simp only [runOps, h1, Outcome.bind_ok]; exact ih b1 h2
    · simp [runOps, step_invalid b op h hv]

theorem bit_len_advances (b : BitBuffer) (src : List Byte) (off len : Nat) (h : b.Inv)
    (hs : off + len ≤ src.length * 8) :
    ∃ b', b.writeBitsWithOffsetLen src off len = ok b' ∧ b'.wp = b.wp + len ∧
      b'.buffer.length = (b.wp + len + 7) / 8 := by
  refine ⟨_, BitBuffer.writeBitsWithOffsetLen_eq b src off len hs, rfl, ?_⟩
  show (copyLoop ..).length = _
  rw [length_copyLoop, BitBuffer.length_ensure, h.1]; omega

/-- A write placed at a position inside the written bits (`with_write_position_at(p, |b| b.write_bits*(..))`)
    is the naive in-place update: it succeeds, the bits `p .. p + len` become the source bits, every other
    written bit, the bit length, the number of octets, the read cursor and the invariant stay as they were.
    (Placing a write so that it reaches beyond the written bits is outside the property; the model covers
    it and is compared there by the correspondence stream only.) -/
theorem placed_write (b : BitBuffer) (p : Nat) (src : List Byte) (off len : Nat) (h : b.Inv)
    (hs : off + len ≤ src.length * 8) (hp : p + len ≤ b.wp) :
    ∃ b', b.atPos p (fun b => b.writeBitsWithOffsetLen src off len) = ok b' ∧ b'.Inv ∧
      b'.wp = b.wp ∧ b'.rp = b.rp ∧ b'.buffer.length = b.buffer.length ∧
      b'.abs = b.abs.take p ++ bitsOf src off len ++ b.abs.drop (p + len) := by
  have hfit : p + len ≤ b.buffer.length * 8 := by rw [h.1]; omega
  have hc := copyLoop_spec (src := src) (sp := off) hfit
  refine ⟨_, BitBuffer.atPos_writeBits_eq b p src off len hs hfit,
    ⟨hc.1.trans h.1, fun j (hj : b.wp ≤ j) => ?_⟩, rfl, rfl, hc.1, hc.bitsOf_eq hp⟩
  rw [hc.2, if_neg (by omega)]; exact h.2 j hj

/-- … in particular the single bit the crate itself patches (presence and extension bits): -/
theorem placed_bit (b : BitBuffer) (p : Nat) (x : Bool) (h : b.Inv) (hp : p < b.wp) :
    ∃ b', b.atPos p (fun b => b.writeBitsWithOffsetLen [if x then 0x80#8 else 0#8] 0 1) = ok b' ∧
      b'.Inv ∧ b'.wp = b.wp ∧ b'.abs = b.abs.set p x := by
  obtain ⟨b', h1, h2, h3, _, _, h6⟩ :=
    placed_write b p [if x then 0x80#8 else 0#8] 0 1 h (show 1 ≤ 8 by decide) hp
  exact ⟨b', h1, h2, h3, h6.trans (take_bit_drop _ p x (by rwa [BitBuffer.length_abs]))⟩

/-- … and the call the crate itself makes, `with_write_position_at(p, |b| b.write_bit(x))` (the model's
    `patchBit`, which the scope machine of `Uper/Scope.lean` uses for every presence and extension bit):
    inside the written bits it sets exactly bit `p` -/
theorem patch_bit (b : BitBuffer) (p : Nat) (x : Bool) (h : b.Inv) (hp : p < b.wp) :
    ∃ b', b.patchBit p x = ok b' ∧ b'.Inv ∧ b'.wp = b.wp ∧ b'.rp = b.rp ∧
      b'.buffer.length = b.buffer.length ∧ b'.abs = b.abs.set p x := by
  rw [BitBuffer.patchBit_eq_atPos]
  obtain ⟨b', h1, h2, h3, h4, h5, h6⟩ :=
    placed_write b p [if x then 0x80#8 else 0#8] 0 1 h (show 1 ≤ 8 by decide) hp
  exact ⟨b', h1, h2, h3, h4, h5,
    h6.trans (take_bit_drop _ p x (by rwa [BitBuffer.length_abs]))⟩

/-- reading back from the buffer: the mirror image, bounded by the *declared* length -/
theorem buffer_read (b : BitBuffer) (dst : List Byte) (off len : Nat) (h : b.Inv)
    (hrp : b.rp ≤ b.wp) (hd : off + len ≤ dst.length * 8) :
    (b.rp + len ≤ b.wp →
      ∃ dst', b.readBitsWithOffsetLen dst off len = ok (dst', { b with rp := b.rp + len }) ∧
        CopySpec b.buffer b.rp dst off len dst') ∧
    (b.wp < b.rp + len → b.readBitsWithOffsetLen dst off len = err .endOfStream) := by
  have hw : b.wp ≤ b.buffer.length * 8 := by rw [h.1]; omega
  exact ⟨fun hr => BitBuffer.readBitsWithOffsetLen_ok b dst off len hw hr hd,
         fun hr => BitBuffer.readBitsWithOffsetLen_eos b dst off len hrp hr⟩

/-- write then read through the buffer: from any state satisfying the invariant whose read cursor
    stands at the write cursor (the empty buffer, or one read to its end), a valid `write_bits*`
    of `len` bits followed by a `read_bits*` of `len` bits gives back exactly the bits written, and
    the buffer is again read to its end.  No bound on sizes or offsets. -/
theorem buffer_write_then_read (b : BitBuffer) (src dst : List Byte) (off len : Nat) (h : b.Inv)
    (hrp : b.rp = b.wp) (hs : off + len ≤ src.length * 8) (hd : len ≤ dst.length * 8) :
    ∃ b' dst' b'', b.writeBitsWithOffsetLen src off len = ok b' ∧
      b'.readBitsWithOffsetLen dst 0 len = ok (dst', b'') ∧
      bitsOf dst' 0 len = bitsOf src off len ∧ b''.rp = b''.wp ∧ b''.wp = b.wp + len := by
  obtain ⟨b', h1, h2, h3, h4⟩ := BitBuffer.writeBitsWithOffsetLen_abs b src off len h hs
  have hwp : b'.wp = b.wp + len := by rw [BitBuffer.wp_of_abs h3, length_bitsOf]
  obtain ⟨dst', g1, g2⟩ := (buffer_read b' dst 0 len h2 (by omega) (by omega)).1 (by omega)
  refine ⟨b', dst', _, h1, g1, ?_, show b'.rp + len = b'.wp by rw [h4, hrp, hwp], hwp⟩
  have := BitBuffer.bitsOf_of_abs h3
  rwa [length_bitsOf, ← hrp, ← h4, ← g2.bitsOf_window] at this

/-- every history: after ANY sequence of valid writes (single bits and bit runs, any lengths and
    offsets) into a fresh buffer, one read of the total number of bits returns exactly the
    concatenation of everything written, in order, and leaves the buffer read to its end. -/
theorem ops_then_read_all (ops : List WOp) (dst : List Byte) (hv : ∀ op ∈ ops, op.Valid)
    (hd : ((ops.map WOp.bitsWritten).flatten).length ≤ dst.length * 8) :
    ∃ b' dst' b'', runOps {} ops = ok b' ∧
      b'.readBitsWithOffsetLen dst 0 ((ops.map WOp.bitsWritten).flatten).length = ok (dst', b'') ∧
      bitsOf dst' 0 ((ops.map WOp.bitsWritten).flatten).length = (ops.map WOp.bitsWritten).flatten ∧
      b''.rp = b''.wp := by
  obtain ⟨b', h1, h2, h3, h4⟩ := ops_inv {} ops BitBuffer.inv_default hv
  generalize ((ops.map WOp.bitsWritten).flatten) = bits at *
  have hwp : b'.wp = 0 + bits.length := BitBuffer.wp_of_abs h3
  have hrp : b'.rp = 0 := h4
  obtain ⟨dst', g1, g2⟩ :=
    (buffer_read b' dst 0 bits.length h2 (by omega) (by omega)).1 (by omega)
  refine ⟨b', dst', _, h1, g1, ?_, show b'.rp + bits.length = b'.wp by rw [hrp, hwp]⟩
  rw [g2.bitsOf_window, hrp]; exact BitBuffer.bitsOf_of_abs (b := {}) h3

/-- the read-only view `Bits`: same, bounded by its declared bit length, not by the slice -/
theorem bits_read (b : BitsView) (dst : List Byte) (off len : Nat) (h : b.Inv)
    (hd : off + len ≤ dst.length * 8) :
    (b.pos + len ≤ b.len →
      ∃ dst', b.readBitsWithOffsetLen dst off len = ok (dst', { b with pos := b.pos + len }) ∧
        CopySpec b.slice b.pos dst off len dst') ∧
    (b.len < b.pos + len → b.readBitsWithOffsetLen dst off len = err .endOfStream) :=
  ⟨fun hr => BitsView.readBitsWithOffsetLen_ok b dst off len h hr hd,
   fun hr => BitsView.readBitsWithOffsetLen_eos b dst off len h.2 hr⟩

theorem bits_read_bit (b : BitsView) (h : b.Inv) :
    b.readBit = if b.pos < b.len then ok (getBit b.slice b.pos, { b with pos := b.pos + 1 })
      else err .endOfStream := BitsView.readBit_spec b h

/-! ### non-vacuity: concrete instances satisfying the hypotheses -/

example : (3 : Nat) + 20 ≤ [0xff#8, 0xff#8, 0xff#8, 0xff#8, 0xff#8].length * 8 ∧
    0 + 20 ≤ [0#8, 0#8, 0#8, 0#8].length * 8 := by decide
example : bitStringCopyBulked [0#8, 0#8, 0#8, 0#8] 0 [0xff#8, 0xff#8, 0xff#8, 0xff#8, 0xff#8] 3 20
    = ok [0xe0#8, 0x00#8, 0x01#8, 0xff#8, 0xff#8] := by decide +kernel
example : (WOp.bits [0xAB#8, 0xCD#8] 3 9).Valid := by simp [WOp.Valid]
example : (BitsView.mk [0xAA#8, 0xBB#8] 0 12).Inv := by simp [BitsView.Inv]
example : (BitBuffer.mk [0xff#8, 0xf0#8] 12 0).patchBit 9 false = ok (BitBuffer.mk [0xff#8, 0xb0#8] 12 0) := by decide +kernel
-- `slice_write_then_read_bit`: bit 9 of a two-byte slice
example : (9 : Nat) < [0xff#8, 0xf0#8].length * 8 ∧
    sliceWriteBit [0xff#8, 0xf0#8] 9 false = ok ([0xff#8, 0xb0#8], 10) ∧
    sliceReadBit [0xff#8, 0xb0#8] 9 = ok (false, 10) := by decide +kernel
-- `buffer_write_then_read`: 9 bits from source offset 3 into a buffer holding 5 consumed bits
example : (BitBuffer.mk [0xa8#8] 5 5).Inv ∧ (3 : Nat) + 9 ≤ [0xAB#8, 0xCD#8].length * 8 ∧
    (9 : Nat) ≤ [0#8, 0#8].length * 8 := by
  exact ⟨BitBuffer.inv_of_lt (by decide) (by decide), by decide, by decide⟩
-- `ops_then_read_all`: a non-trivial history satisfying its hypotheses
example : (∀ op ∈ [WOp.bit true, WOp.bits [0xAB#8, 0xCD#8] 3 9, WOp.bit false], op.Valid) := by
  simp [WOp.Valid]
-- `placed_write`: a 12-bit buffer, 5 bits from source offset 2 placed at position 3
example : (BitBuffer.mk [0xff#8, 0xf0#8] 12 0).atPos 3 (fun b => b.writeBitsWithOffsetLen [0x00#8] 2 5)
    = ok (BitBuffer.mk [0xe0#8, 0xf0#8] 12 0) := by decide +kernel

end Asn1Verif.Props.C11
