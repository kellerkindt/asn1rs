import Asn1Verif.Uper.RoundTrip
import Asn1Verif.Uper.ReadTotalWork
/-
  C01 / C02 — finding F-frag, symbolically (no evaluation of a 16K-element value): `SEQUENCE OF BOOLEAN`
  with `n ≥ 16K` elements.  The writer emits the fragment header `11 0000mm` (m = min(n / 16K, 4)) followed
  by ALL `n` elements; the reader takes `m · 16K` for the number of elements.  Whenever `n ≠ m · 16K` the
  value read back — if any — is not the value written.
-/
namespace Asn1Verif.Uper
open Asn1Verif Outcome Per

def boolVals : List Bool → Vals
  | [] => .nil
  | b :: r => .cons (.bool b) (boolVals r)

theorem boolVals_length : ∀ (bs : List Bool), (boolVals bs).length = bs.length
  | [] => rfl
  | b :: r => by simp [boolVals, Vals.length, boolVals_length r]

theorem encList_bools : ∀ (bs : List Bool), encListWith (enc .bool) (boolVals bs) = ok bs
  | [] => rfl
  | b :: r => by
    simp only [boolVals, encListWith]
    rw [encList_bools r]
    rfl

theorem allVals_bools (p : Val → Bool) (hp : ∀ b, p (.bool b) = true) :
    ∀ (bs : List Bool), allVals p (boolVals bs) = true
  | [] => rfl
  | b :: r => by simp [boolVals, allVals, hp b, allVals_bools p hp r]

theorem enc_bools (bs : List Bool) (hn : bs.length ≤ I64MAXu) :
    enc (.seqOf none none false .bool) (.list (boolVals bs))
      = ok ((X691.lenU bs.length).1 ++ bs) := by
  have hw : wExtLen false none none I64MAXu bs.length = ok (X691.lenU bs.length).1 := by
    simp [wExtLen, wLen_unc, hn]
  have e : enc (.seqOf none none false .bool) (.list (boolVals bs))
      = (wExtLen false none none I64MAXu (boolVals bs).length >>= fun hdr =>
          encListWith (enc .bool) (boolVals bs) >>= fun body => ok (hdr ++ body)) := by
    rw [enc]
  rw [e, boolVals_length, hw, encList_bools]
  rfl

theorem frag_ignored_read (bs : List Bool) (hn : 16384 ≤ bs.length)
    (hne : bs.length ≠ min (bs.length / 16384) 4 * 16384) (pre post : Bits) (p : Nat) :
    dec (.seqOf none none false .bool)
        (pre ++ ((X691.lenU bs.length).1 ++ bs) ++ post) pre.length
      ≠ ok (.list (boolVals bs), p) := by
  intro h
  have hat : At (pre ++ ((X691.lenU bs.length).1 ++ bs) ++ post) pre.length
      ((X691.lenU bs.length).1 ++ bs) post := by
    rw [List.append_assoc]; exact At.of_append _ _ _
  unfold dec at h
  simp only [Bool.false_eq_true, if_false, Outcome.bind_ok] at h
  rw [hat.left.lift _ _ (rLen_unc bs.length (bs ++ post)), lenU_snd_ge hn, Option.getD_some] at h
  -- the count stays behind a variable: the kernel would evaluate a product with 16384 otherwise
  obtain ⟨a, ha, h⟩ := bind_eq_ok.1 h
  obtain ⟨b, hb, h⟩ := bind_eq_ok.1 h
  injection ha with ha
  injection h with h; injection h with h _
  injection h with h
  have := decListWith_length _ _ b.1 b.2 hb
  rw [h, boolVals_length, ← ha] at this
  exact hne this

end Asn1Verif.Uper
