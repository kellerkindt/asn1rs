import Asn1Verif.Front.ParserLemmas
/- parse ∘ print for ENUMERATED (variant names in order, numbers, marker position). -/
namespace Asn1Verif.Front.Syn
open Except

def enumNumsWf (vs : List EnumVariant) : Bool :=
  vs.all fun v => match v.number with | none => true | some n => inU64 n

theorem enumLoop_marker (f n : Nat) (last : Bool) (ts : List Token) :
    enumLoop (f + 1) (n + 1) false
        (.sep '.' :: .sep '.' :: .sep '.' :: .sep (closing last) :: ts) =
      (afterItem (enumLoop f (n + 1) true) [] last ts >>= fun r => .ok ((r.1.1, some n), r.2)) := by
  cases last <;> rfl

theorem enumLoop_item (f n : Nat) (seen : Bool) (v : EnumVariant)
    (hv : ∀ k, v.number = some k → inU64 k = true) (last : Bool) (ts : List Token) :
    enumLoop (f + 1) n seen (printEnumItem v ++ .sep (closing last) :: ts) =
      (afterItem (enumLoop f (n + 1) seen) [] last ts >>= fun r =>
        .ok ((v :: r.1.1, r.1.2), r.2)) := by
  obtain ⟨name, num⟩ := v
  cases num with
  | none => cases last <;> rfl
  | some k =>
    -- the number is parsed only after the `)`: first the shape, then the number
    have shape : ∀ t : Token, enumLoop (f + 1) n seen
        (.text name :: .sep '(' :: t :: .sep ')' :: .sep (closing last) :: ts) =
        match t.text?.bind parseU64 with
        | none => .error .invalidNumberForEnumVariant
        | some k => afterItem (enumLoop f (n + 1) seen) [] last ts >>= fun r =>
            .ok ((⟨name, some k⟩ :: r.1.1, r.1.2), r.2) := by
      intro t
      cases last <;> rfl
    exact (shape (tNat k)).trans (by rw [tNat_bind_parseU64 k (hv k rfl)])

/-- was that the last variant, and the tokens after its separator -/
def enumNext (tl : List EnumVariant) (ext : Option Nat) (j : Nat) (rest : List Token) :
    Bool × List Token :=
  match tl with
  | [] => (true, rest)
  | _ :: _ => (false, printEnumLoop tl ext j ++ rest)

theorem printEnumLoop_cons (v : EnumVariant) (tl : List EnumVariant) (ext : Option Nat) (i : Nat)
    (rest : List Token) :
    printEnumLoop (v :: tl) ext i ++ rest =
      printEnumItem v ++ ((if ext = some i then [.sep ',', .sep '.', .sep '.', .sep '.'] else []) ++
        .sep (closing (enumNext tl ext (i + 1) rest).1) :: (enumNext tl ext (i + 1) rest).2) := by
  cases tl <;> simp only [printEnumLoop, enumNext, closing] <;> split <;>
    simp only [tok]

theorem enumLoop_print (vs : List EnumVariant) (ext : Option Nat) (hne : vs ≠ [])
    (hnum : enumNumsWf vs = true) :
    ∀ (i : Nat) (seen : Bool) (fuel : Nat) (rest : List Token), 2 * vs.length ≤ fuel →
      (seen = true → extIn ext i vs.length = none) →
      enumLoop fuel i seen (printEnumLoop vs ext i ++ rest) =
        .ok ((vs, extIn ext i vs.length), rest) := by
  induction vs with
  | nil => exact absurd rfl hne
  | cons v tl ih =>
    intro i seen fuel rest hfuel hseen
    simp only [enumNumsWf, List.all_cons, Bool.and_eq_true] at hnum
    simp only [List.length_cons] at hfuel hseen ⊢
    -- an item and the marker that may follow it each spend one unit of the budget
    obtain ⟨f, rfl⟩ : ∃ f, fuel = f + 2 := ⟨fuel - 2, by omega⟩
    have hv : ∀ k, v.number = some k → inU64 k = true := fun k hk => by
      have := hnum.1; rw [hk] at this; exact this
    have next : ∀ (seen' : Bool) (f' : Nat), 2 * tl.length ≤ f' →
        (seen' = true → extIn ext (i + 1) tl.length = none) →
        afterItem (enumLoop f' (i + 1) seen') [] (enumNext tl ext (i + 1) rest).1
            (enumNext tl ext (i + 1) rest).2 =
          .ok ((tl, extIn ext (i + 1) tl.length), rest) := by
      intro seen' f' hf' hs'
      cases tl with
      | nil => rw [List.length_nil, extIn_zero]; rfl
      | cons v2 tl2 => exact ih (List.cons_ne_nil _ _) hnum.2 (i + 1) seen' f' rest hf' hs'
    rw [printEnumLoop_cons]
    by_cases hm : ext = some i
    · subst hm
      have hs : seen = false := by
        cases seen with
        | false => rfl
        | true => have := hseen rfl; rw [extIn_here _ _ (by omega)] at this; cases this
      subst hs
      simp only [if_pos, List.cons_append, List.nil_append]
      refine (enumLoop_item (f + 1) i false v hv false _).trans ?_
      simp only [tok, afterItem_false, enumLoop_marker f i,
        next true f (by omega) (fun _ => extIn_past i (i + 1) _ (by omega)),
        extIn_here i _ (Nat.succ_pos _)]
    · rw [if_neg hm, List.nil_append, enumLoop_item (f + 1) i seen v hv,
        next seen (f + 1) (by omega) (fun h => by rw [← extIn_step ext i _ hm]; exact hseen h),
        FR.bind_ok, extIn_step ext i _ hm]

/-- `parse_print_Enumerated` -/
theorem parseEnumerated_print (e : Enumerated) (hw : enumWf e = true) (fuel : Nat)
    (hfuel : 2 * e.variants.length ≤ fuel) (rest : List Token) :
    parseEnumerated fuel (printEnumerated e ++ rest) = .ok (e, rest) := by
  simp only [enumWf, Bool.and_eq_true, Bool.not_eq_true', List.isEmpty_eq_false_iff] at hw
  obtain ⟨⟨hne, hnum⟩, hext⟩ := hw
  have := enumLoop_print e.variants e.extAfter hne hnum 0 false fuel rest hfuel nofun
  simp only [tok, parseEnumerated, printEnumerated, this, extIn_all _ _ hext]

end Asn1Verif.Front.Syn
