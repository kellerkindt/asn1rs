import Asn1Verif.Per.Concrete
import Asn1Verif.Per.PrimLemmasBits
import Asn1Verif.Bits.BufferLemmas
import Asn1Verif.Base.OutcomeLemmas
import Asn1Verif.Base.BigEndian
/-
  The notations of L1 (bit lists: `natBits`, `bytesBits`, `bitsToNat`, `bitsBytes`) against those of L0
  (byte lists: `getBit`, `bitsOf`, `CopySpec`) and the number/byte conversions of the Rust code
  (`to_be_bytes`, `from_be_bytes`).
-/
namespace Asn1Verif.Per.Glue
open Asn1Verif Asn1Verif.Bits Asn1Verif.Per Asn1Verif.Per.Concrete Outcome
open Asn1Verif.BigEndian (beBytes)

theorem getBit_cons_lt (x : Byte) (r : List Byte) (i : Nat) (h : i < 8) :
    getBit (x :: r) i = x.getMsbD i := by
  unfold getBit
  rw [Nat.div_eq_of_lt h, Nat.mod_eq_of_lt h]; rfl

theorem getBit_cons_add (x : Byte) (r : List Byte) (i : Nat) :
    getBit (x :: r) (8 + i) = getBit r i := by
  unfold getBit
  rw [Nat.add_div_left _ (by decide), Nat.add_mod_left]; rfl

theorem bitsOf_cons_shift (x : Byte) (r : List Byte) (off len : Nat) :
    bitsOf (x :: r) (8 + off) len = bitsOf r off len := by
  apply bitsOf_congr
  intro i _
  rw [Nat.add_assoc, getBit_cons_add]

theorem byte_getMsbD (x : Byte) (i : Nat) (h : i < 8) : x.getMsbD i = x.toNat.testBit (7 - i) := by
  rw [BitVec.getMsbD_eq_getLsbD, BitVec.testBit_toNat]
  simp [h]

theorem bitsOf_byte (x : Byte) (r : List Byte) : bitsOf (x :: r) 0 8 = natBits 8 x.toNat := by
  apply List.ext_getElem
  · simp
  · intro i h1 h2
    have hi : i < 8 := by simpa using h1
    rw [getElem_bitsOf, getElem_natBits, Nat.zero_add, getBit_cons_lt _ _ _ hi, byte_getMsbD _ _ hi]

theorem bytesBits_eq_bitsOf (bs : List Byte) : bytesBits bs = bitsOf bs 0 (8 * bs.length) := by
  induction bs with
  | nil => rfl
  | cons x r ih =>
    have : 8 * (x :: r).length = 8 + 8 * r.length := by simp; omega
    rw [this, bitsOf_append, bytesBits, bitsOf_byte, Nat.zero_add]
    have := bitsOf_cons_shift x r 0 (8 * r.length)
    rw [Nat.add_zero] at this
    rw [this, ih]

theorem bitsOf_eq_drop_take (bs : List Byte) (off len : Nat) (h : off + len ≤ 8 * bs.length) :
    bitsOf bs off len = ((bytesBits bs).drop off).take len := by
  rw [bytesBits_eq_bitsOf, bitsOf_drop _ _ (by omega), bitsOf_take _ _ (by omega), Nat.zero_add]

@[simp] theorem fromBeBytes_nil : fromBeBytes [] = 0 := rfl

theorem bitsToNat_bytesBits (bs : List Byte) : bitsToNat (bytesBits bs) = fromBeBytes bs := by
  induction bs with
  | nil => rfl
  | cons x r ih =>
    rw [bytesBits, bitsToNat_append, bitsToNat_natBits, Nat.mod_eq_of_lt x.isLt, bytesBits_length, ih,
      BigEndian.two_pow_eight_mul]
    exact (BigEndian.value_cons x r).symm

theorem fromBeBytes_lt (bs : List Byte) : fromBeBytes bs < 2 ^ (8 * bs.length) :=
  BigEndian.two_pow_eight_mul _ ▸ BigEndian.value_lt bs

theorem bytesBits_eq_natBits (bs : List Byte) :
    bytesBits bs = natBits (8 * bs.length) (fromBeBytes bs) := by
  have := natBits_bitsToNat (bytesBits bs)
  rw [bytesBits_length, bitsToNat_bytesBits] at this
  exact this.symm

theorem bitsOf_low (bs : List Byte) (w : Nat) (h : w ≤ 8 * bs.length) :
    bitsOf bs (8 * bs.length - w) w = natBits w (fromBeBytes bs) := by
  have hd := natBits_drop (8 * bs.length - w) w (fromBeBytes bs)
  rw [Nat.sub_add_cancel h] at hd
  rw [bitsOf_eq_drop_take bs _ _ (Nat.le_of_eq (Nat.sub_add_cancel h)), bytesBits_eq_natBits, hd,
    List.take_of_length_le (Nat.le_of_eq (natBits_length _ _))]

theorem toBeBytes_eq (v : Nat) : toBeBytes v = beBytes 8 v := by
  simp only [BigEndian.beBytes_succ, ← BigEndian.two_pow_eight_mul, ← Nat.shiftRight_eq_div_pow]
  rfl

@[simp] theorem length_toBeBytes (v : Nat) : (toBeBytes v).length = 8 := rfl

theorem bytesBits_beBytes (k v : Nat) : bytesBits (beBytes k v) = natBits (8 * k) v := by
  induction k with
  | zero => rfl
  | succ k ih =>
    rw [BigEndian.beBytes_succ, bytesBits, ih, BitVec.toNat_ofNat, natBits_mod _ (Nat.le_refl 8),
      Nat.mul_succ, Nat.add_comm, natBits_add, Nat.shiftRight_eq_div_pow, BigEndian.two_pow_eight_mul]

theorem fromBeBytes_beBytes (k v : Nat) : fromBeBytes (beBytes k v) = v % 2 ^ (8 * k) := by
  rw [← bitsToNat_bytesBits, bytesBits_beBytes, bitsToNat_natBits]

theorem fromBeBytes_toBeBytes (v : Nat) : fromBeBytes (toBeBytes v) = v % 2 ^ 64 :=
  toBeBytes_eq v ▸ fromBeBytes_beBytes 8 v

/-- what `write_bits_with_offset(&v.to_be_bytes(), 8k - w)` appends; no range hypothesis on `v`: both
    sides only look at its low `8k` bits -/
theorem bitsOf_beBytes (k w v : Nat) (hw : w ≤ 8 * k) :
    bitsOf (beBytes k v) (8 * k - w) w = natBits w v := by
  have := bitsOf_low (beBytes k v) w (by simpa using hw)
  rwa [BigEndian.length_beBytes, fromBeBytes_beBytes, natBits_mod v hw] at this

theorem bitsOf_toBeBytes (w v : Nat) (hw : w ≤ 64) :
    bitsOf (toBeBytes v) (64 - w) w = natBits w v :=
  toBeBytes_eq v ▸ bitsOf_beBytes 8 w v hw

theorem bytesBits_toBeBytes_drop (o v : Nat) (ho : o ≤ 8) :
    bytesBits ((toBeBytes v).drop o) = natBits (8 * (8 - o)) v := by
  rw [toBeBytes_eq, BigEndian.drop_beBytes 8 o v ho, bytesBits_beBytes]

theorem getBit_zeroBytes (n j : Nat) : getBit (zeroBytes n) j = false :=
  (getBit_append_replicate [] n j).trans (getBit_of_ge [] j (Nat.zero_le _))

@[simp] theorem length_zeroBytes (n : Nat) : (zeroBytes n).length = n := List.length_replicate

theorem bitsOf_eq_replicate {bs : List Byte} {off len : Nat} {x : Bool}
    (h : ∀ i, i < len → getBit bs (off + i) = x) : bitsOf bs off len = List.replicate len x := by
  apply List.ext_getElem
  · rw [length_bitsOf, List.length_replicate]
  · intro i h1 _
    rw [getElem_bitsOf, List.getElem_replicate, h i (by rwa [length_bitsOf] at h1)]

theorem bitsOf_zeroBytes (n off len : Nat) :
    bitsOf (zeroBytes n) off len = List.replicate len false :=
  bitsOf_eq_replicate fun _ _ => getBit_zeroBytes n _

/-- `read_bits_with_offset(&mut [0u8; n], off)`: `off` zero bits, then the bits copied -/
theorem bytesBits_of_copy {src : List Byte} {sp n off len : Nat} {dst' : List Byte}
    (hn : off + len = 8 * n) (h : CopySpec src sp (zeroBytes n) off len dst') :
    bytesBits dst' = List.replicate off false ++ bitsOf src sp len := by
  rw [bytesBits_eq_bitsOf, h.1, length_zeroBytes, ← hn, bitsOf_append, Nat.zero_add,
    h.bitsOf_window, h.bitsOf_disjoint 0 off (.inl (Nat.le_of_eq (Nat.zero_add _))), bitsOf_zeroBytes]

/-- `read_bits_with_offset(&mut [0u8; n], 8n - w)` followed by `from_be_bytes` -/
theorem fromBeBytes_of_copy {src : List Byte} {sp n w : Nat} {dst' : List Byte} (hw : w ≤ 8 * n)
    (h : CopySpec src sp (zeroBytes n) (8 * n - w) w dst') :
    fromBeBytes dst' = bitsToNat (bitsOf src sp w) := by
  rw [← bitsToNat_bytesBits, bytesBits_of_copy (by omega) h, bitsToNat_zeros_append]

theorem eq_bitsBytes_of_copy {src : List Byte} {sp n : Nat} {dst' : List Byte}
    (h : CopySpec src sp (zeroBytes n) 0 (n * 8) dst') :
    dst' = bitsBytes (bitsOf src sp (8 * n)) := by
  rw [Nat.mul_comm 8, ← List.nil_append (bitsOf _ _ _), ← List.replicate_zero (a := false),
    ← bytesBits_of_copy (by omega) h, bitsBytes_bytesBits]

theorem toInt_ofNat64 (n : Nat) : (BitVec.ofNat 64 n).toInt = u64AsI64 (n % 2 ^ 64) := by
  rw [BitVec.toInt_eq_toNat_cond, BitVec.toNat_ofNat, u64AsI64]
  generalize n % 2 ^ 64 = m
  split <;> split <;> omega

theorem toBeBytesI64_eq (v : Int) : toBeBytesI64 v = toBeBytes (i64AsU64 v) := by
  unfold toBeBytesI64 i64AsU64
  rw [BitVec.toNat_ofInt]
  rfl

theorem fromBeBytesI64_eq (bs : List Byte) (h : fromBeBytes bs < 2 ^ 64) :
    fromBeBytesI64 bs = u64AsI64 (fromBeBytes bs) := by
  rw [fromBeBytesI64, toInt_ofNat64, Nat.mod_eq_of_lt h]

theorem fromBeBytesI64_toBeBytesI64 (v : Int) (h1 : I64_MIN ≤ v) (h2 : v ≤ I64_MAX) :
    fromBeBytesI64 (toBeBytesI64 v) = v := by
  have hlt : fromBeBytes (toBeBytes (i64AsU64 v)) < 2 ^ 64 := fromBeBytes_lt _
  rw [toBeBytesI64_eq, fromBeBytesI64_eq _ hlt, fromBeBytes_toBeBytes,
    Nat.mod_eq_of_lt (i64AsU64_lt v), u64AsI64_i64AsU64 v h1 (Int.lt_of_le_sub_one h2)]

theorem wrappingSubAsU64_eq (a c : Int) (h : c ≤ a) (hl : I64_MIN ≤ c) (hu : a ≤ I64_MAX) :
    wrappingSubAsU64 a c = (a - c).toNat := by
  rw [I64_MIN_eq] at hl; rw [I64_MAX_eq] at hu
  rw [wrappingSubAsU64, i64AsU64, Int.emod_eq_of_lt (by omega) (by omega)]

theorem wrappingAddU64_eq (lb : Int) (offset : Nat) (hl : I64_MIN ≤ lb)
    (hu : lb + offset ≤ I64_MAX) : wrappingAddU64 lb offset = lb + offset := by
  have e : i64AsU64 (lb + u64AsI64 offset) = i64AsU64 (lb + offset) := by
    unfold u64AsI64 i64AsU64
    split
    · rfl
    · rw [← Int.add_sub_assoc, Int.sub_emod_right]
  rw [I64_MIN_eq] at hl; rw [I64_MAX_eq] at hu
  rw [wrappingAddU64, e, u64AsI64_i64AsU64 _ (by omega) (by omega)]

theorem lz64_add_bitWidth {range : Nat} (h : range ≤ U64_MAX) :
    lz64 range + bitWidth range = 64 := by
  have := bitWidth_le_64 h
  unfold lz64; omega

theorem lz64_le (n : Nat) : lz64 n ≤ 64 := by unfold lz64; omega

end Asn1Verif.Per.Glue
