import Asn1Verif.Front.TokenizerLemmas
import Asn1Verif.Front.TokenizerPanic
/-
  C13 — The model is invariant under whitespace and comment layout; each token's reported
  location is the line and column at which it actually starts.
  (+ `tokenize_panics_iff` for C14: the tokenizer's only panic, stated exactly.)

  Model:  `Front/Tokenizer.lean`       mirror of `Tokenizer::parse`, `Token::append` (`tokenize`)
          `Front/TokenizerFlat.lean`   the same function as one pass over the unsplit text (`run`)
                                       and the proof `tokenize = run`
  Spec:   `Front/TokenizerLayout.lean` `LexItem`, `Piece`, `Layout`, `render`, `layoutOk`,
                                       `posAfter`/`locOf`, `expectedTokens`  (definitions only)
  Lemmas: `Front/TokenizerLemmas.lean`, `Front/TokenizerPanic.lean`

  Vocabulary (all decidable, all plain structural functions):
    * `LexItem`   = `text s` (a run of characters that are neither separators, nor control
                    characters, nor spaces; no `--`, no `/*` inside) | `sep c` (one of the 13
                    separator characters of the tokenizer).  A stripped token is a `LexItem`.
    * `Piece`     = space | tab | CR LF | LF | `--` body LF | `/*` body `*/`.
                    line-comment bodies: no LF.  block-comment bodies: `closeScan 1 (body ++ "*/")
                    = some []`, i.e. the X.680 12.6.4 counting of `/*` and `*/` closes the comment
                    exactly at its final `*/` — nested comments allowed, any other characters
                    (also line breaks) allowed.
    * `Layout`    = a gap (list of pieces) before the first item and one after every item.
    * `render items L` = the token-level printer.
    * `layoutOk strict items L`: items and comment bodies are well formed, a text item ending in
      `-` is not directly followed by `--`, and two adjacent text items are separated:
        strict = false: by a non-empty gap                      (the property as stated)
        strict = true : by a gap that contains a piece that ends the pending token
                        (`Piece.flushes`): any piece if `Consts.TOKENIZER_OPEN_FLUSHES`, otherwise
                        anything but a one-line block comment   (what the code needs)
    * `posAfter p s` = position (line, 0-based column) after printing `s` from `p`;
      `locOf` = the 1-based `Location`; `expectedTokens items L` = the items as tokens, each with
      the location at which `render` put its first character.

  What is proved, stage by stage:
    1. whitespace-only layouts, tokens and locations      — full strength  (`whitespace_layouts`)
    2. … plus line comments                               — full strength  (`line_comment_layouts`)
    3. … plus block comments, nested, spanning lines      — under `ValidStrict`
       (`layout_tokens_partial`, `layout_invariance_partial`, `token_locations_partial`).

  Whether `ValidStrict` asks more than `Valid` turns on one statement in one match arm: the arm of
  the tokenizer that opens a block comment pushes the pending token `previous` (fix f6eaa14 in
  /repo) or does not.  The translator reads from the source whether it does
  (`Consts.TOKENIZER_OPEN_FLUSHES`, `true` for the source with the fix) and the model follows, so
  both worlds are covered by theorems that compile either way:
    `TOKENIZER_OPEN_FLUSHES = false`  ⇒ `ValidStrict` excludes a gap between two text items that
                                         consists only of block comments without a line break, and
                                         `¬ LayoutInvariance`, `¬ LayoutLocations`
                                         (`layoutInvariance_false`: `abc/* c */def` is the one
                                         token `abcdef`)
    `TOKENIZER_OPEN_FLUSHES = true`   ⇒ `LayoutInvariance`, `LayoutLocations` (full strength)
  and `current_code_status` says which of the two holds for the source the check ran against.
-/
namespace Asn1Verif.Props.C13
open Asn1Verif Asn1Verif.Front Outcome

/-- the token sequence without locations -/
def strip (o : Outcome (List Token)) : Outcome (List LexItem) := (fun ts => ts.map Token.strip) <$> o

/-- a layout in the sense of the property: any non-empty gap separates two text items -/
def Valid (items : List LexItem) (L : Layout) : Prop := layoutOk false items L = true

/-- … in the sense of the code: a gap between two text items contains a piece that ends the
    pending token (`Piece.flushes`): whitespace, a line break, a line comment, a block comment with
    a line break in it — and, once the arm that opens a block comment pushes `previous`
    (`Consts.TOKENIZER_OPEN_FLUSHES`), any block comment -/
def ValidStrict (items : List LexItem) (L : Layout) : Prop := layoutOk true items L = true

instance (items : List LexItem) (L : Layout) : Decidable (Valid items L) :=
  inferInstanceAs (Decidable (_ = true))
instance (items : List LexItem) (L : Layout) : Decidable (ValidStrict items L) :=
  inferInstanceAs (Decidable (_ = true))

/-! ### the model is the single pass the proofs talk about -/

theorem tokenize_is_single_pass (s : List Char) : tokenize s = run 1 0 .normal {} s :=
  tokenize_eq_run s

/-! ### stage 3 (general): tokens and locations under `ValidStrict` -/

/-- **Tokens and locations.**  For every item list and every layout (whitespace, line breaks,
    line comments, block comments — nested, spanning lines) that satisfies `ValidStrict`, the
    tokenizer returns exactly the items, each with the line and column at which `render` put its
    first character.  No bound on anything. -/
theorem layout_tokens_partial (items : List LexItem) (L : Layout) (h : ValidStrict items L) :
    tokenize (render items L) = ok (expectedTokens items L) := by
  rw [tokenize_eq_run]; exact run_render items L h

/-- `expectedTokens` without locations is the item list -/
theorem expected_strip (items : List LexItem) (L : Layout) :
    (expectedTokens items L).map Token.strip = items := located_strip _ _ _

/-- **Layout invariance (partial).**  Any two `ValidStrict` layouts of the same items give the
    same stripped token sequence, namely the items. -/
theorem layout_invariance_partial (items : List LexItem) (L₁ L₂ : Layout)
    (h₁ : ValidStrict items L₁) (h₂ : ValidStrict items L₂) :
    strip (tokenize (render items L₁)) = strip (tokenize (render items L₂)) ∧
      strip (tokenize (render items L₁)) = ok items := by
  rw [layout_tokens_partial items L₁ h₁, layout_tokens_partial items L₂ h₂]
  simp [strip, expected_strip]

/-- **Locations, index by index.**  Token `i` is item `i`, located at the position reached by
    printing everything before it (`before`), and `before` really is the text in front of item
    `i` in the rendered text. -/
theorem token_locations_partial (items : List LexItem) (L : Layout) (h : ValidStrict items L)
    (i : Nat) (hi : i < items.length) :
    ∃ toks before post, tokenize (render items L) = ok toks ∧ toks.length = items.length ∧
      render items L = before ++ (items[i].chars ++ post) ∧
      toks[i]? = some (items[i].tokenAt (locOf (posAfter (1, 0) before))) := by
  obtain ⟨⟨post, h1⟩, h2⟩ := located_at items (posAfter (1, 0) (Gap.chars L.lead)) L.after i hi
  refine ⟨_, Gap.chars L.lead ++ renderItems (items.take i) L.after, post,
    layout_tokens_partial items L h, located_length _ _ _, ?_, ?_⟩
  · rw [render, h1, List.append_assoc]
  · rw [posAfter_append]; exact h2

/-- what a position is: the line number counts the line feeds printed so far … -/
theorem posAfter_line (p : Nat × Nat) (s : List Char) :
    (posAfter p s).1 = p.1 + s.count '\n' := by
  induction s generalizing p with
  | nil => rfl
  | cons c s ih =>
    rw [posAfter_cons, ih]
    by_cases hc : c = '\n'
    · subst hc; simp [advance, Nat.add_assoc, Nat.add_comm 1]
    · simp [advance, hc]

/-- … and the (0-based) column counts the characters since the last line feed (`locOf` adds one):
    `posAfter` is the usual line/column of an editor that breaks lines at LF only. -/
theorem posAfter_spec (p : Nat × Nat) (t : List Char) (ht : t.contains '\n' = false) :
    posAfter p t = (p.1, p.2 + t.length) ∧
    ∀ s, posAfter p (s ++ '\n' :: t) = (p.1 + s.count '\n' + 1, t.length) := by
  refine ⟨posAfter_noNl p t ht, fun s => ?_⟩
  rw [posAfter_append, posAfter_cons, posAfter_noNl _ t ht]
  simp [advance, posAfter_line]

/-! ### the full statement, and why it is false when `TOKENIZER_OPEN_FLUSHES = false` -/

/-- the property as stated: *every* valid layout (any non-empty gap between two text items) -/
def LayoutInvariance : Prop :=
  ∀ (items : List LexItem) (L₁ L₂ : Layout), Valid items L₁ → Valid items L₂ →
    strip (tokenize (render items L₁)) = strip (tokenize (render items L₂)) ∧
      strip (tokenize (render items L₁)) = ok items

/-- the location half of the property as stated -/
def LayoutLocations : Prop :=
  ∀ (items : List LexItem) (L : Layout), Valid items L →
    tokenize (render items L) = ok (expectedTokens items L)

def witnessItems : List LexItem := [.text "abc".toList, .text "def".toList]
/-- `abc/* c */def` -/
def witnessGlued : Layout := ⟨[], [[.blockComment " c ".toList], []]⟩
/-- `abc def` -/
def witnessSpaced : Layout := ⟨[], [[.space], []]⟩

example : render witnessItems witnessGlued = "abc/* c */def".toList := by decide +kernel
example : Valid witnessItems witnessGlued ∧ Valid witnessItems witnessSpaced := by decide +kernel
example (hf : Consts.TOKENIZER_OPEN_FLUSHES = false) : ¬ ValidStrict witnessItems witnessGlued :=
  of_not_open_flushes hf (by decide +kernel)

/-- the `/*` quirk: a block comment alone does not separate two text items -/
theorem block_comment_glues_text (hf : Consts.TOKENIZER_OPEN_FLUSHES = false) :
    tokenize "abc/* c */def".toList = ok [.text ⟨1, 1⟩ "abcdef".toList] ∧
    tokenize "abc def".toList = ok [.text ⟨1, 1⟩ "abc".toList, .text ⟨1, 5⟩ "def".toList] :=
  of_not_open_flushes hf (by decide +kernel)

/-- the full statement does not hold for a source whose arm that opens a block comment does not
    push `previous` -/
theorem layoutInvariance_false (hf : Consts.TOKENIZER_OPEN_FLUSHES = false) :
    ¬ LayoutInvariance := fun h =>
  absurd (h witnessItems witnessGlued witnessSpaced (by decide +kernel) (by decide +kernel))
    (of_not_open_flushes hf (by decide +kernel))

theorem layoutLocations_false (hf : Consts.TOKENIZER_OPEN_FLUSHES = false) :
    ¬ LayoutLocations := fun h =>
  absurd (h witnessItems witnessGlued (by decide +kernel))
    (of_not_open_flushes hf (by decide +kernel))

/-! ### … and true at full strength once the arm that opens a block comment pushes `previous` -/

theorem valid_strict_of_open_flushes (hf : Consts.TOKENIZER_OPEN_FLUSHES = true)
    (items : List LexItem) (L : Layout) (h : Valid items L) : ValidStrict items L :=
  layoutOk_strict_of (fun _ _ => Gap.any_flushes fun p _ => Piece.flushes_of_open_flushes hf p) h

/-- **The property at full strength** (source with fix f6eaa14): tokens and locations for
    *every* valid layout -/
theorem layout_locations_of_open_flushes (hf : Consts.TOKENIZER_OPEN_FLUSHES = true) :
    LayoutLocations :=
  fun items L h => layout_tokens_partial items L (valid_strict_of_open_flushes hf items L h)

/-- **The property at full strength** (source with fix f6eaa14): any two valid layouts, same
    tokens -/
theorem layout_invariance_of_open_flushes (hf : Consts.TOKENIZER_OPEN_FLUSHES = true) :
    LayoutInvariance :=
  fun items L₁ L₂ h₁ h₂ => layout_invariance_partial items L₁ L₂
    (valid_strict_of_open_flushes hf items L₁ h₁) (valid_strict_of_open_flushes hf items L₂ h₂)

/-- which of the two worlds the source is in that the translator read -/
theorem current_code_status :
    (Consts.TOKENIZER_OPEN_FLUSHES = false ∧ ¬ LayoutInvariance ∧ ¬ LayoutLocations) ∨
    (Consts.TOKENIZER_OPEN_FLUSHES = true ∧ LayoutInvariance ∧ LayoutLocations) := by
  cases hf : Consts.TOKENIZER_OPEN_FLUSHES with
  | false => exact Or.inl ⟨rfl, layoutInvariance_false hf, layoutLocations_false hf⟩
  | true =>
    exact Or.inr ⟨rfl, layout_invariance_of_open_flushes hf, layout_locations_of_open_flushes hf⟩

/-! ### stages 1 and 2: full strength without block comments -/

theorem valid_strict_of_blockFree (items : List LexItem) (L : Layout)
    (hb : L.blockFree = true) (h : Valid items L) : ValidStrict items L := by
  refine layoutOk_strict_of (fun g hg => Gap.any_flushes fun p hp => ?_) h
  have := List.all_eq_true.mp (List.all_eq_true.mp hb g (.tail _ hg)) p hp
  cases p <;> first | rfl | cases this

/-- **Stage 2, full strength**: layouts of whitespace, line breaks and line comments.  Every
    `Valid` layout (any non-empty gap between two text items) yields the items with the
    locations at which they were printed. -/
theorem line_comment_layouts (items : List LexItem) (L : Layout)
    (hb : L.blockFree = true) (h : Valid items L) :
    tokenize (render items L) = ok (expectedTokens items L) :=
  layout_tokens_partial items L (valid_strict_of_blockFree items L hb h)

/-- **Stage 1, full strength**: whitespace-only layouts (space, tab, CR LF, LF). -/
theorem whitespace_layouts (items : List LexItem) (L : Layout)
    (hw : L.whitespaceOnly = true) (h : Valid items L) :
    tokenize (render items L) = ok (expectedTokens items L) :=
  line_comment_layouts items L (Layout.blockFree_of_whitespaceOnly hw) h

/-- invariance for stages 1 and 2 in the form of the property: two layouts, same tokens -/
theorem layout_invariance_no_block_comments (items : List LexItem) (L₁ L₂ : Layout)
    (hb₁ : L₁.blockFree = true) (hb₂ : L₂.blockFree = true)
    (h₁ : Valid items L₁) (h₂ : Valid items L₂) :
    strip (tokenize (render items L₁)) = strip (tokenize (render items L₂)) ∧
      strip (tokenize (render items L₁)) = ok items :=
  layout_invariance_partial items L₁ L₂ (valid_strict_of_blockFree items L₁ hb₁ h₁)
    (valid_strict_of_blockFree items L₂ hb₂ h₂)

/-! ### C14: the tokenizer's only panic -/

/-- The decidable panic condition on the input text (`panicScan`, Front/TokenizerPanic.lean): a
    left-to-right scan that only keeps the `/* … */` nesting depth; it holds iff the scan
    reaches, at depth > 0, a character other than `*` and `/` after which nothing or only one
    line terminator (`\n`, `\r\n`) follows — i.e. the last character of the last line lies
    inside a block comment and is neither `*` nor `/` — or the depth would exceed `i32::MAX`. -/
def PanicCond (s : List Char) : Prop := panicScan 0 .normal s = true

instance (s : List Char) : Decidable (PanicCond s) := inferInstanceAs (Decidable (_ = true))

/-- **The tokenizer panics exactly under `PanicCond`** … -/
theorem tokenize_panics_iff (s : List Char) : tokenize s = panic ↔ PanicCond s :=
  (tokenize_panic_iff s).1

/-- … has no error path … -/
theorem tokenize_never_err (s : List Char) (k : ErrKind) : tokenize s ≠ err k :=
  (tokenize_panic_iff s).2 k

/-- … and otherwise returns tokens. -/
theorem tokenize_total (s : List Char) (h : ¬ PanicCond s) : ∃ ts, tokenize s = ok ts := by
  cases hs : tokenize s with
  | ok ts => exact ⟨ts, rfl⟩
  | err k => exact absurd hs (tokenize_never_err s k)
  | panic => exact absurd ((tokenize_panics_iff s).mp hs) h

/-- a text without `/*` never panics -/
theorem no_block_comment_no_panic (s : List Char) (h : hasOpen s = false) : tokenize s ≠ panic := by
  intro hp
  have := (tokenize_panics_iff s).mp hp
  rw [PanicCond, panicScan_noOpen s .normal h] at this
  cases this

/-- every `ValidStrict` rendered text is outside the panic condition -/
theorem rendered_no_panic (items : List LexItem) (L : Layout) (h : ValidStrict items L) :
    ¬ PanicCond (render items L) := by
  intro hp
  have := (tokenize_panics_iff _).mpr hp
  rw [layout_tokens_partial items L h] at this
  cases this

/-! ### non-vacuity and documented behaviour of the current code -/

/-- a layout using every kind of piece, nested and multi-line comments included -/
def demoItems : List LexItem :=
  [.text "Name".toList, .sep ':', .sep ':', .sep '=', .text "INTEGER".toList, .sep '(',
   .text "-5".toList, .sep '.', .sep '.', .text "a-b".toList, .sep ')']

def demoLayout : Layout :=
  ⟨[.blockComment " head /* nested */ \n more ".toList, .crlf],
   [[.space, .lineComment " c -- still comment".toList, .tab], [], [], [.blockComment "x".toList],
    [.blockComment "a\n/*/*b*/*/".toList], [.lf], [], [], [.space, .space], [],
    [.lineComment "".toList]]⟩

-- string literals are turned into character lists by `String.toList_ofList` first: the kernel
-- would otherwise run the UTF-8 decoder on each of them
example : ValidStrict demoItems demoLayout := by
  unfold demoItems demoLayout
  repeat rw [String.toList_ofList]
  decide +kernel
example : Valid demoItems demoLayout := by
  unfold demoItems demoLayout
  repeat rw [String.toList_ofList]
  decide +kernel
example : render demoItems demoLayout =
    ("/* head /* nested */ \n more */\r\nName -- c -- still comment\n\t::=/*x*/INTEGER/*a\n" ++
      "/*/*b*/*/*/(\n-5..  a-b)--\n").toList := by
  unfold demoItems demoLayout
  rw [String.toList_append]
  repeat rw [String.toList_ofList]
  decide +kernel
example : tokenize (render demoItems demoLayout) = ok
    [.text ⟨3, 1⟩ "Name".toList, .separator ⟨4, 2⟩ ':', .separator ⟨4, 3⟩ ':',
     .separator ⟨4, 4⟩ '=', .text ⟨4, 10⟩ "INTEGER".toList, .separator ⟨5, 12⟩ '(',
     .text ⟨6, 1⟩ "-5".toList, .separator ⟨6, 3⟩ '.', .separator ⟨6, 4⟩ '.',
     .text ⟨6, 7⟩ "a-b".toList, .separator ⟨6, 10⟩ ')'] := by
  unfold demoItems demoLayout
  repeat rw [String.toList_ofList]
  decide +kernel
example : expectedTokens demoItems demoLayout =
    [.text ⟨3, 1⟩ "Name".toList, .separator ⟨4, 2⟩ ':', .separator ⟨4, 3⟩ ':',
     .separator ⟨4, 4⟩ '=', .text ⟨4, 10⟩ "INTEGER".toList, .separator ⟨5, 12⟩ '(',
     .text ⟨6, 1⟩ "-5".toList, .separator ⟨6, 3⟩ '.', .separator ⟨6, 4⟩ '.',
     .text ⟨6, 7⟩ "a-b".toList, .separator ⟨6, 10⟩ ')'] := by
  unfold demoItems demoLayout
  repeat rw [String.toList_ofList]
  decide +kernel
example : Layout.whitespaceOnly ⟨[.lf], [[.space], [.crlf, .tab]]⟩ = true := by decide +kernel
example : Valid [.text "a".toList, .text "b".toList] ⟨[.lf], [[.space], [.crlf, .tab]]⟩ := by decide +kernel

-- the side condition on block comment bodies: examples and non-examples
example : (Piece.blockComment " a /* b */ c ".toList).ok = true := by decide +kernel
example : (Piece.blockComment "".toList).ok = true := by decide +kernel
example : (Piece.blockComment "*".toList).ok = true := by decide +kernel   -- `/***/`
example : (Piece.blockComment " */ ".toList).ok = false := by decide +kernel -- closes too early
example : (Piece.blockComment " /* ".toList).ok = false := by decide +kernel -- never closes
example : (Piece.blockComment "/".toList).ok = false := by decide +kernel -- `/*/*/` reads `/*` `/*` `/`

-- the panic condition: examples
example : PanicCond "/* x".toList ∧ PanicCond "a /* b\r\n".toList ∧ PanicCond "/*\r".toList := by
  decide +kernel
example : ¬ PanicCond "/*".toList ∧ ¬ PanicCond "/* *".toList ∧ ¬ PanicCond "/* x\n\n".toList ∧
    ¬ PanicCond "-- /* x".toList ∧ ¬ PanicCond "/* x */".toList := by decide +kernel
example : tokenize "/* x".toList = panic := by decide +kernel
/-- an unterminated block comment is *not* always reported: these return tokens silently -/
example : tokenize "a /*".toList = ok [.text ⟨1, 1⟩ ['a']] ∧
    tokenize "a /* b *".toList = ok [.text ⟨1, 1⟩ ['a']] ∧
    tokenize "a /* b\n\n".toList = ok [.text ⟨1, 1⟩ ['a']] := by decide +kernel

/-- `--` drops the rest of the line; a second `--` does not end the comment (X.680 12.6.3 would
    continue with `b`).  Outside the property's quantifier (its line comments end at the line
    break), recorded here because it is a layout-dependent reading. -/
example : tokenize "a -- c -- b".toList = ok [.text ⟨1, 1⟩ ['a']] := by decide +kernel
/-- control characters other than TAB/CR/LF neither separate nor belong to a token; VT and FF
    (white space in X.680 12.1.6) glue their neighbours -/
example : tokenize ['a', Char.ofNat 11, 'b'] = ok [.text ⟨1, 1⟩ ['a', 'b']] := by decide +kernel
/-- a lone CR is a column, not a line break -/
example : tokenize "a\rb".toList = ok [.text ⟨1, 1⟩ ['a'], .text ⟨1, 3⟩ ['b']] := by decide +kernel
/-- why a text item ending in `-` may not be followed directly by `--`: inherent to the lexical
    grammar (also under X.680), not a defect -/
example : tokenize "a---c\n".toList = ok [.text ⟨1, 1⟩ ['a']] := by decide +kernel

end Asn1Verif.Props.C13
