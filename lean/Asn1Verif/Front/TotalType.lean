import Asn1Verif.Front.TotalLeaf
import Asn1Verif.Front.TotalLit
/-
  Totality (see TotalBase) for the constructs that nest (`read_role_given_text`, `Choice::try_from`,
  `ComponentTypeList::try_from`, `read_field`).  The three functions are mutually recursive, each passing
  its budget minus one to its callees.  One induction on the budget proves the three posts together:
  every recursive call is made on a proper suffix of the input (a `{`, a field name or `OF` was
  consumed first).
-/
namespace Asn1Verif.Front.Syn
open Except

def TypePosts (fuel : Nat) : Prop :=
  (∀ text (ts : List Token), ts.length < fuel →
      Post₂ (parseRoleGiven (fuel + 1) text ts) (parseRoleGiven fuel text ts)
        (fun (_, r) => r.length ≤ ts.length)) ∧
  (∀ n ext (ts : List Token), ts.length < fuel →
      Post₂ (choiceLoop (fuel + 1) n ext ts) (choiceLoop fuel n ext ts)
        (fun (_, r) => r.length ≤ ts.length)) ∧
  (∀ n (ts : List Token), ts.length < fuel →
      Post₂ (componentLoop (fuel + 1) n ts) (componentLoop fuel n ts)
        (fun (_, r) => r.length ≤ ts.length))

theorem typePosts (fuel : Nat) : TypePosts fuel := by
  induction fuel with
  | zero => exact ⟨fun _ _ h => by omega, fun _ _ _ h => by omega, fun _ _ h => by omega⟩
  | succ fuel ih =>
    obtain ⟨ihR, ihC, ihF⟩ := ih
    refine ⟨fun text ts h => ?_, fun n ext ts h => ?_, fun n ts h => ?_⟩
    · unfold parseRoleGiven
      -- one case per keyword class, in the order of `Kw`
      split
      · exact (parseInteger_post₂ fuel ts (by omega)).bind₂ fun _ _ h1 => .pure h1
      -- `BOOLEAN`, `NULL`; the five restricted character string types
      iterate 2 exact .pure (Nat.le_refl _)
      iterate 5 exact (parseString_post _ ts).same
      · refine (nextTextEqIC_post "STRING" ts).same.bind fun ts1 h1 => Post.same ?_
        exact (maybeReadSize_post ts1).bind₂ fun _ ts2 h2 => .pure (by omega)
      · refine (nextTextEqIC_post "STRING" ts).same.bind fun ts1 h1 => ?_
        refine (maybeReadConstants_post₂ _ constantU64_post fuel ts1 (by omega)).bind₂
          fun _ ts2 h2 => Post.same ?_
        exact (maybeReadSize_post ts2).bind₂ fun _ ts3 h3 => .pure (by omega)
      · exact (parseEnumerated_post₂ fuel ts (by omega)).bind₂ fun _ _ h1 => .pure h1
      · refine (nextSepEq_post '{' ts).same.bind fun ts1 h1 => ?_
        exact (ihC 0 false ts1 (by omega)).bind₂ fun _ ts2 h2 => .pure (by omega)
      -- `SEQUENCE` and `SET`: `OF` and a type, or `{` and the fields
      iterate 2
        · refine (maybeReadSize_post ts).same.bind fun r h1 => ?_
          split
          refine nextIsTextEqIC_cases "OF" _ (fun ts1 h0 => ?_) ?_
          · refine (nextTextOrErr_post ts1).same.bind₂ fun text ts2 h2 => ?_
            exact (ihR text ts2 (by omega)).bind₂ fun _ ts3 h3 => .pure (by omega)
          · refine (nextSepEq_post '{' _).same.bind fun ts2 h2 => ?_
            exact (ihF 0 ts2 (by omega)).bind₂ fun _ ts3 h3 => .pure (by omega)
      · exact (maybeReadWithComponents_post₂ fuel ts (by omega)).bind fun _ h1 => .pure h1
    · unfold choiceLoop
      refine nextIsSep_cases '.' ts (fun ts0 h0 => ?_) ?_
      · refine .ite .error ?_
        refine (dots_post 2 ts0).same.bind fun ts1 h1 => ?_
        refine (nextOrErr_post ts1).same.bind₂ fun t ts2 h2 => ?_
        refine (loopCtrl_post t).same.bind fun _ _ => .ite ?_ (.pure (by omega))
        exact (ihC n true ts2 (by omega)).bind₂ fun _ ts3 h3 => .pure (by omega)
      · refine (nextTextOrErr_post ts).same.bind₂ fun _ ts1 h1 => ?_
        refine (nextWithOptTag_post ts1).same.bind₂ fun tt ts2 h2 => ?_
        obtain ⟨t, tag⟩ := tt
        cases t with
        | sep c => exact .error
        | text text =>
          refine (ihR text ts2 (by omega)).bind₂ fun _ ts3 h3 => ?_
          refine (nextOrErr_post ts3).same.bind₂ fun t ts4 h4 => ?_
          refine (loopCtrl_post t).same.bind fun _ _ => .ite ?_ (.pure (by omega))
          exact (ihC _ ext ts4 (by omega)).bind₂ fun _ ts5 h5 => .pure (by omega)
    · unfold componentLoop
      refine nextIsSep_cases '}' ts (fun ts0 h0 => .pure (by omega)) ?_
      refine nextIsSep_cases '.' ts (fun ts0 h0 => ?_) ?_
      · refine (dots_post 2 ts0).same.bind fun ts1 h1 => ?_
        refine (nextOrErr_post ts1).same.bind₂ fun _ ts2 h2 =>
          .ite ?_ (.ite (.pure (by omega)) .error)
        exact (ihF n ts2 (by omega)).bind₂ fun _ ts3 h3 => .pure (by omega)
      · -- `read_field`
        refine (nextTextOrErr_post ts).same.bind₂ fun _ ts1 h1 => ?_
        refine (nextWithOptTag_post ts1).same.bind₂ fun tt ts2 h2 => ?_
        obtain ⟨t, tag⟩ := tt
        cases t with
        | sep c => exact .error
        | text text =>
          refine (ihR text ts2 (by omega)).bind₂ fun _ ts3 h3 => ?_
          refine (fieldTail_post ts3).same.bind₂ fun _ ts4 h4 => .ite ?_ (.pure (by omega))
          exact (ihF _ ts4 (by omega)).bind₂ fun _ ts5 h5 => .pure (by omega)

theorem parseRoleGiven_post₂ (fuel : Nat) (text : String) (ts : List Token) (h : ts.length < fuel) :
    Post₂ (parseRoleGiven (fuel + 1) text ts) (parseRoleGiven fuel text ts)
      (fun (_, r) => r.length ≤ ts.length) :=
  (typePosts fuel).1 text ts h

/-- `read_role` -/
theorem parseRole_post₂ (fuel : Nat) (ts : List Token) (h : ts.length ≤ fuel) :
    Post₂ (parseRole (fuel + 1) ts) (parseRole fuel ts) (fun (_, r) => r.length < ts.length) :=
  (nextTextOrErr_post ts).same.bind₂ fun text ts1 h1 =>
  (parseRoleGiven_post₂ fuel text ts1 (by omega)).mono fun ⟨_, r⟩ hr => by omega

end Asn1Verif.Front.Syn
