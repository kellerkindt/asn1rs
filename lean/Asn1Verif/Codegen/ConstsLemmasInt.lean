import Asn1Verif.Codegen.ConstsModel
import Asn1Verif.Codegen.IntTypeLemmas
/-
  `Codegen/ConstsModel.lean`, INTEGER part: what the second run of the converter (attribute macro:
  `into_asn` → `integer(a..b)` text → `IntegerRange::parse` → `convert_asn_to_rust`) does to the
  Rust type the first run chose.  Not extensible: nothing, every `Canon` value being a fixed point.
  Extensible: the first run on the range as the macro reads it, which closes an open end
  (`min..b` with `0` / `i64::MIN`, `a..max` with `i64::MAX`).
-/
namespace Asn1Verif.Codegen.ConstsModel
open Asn1Verif Asn1Verif.Consts Asn1Verif.Uper Asn1Verif.Codegen.IntType

/-- the second run takes the arm that produced the value, and its casts are the identity: along
    that arm every condition of `fixedCascade_eq` is arithmetic on the stored range -/
theorem reconvert_of_canon (t : IntTy) (h : Canon t) : reconvert t = t := by
  have hc := consts_facts
  cases t
  case u64 a b e =>
    cases a <;> cases b <;> simp only [Canon] at h
    · subst h; rfl
    · -- `into_asn` prints `b as i64`, which the second run casts back
      rename_i a b
      obtain ⟨rfl, h⟩ := h
      have hb : (b ≤ I64_MAX ∧ asI 64 b = b) ∨ (I64_MAX < b ∧ asI 64 b = b - 2 ^ 64) := by
        simp only [asI]; omega
      have eb : asU 64 (asI 64 b) = b := by
        have := asU64_eq (asI 64 b) (by simp only [InI64]; omega)
        omega
      show fixedCascade (some (asI 64 a)) (some (asI 64 b)) = _
      rw [asI_id 64 a (by omega) (by omega), fixedCascade_eq a _ ⟨by omega, by omega⟩, if_neg (by omega),
        if_pos h.1, if_neg (by omega), if_neg (by omega), if_neg (by omega), asU_id 64 a h.1 (by omega), eb]
  -- the other variants print their two numbers as they are, and none is in the first arm
  all_goals
    rename_i a b e
    obtain ⟨rfl, h⟩ := h
    show fixedCascade (some a) (some b) = _
    rw [fixedCascade_eq a b ⟨by omega, by omega⟩, if_neg (by omega)]
  case u8 =>
    rw [if_pos h.1, if_pos (by omega), asU_id 8 a h.1 (by omega), asU_id 8 b (by omega) (by omega)]
  case u16 =>
    rw [if_pos h.1, if_neg (by omega), if_pos (by omega), asU_id 16 a h.1 (by omega), asU_id 16 b (by omega) (by omega)]
  case u32 =>
    rw [if_pos h.1, if_neg (by omega), if_neg (by omega), if_pos (by omega), asU_id 32 a h.1 (by omega),
      asU_id 32 b (by omega) (by omega)]
  case i8 =>
    rw [if_neg (by omega), if_pos (by omega), asI_id 8 a (by omega) (by omega), asI_id 8 b (by omega) (by omega)]
  case i16 =>
    rw [if_neg (by omega), if_neg (by omega), if_pos (by omega), asI_id 16 a (by omega) (by omega),
      asI_id 16 b (by omega) (by omega)]
  case i32 =>
    rw [if_neg (by omega), if_neg (by omega), if_neg (by omega), if_pos (by omega), asI_id 32 a (by omega) (by omega),
      asI_id 32 b (by omega) (by omega)]
  case i64 =>
    rw [if_neg (by omega), if_neg (by omega), if_neg (by omega), if_neg (by omega)]

theorem reconvert_fixed (lo hi : Option Int) (hl : OptInI64 lo) (hh : OptInI64 hi) :
    reconvert (cascade lo hi false) = cascade lo hi false :=
  reconvert_of_canon _ (canon_fixedCascade lo hi hl hh)

theorem cascade_true_closed (a b : Int) (ha : InI64 a) (hb : InI64 b) :
    cascade (some a) (some b) true =
      if a = 0 ∧ b = I64_MAX then .u64 none none true
      else if 0 ≤ a ∧ 0 ≤ b then .u64 (some a) (some b) true else .i64 a b true :=
  extCascade_eq (some a) (some b) ha hb

theorem reconvert_u64 (x y : Option Int) (e : Bool) (hx : OptInI64 x) (hy : OptInI64 y) :
    reconvert (.u64 x y e) = cascade (macroRange x y).1 (macroRange x y).2 e := by
  have hc := consts_facts
  have h : ∀ z : Option Int, OptInI64 z → z.map (asI 64) = z := by
    intro z hz
    cases z with
    | none => rfl
    | some z => simp only [OptInI64, InI64] at hz; rw [Option.map, asI_id 64 z (by omega) (by omega)]
  show cascade (macroRange (x.map (asI 64)) (y.map (asI 64))).1
    (macroRange (x.map (asI 64)) (y.map (asI 64))).2 e = _
  rw [h x hx, h y hy]

theorem reconvert_ext (lo hi : Option Int) (hl : OptInI64 lo) (hh : OptInI64 hi) :
    reconvert (cascade lo hi true) = cascade (macroRange lo hi).1 (macroRange lo hi).2 true := by
  rw [cascade_true, extCascade_eq lo hi hl hh]
  split
  · -- `0..max`, `min..i64::MAX` are read as a range of the first arm again
    obtain ⟨rfl | rfl, rfl | rfl⟩ := (firstArm_iff_shape lo hi).mp ‹_› <;> rfl
  split
  · exact reconvert_u64 lo hi true hl hh
  next hs =>
    -- `into_asn` of an `I64` range prints both ends
    show cascade (some (lo.getD I64_MIN)) (some (hi.getD I64_MAX)) true = _
    match lo, hi with
    | none, none => exact absurd ⟨Int.le_refl 0, Int.le_refl 0⟩ hs
    | none, some b => rw [macroRange, if_neg (fun h : b > 0 => hs ⟨Int.le_refl 0, Int.le_of_lt h⟩)]; rfl
    | some a, none => rw [macroRange, if_neg (fun h : a = 0 => hs ⟨Int.le_of_eq h.symm, Int.le_refl 0⟩)]; rfl
    | some a, some b => rfl

theorem ext_closed_min (b : Int) (hb : InI64 b) :
    cascade (macroRange none (some b)).1 (macroRange none (some b)).2 true =
      if b = I64_MAX then .u64 none none true
      else if 0 < b then .u64 (some 0) (some b) true
      else .i64 I64_MIN b true := by
  have hc := consts_facts
  show cascade (some (if b > 0 then 0 else I64_MIN)) (some b) true = _
  by_cases h1 : b = I64_MAX
  · subst h1; rfl
  by_cases h2 : 0 < b
  · rw [if_neg h1, if_pos h2, if_pos h2, cascade_true_closed 0 b inI64_zero hb, if_neg (fun h => h1 h.2),
      if_pos ⟨Int.le_refl 0, Int.le_of_lt h2⟩]
  · rw [if_neg h1, if_neg h2, if_neg h2, cascade_true_closed I64_MIN b (by decide) hb, if_neg (fun h => h1 h.2),
      if_neg (by omega)]

theorem ext_closed_max (a : Int) (ha : InI64 a) :
    cascade (macroRange (some a) none).1 (macroRange (some a) none).2 true =
      if a = 0 then .u64 none none true
      else if 0 < a then .u64 (some a) (some I64_MAX) true
      else .i64 a I64_MAX true := by
  have hc := consts_facts
  rw [macroRange]
  by_cases h1 : a = 0
  · rw [if_pos h1, if_pos h1]; rfl
  · rw [if_neg h1, if_neg h1, cascade_true_closed a I64_MAX ha inI64_max, if_neg (fun h => h1 h.1)]
    by_cases h2 : 0 < a
    · rw [if_pos h2, if_pos ⟨by omega, by omega⟩]
    · rw [if_neg h2, if_neg (by omega)]

end Asn1Verif.Codegen.ConstsModel
