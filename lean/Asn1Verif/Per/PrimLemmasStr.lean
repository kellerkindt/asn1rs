import Asn1Verif.Per.PrimLemmasNum
/-
  OCTET STRING (17) and BIT STRING (16) against `X691.sized`.  The two codecs differ only in the items
  (octets with `bytesBits`/`bitsBytes`, bits with `id`), in whether `ub = 0` is a shortcut and in the
  unreachable branch of the writer; `wStr`/`rStr` are the common shape with these as parameters, and any
  loop obeying the recursion equations of the fragment loops writes / reads back `X691.fragU`
  (`wFrag_eq`, `rFrag_rt`).  Octets are instantiated here, bits in `PrimLemmasBitStr.lean`.
  `dite` conditions are decided with `rw [dif_pos/neg]` on the unsimplified condition: `simp only` with
  `rfl`-lemmas would rewrite the proposition but not its `Decidable` instance.
-/
namespace Asn1Verif.Per
open Asn1Verif Outcome

/-- the pair spelled by its components, so that `p.1`, `p.2` in the equations of the fragment loops
    reduce after `rw [wLen_unc', bind_ok]` -/
theorem wLen_unc' (v : Nat) : wLen none none v = ok ((X691.lenU v).1, (X691.lenU v).2) := wLen_unc v

theorem lenU_snd_lt {n : Nat} (h : n < 16384) : (X691.lenU n).2 = none := by
  unfold X691.lenU
  by_cases h1 : n ≤ 127
  · simp [h1]
  · simp [h1, h]

theorem lenU_snd_ge {n : Nat} (h : 16384 ≤ n) :
    (X691.lenU n).2 = some (min (n / 16384) 4 * 16384) := by
  unfold X691.lenU
  have h1 : ¬ n ≤ 127 := by omega
  have h2 : ¬ n < 16384 := by omega
  simp [h1, h2]

theorem lenU_fst_length_pos (n : Nat) : 0 < (X691.lenU n).1.length := by
  unfold X691.lenU
  split
  · simp
  · split <;> simp

theorem frag_bounds {n : Nat} (h : 16384 ≤ n) :
    16384 ≤ min (n / 16384) 4 * 16384 ∧ min (n / 16384) 4 * 16384 ≤ n := by
  omega

theorem fragU_lt {α : Type} (enc : List α → Bits) (xs : List α) (h : xs.length < 16384) :
    X691.fragU enc xs = (X691.lenU xs.length).1 ++ enc xs := by
  rw [X691.fragU]
  simp only [h, dite_true]

theorem fragU_ge {α : Type} (enc : List α → Bits) (xs : List α) (h : 16384 ≤ xs.length) :
    X691.fragU enc xs = (X691.lenU xs.length).1 ++ enc (xs.take (min (xs.length / 16384) 4 * 16384))
      ++ X691.fragU enc (xs.drop (min (xs.length / 16384) 4 * 16384)) := by
  rw [X691.fragU]
  have : ¬ xs.length < 16384 := by omega
  simp only [this, dite_false]

theorem rLen_fragU_lt {α : Type} (enc : List α → Bits) (s : List α) (post : Bits)
    (h : s.length < 16384) :
    rLen none none (X691.fragU enc s ++ post) = ok (s.length, enc s ++ post) := by
  rw [fragU_lt _ _ h, List.append_assoc, rLen_unc, lenU_snd_lt h]; rfl

theorem rLen_fragU_ge {α : Type} (enc : List α → Bits) (s : List α) (post : Bits)
    (h : 16384 ≤ s.length) :
    rLen none none (X691.fragU enc s ++ post) = ok (min (s.length / 16384) 4 * 16384,
      enc (s.take (min (s.length / 16384) 4 * 16384)) ++
        (X691.fragU enc (s.drop (min (s.length / 16384) 4 * 16384)) ++ post)) := by
  rw [fragU_ge _ _ h, List.append_assoc, List.append_assoc, rLen_unc, lenU_snd_ge h]; rfl

theorem fragU_length_lt {α : Type} (enc : List α → Bits) (s : List α) (post : Bits)
    (h : 16384 ≤ s.length) :
    (X691.fragU enc (s.drop (min (s.length / 16384) 4 * 16384)) ++ post).length
      < (X691.fragU enc s ++ post).length := by
  conv => rhs; rw [fragU_ge _ _ h]
  simp only [List.length_append]
  have := lenU_fst_length_pos s.length
  omega

/-- `hn`: the length is a valid `i64`, as those of Rust slices are -/
theorem inRoot_not_outOfRange (lb ub : Option Nat) (n : Nat) (hn : n ≤ I64MAXu)
    (h : X691.inRoot lb ub n = true) : ¬ (n < lb.getD 0 ∨ n > ub.getD I64MAXu) := by
  unfold X691.inRoot at h
  cases ub with
  | none => simp at h ⊢; omega
  | some u => simp at h ⊢; omega

theorem not_inRoot_outOfRange (lb ub : Option Nat) (n : Nat) (h : X691.inRoot lb ub n = false) :
    (n < lb.getD 0 ∨ n > ub.getD I64MAXu) := by
  unfold X691.inRoot at h
  cases ub with
  | none => simp at h; exact Or.inl h
  | some u => simp at h ⊢; omega

/-! ### the two fragment loops, for any kind of item -/

section Str
variable {α : Type} {enc : List α → Bits} {cnt : Nat → Nat} {dec : Bits → List α}
  {wf : List α → Outcome Bits} {rf : List α → Bits → Outcome (List α × Bits)}
  {oob : Outcome Bits} {z : Bool}

/-- `oob`: the branch no call reaches (a fragment longer than what is left) -/
theorem wFrag_eq
    (hstep : ∀ xs, wf xs = wLen none none xs.length >>= fun p =>
      if p.2.getD xs.length ≤ xs.length then
        if _hfs : p.2.getD xs.length < Consts.MIN_FRAGMENT_SIZE then
          ok (p.1 ++ enc (xs.take (p.2.getD xs.length)))
        else wf (xs.drop (p.2.getD xs.length)) >>= fun more =>
          ok (p.1 ++ enc (xs.take (p.2.getD xs.length)) ++ more)
      else oob)
    (xs : List α) : wf xs = ok (X691.fragU enc xs) := by
  rw [hstep, wLen_unc', bind_ok]
  dsimp only
  by_cases h : xs.length < 16384
  · rw [lenU_snd_lt h, Option.getD_none, if_pos (Nat.le_refl _),
      dif_pos (show xs.length < Consts.MIN_FRAGMENT_SIZE from h), List.take_length, fragU_lt enc xs h]
  · have hge := Nat.le_of_not_lt h
    have hb := frag_bounds hge
    rw [lenU_snd_ge hge, Option.getD_some, if_pos hb.2,
      dif_neg (show ¬ _ < Consts.MIN_FRAGMENT_SIZE from Nat.not_lt.2 hb.1), wFrag_eq hstep, bind_ok,
      fragU_ge enc xs hge]
termination_by xs.length
decreasing_by simp only [List.length_drop]; omega

/-- `cnt n`: the number of bits of `n` items -/
theorem rdBits_take (hlen : ∀ xs, (enc xs).length = cnt xs.length) {s : List α} {k : Nat}
    (h : k ≤ s.length) (rest : Bits) :
    rdBits (cnt k) (enc (s.take k) ++ rest) = ok (enc (s.take k), rest) :=
  rdBits_append _ _ (by rw [hlen, List.length_take, Nat.min_eq_left h])

theorem rFrag_rt (hlen : ∀ xs, (enc xs).length = cnt xs.length) (hdec : ∀ xs, dec (enc xs) = xs)
    (hstep : ∀ acc bs, rf acc bs = rLen none none bs >>= fun p => rdBits (cnt p.1) p.2 >>= fun q =>
      if p.1 < Consts.LENGTH_16K then ok (acc ++ dec q.1, q.2)
      else if _hlt : q.2.length < bs.length then rf (acc ++ dec q.1) q.2 else panic)
    (s acc : List α) (post : Bits) : rf acc (X691.fragU enc s ++ post) = ok (acc ++ s, post) := by
  rw [hstep]
  by_cases h : s.length < 16384
  · rw [rLen_fragU_lt enc s post h, bind_ok]
    dsimp only
    rw [rdBits_append _ _ (hlen s), bind_ok, if_pos (show s.length < Consts.LENGTH_16K from h), hdec]
  · have hge := Nat.le_of_not_lt h
    have hb := frag_bounds hge
    rw [rLen_fragU_ge enc s post hge, bind_ok]
    dsimp only
    rw [rdBits_take hlen hb.2, bind_ok,
      if_neg (show ¬ min (s.length / 16384) 4 * 16384 < Consts.LENGTH_16K from Nat.not_lt.2 hb.1),
      dif_pos (fragU_length_lt enc s post hge), hdec, rFrag_rt hlen hdec hstep,
      List.append_assoc, List.take_append_drop]
termination_by s.length
decreasing_by simp only [List.length_drop]; omega

/-! ### the common shape of `wOctets`/`wBitString` and of `rOctets`/`rBitString` -/

/-- the closure `body` of the writers -/
def strBody (enc : List α → Bits) (wf : List α → Outcome Bits) (oob : Outcome Bits)
    (pre : Bits) (src : List α) (hdr : Bits) (fragment : Option Nat) : Outcome Bits :=
  let first := fragment.getD src.length
  if first ≤ src.length then
    match fragment with
    | none => ok (pre ++ hdr ++ enc (src.take first))
    | some _ => do
      let more ← wf (src.drop first)
      ok (pre ++ hdr ++ enc (src.take first) ++ more)
  else oob

/-- `z`: an upper bound 0 writes (and reads) nothing at all -/
def wStr (enc : List α → Bits) (wf : List α → Outcome Bits) (oob : Outcome Bits) (z : Bool)
    (lb ub : Option Nat) (ext : Bool) (src : List α) : Outcome Bits :=
  let oor := decide (src.length < lb.getD 0 ∨ src.length > ub.getD I64MAXu)
  let pre : Bits := if ext then [oor] else []
  if oor then
    if ext then do
      let (hdr, f) ← wLen none none src.length
      strBody enc wf oob pre src hdr f
    else err .sizeNotInRange
  else if z = true ∧ ub.getD I64MAXu = 0 then ok pre
  else if lb.isSome && lb = ub && decide (ub.getD I64MAXu < Consts.LENGTH_64K) then
    strBody enc wf oob pre src [] none
  else do
    let (hdr, f) ← wLen lb ub src.length
    strBody enc wf oob pre src hdr f

/-- the closure `body` of the readers -/
def strRBody (cnt : Nat → Nat) (dec : Bits → List α)
    (rf : List α → Bits → Outcome (List α × Bits)) (n : Nat) (frag : Bool) (r : Bits) :
    Outcome (List α × Bits) := do
  let (data, r') ← rdBits (cnt n) r
  if frag && decide (n ≥ Consts.LENGTH_16K) then rf (dec data) r'
  else ok (dec data, r')

def rStr (cnt : Nat → Nat) (dec : Bits → List α) (rf : List α → Bits → Outcome (List α × Bits))
    (z : Bool) (lb ub : Option Nat) (ext : Bool) : Rd (List α) := fun bs => do
  let (isExt, r0) ← (if ext then rdBit bs else ok (false, bs))
  if isExt then do
    let (n, r1) ← rLen none none r0
    strRBody cnt dec rf n true r1
  else if z = true ∧ ub.getD I64MAXu = 0 then ok ([], r0)
  else if lb.isSome && lb = ub && decide (ub.getD I64MAXu < Consts.LENGTH_64K) then
    strRBody cnt dec rf (ub.getD I64MAXu) false r0
  else do
    let (n, r1) ← rLen lb ub r0
    strRBody cnt dec rf n (lb.isNone && ub.isNone) r1

theorem strBody_none (pre : Bits) (src : List α) (hdr : Bits) :
    strBody enc wf oob pre src hdr none = ok (pre ++ hdr ++ enc src) := by
  simp [strBody]

variable (hwf : ∀ xs, wf xs = ok (X691.fragU enc xs))
include hwf

theorem strBody_unc (pre : Bits) (src : List α) :
    strBody enc wf oob pre src (X691.lenU src.length).1 (X691.lenU src.length).2
      = ok (pre ++ X691.fragU enc src) := by
  unfold strBody
  by_cases h : src.length < 16384
  · rw [lenU_snd_lt h, fragU_lt _ _ h]
    simp
  · have hge := Nat.le_of_not_lt h
    rw [lenU_snd_ge hge, fragU_ge _ _ hge]
    simp only [Option.getD_some, (frag_bounds hge).2, if_true, hwf, bind_ok, List.append_assoc]

theorem wStr_ext_out (lb ub : Option Nat) (src : List α)
    (h : src.length < lb.getD 0 ∨ src.length > ub.getD I64MAXu) :
    wStr enc wf oob z lb ub true src = ok (true :: X691.fragU enc src) := by
  simp only [wStr, h, decide_true, if_true, wLen_unc', bind_ok]
  exact strBody_unc hwf _ _

omit hwf in
theorem wStr_rejects (lb ub : Option Nat) (src : List α)
    (h : src.length < lb.getD 0 ∨ src.length > ub.getD I64MAXu) :
    wStr enc wf oob z lb ub false src = err .sizeNotInRange := by
  simp only [wStr, h, decide_true, if_true, Bool.false_eq_true, if_false]

omit hwf in
theorem wStr_in (lb ub : Option Nat) (ext : Bool) (src : List α)
    (h : ¬ (src.length < lb.getD 0 ∨ src.length > ub.getD I64MAXu)) :
    wStr enc wf oob z lb ub ext src =
      (if z = true ∧ ub.getD I64MAXu = 0 then ok (if ext then [false] else [])
      else if lb.isSome && lb = ub && decide (ub.getD I64MAXu < Consts.LENGTH_64K) then
        strBody enc wf oob (if ext then [false] else []) src [] none
      else do
        let (hdr, f) ← wLen lb ub src.length
        strBody enc wf oob (if ext then [false] else []) src hdr f) := by
  simp only [wStr, h, decide_false, Bool.false_eq_true, if_false]

theorem wStr_pattern (henc : enc [] = []) (lb ub : Option Nat) (ext : Bool) (src : List α)
    (hd : ¬ LenDeviates lb ub) (hn : src.length ≤ I64MAXu)
    (hadm : ext = true ∨ X691.inRoot lb ub src.length = true) :
    wStr enc wf oob z lb ub ext src = ok (X691.sized enc lb ub ext src) := by
  unfold X691.sized
  by_cases hin : X691.inRoot lb ub src.length = true
  · have hoor := inRoot_not_outOfRange lb ub _ hn hin
    rw [wStr_in _ _ _ _ hoor]
    simp only [hin, Bool.not_true, Bool.and_false, Bool.false_eq_true, if_false]
    cases ub with
    | none =>
      cases not_dev_none hd
      have : ¬ I64MAXu = 0 := by decide
      simp only [Option.getD_none, this, and_false, if_false, Option.isSome_none, Bool.false_and,
        Bool.false_eq_true, wLen_unc', bind_ok]
      exact strBody_unc hwf _ _
    | some u =>
      have hu : u < 65536 := not_dev_some hd
      have hlen : lb.getD 0 ≤ src.length ∧ src.length ≤ u := by
        simp only [Option.getD_some] at hoor; omega
      -- with `u = 0` there are no items and every form of the standard is empty
      have h0 : u = 0 → enc src = [] := fun h => by
        have : src = [] := List.eq_nil_of_length_eq_zero (by omega)
        rw [this, henc]
      simp only [Option.getD_some, c_LENGTH_64K, hu, decide_true, Bool.and_true, if_true]
      by_cases hz : z = true ∧ u = 0
      · simp [hz]
      · rw [if_neg hz]
        by_cases hfix : lb = some u
        · simp only [hfix, Option.isSome_some, Bool.true_and, decide_true, if_true, true_and,
            strBody_none, List.append_nil]
          by_cases hu0 : u = 0
          · simp [hu0, h0 hu0]
          · simp [hu0]
        · simp only [hfix, decide_false, Bool.and_false, Bool.false_eq_true, if_false, false_and,
            wLen_con lb u _ hu hlen.1 hlen.2, bind_ok, strBody_none, List.append_assoc]
          by_cases hu0 : u = 0
          · have : src.length - lb.getD 0 = 0 := by omega
            simp [hu0, h0 hu0, X691.constrainedNat, X691.offsetField]
          · simp [hu0]
  · have hin' : X691.inRoot lb ub src.length = false := by simpa using hin
    cases hadm.resolve_right hin
    rw [wStr_ext_out hwf lb ub src (not_inRoot_outOfRange lb ub _ hin')]
    simp [hin']

variable (hlen : ∀ xs, (enc xs).length = cnt xs.length) (hdec : ∀ xs, dec (enc xs) = xs)
include hlen hdec

omit hwf in
theorem strRBody_plain (s : List α) (frag : Bool) (post : Bits)
    (h : frag = false ∨ s.length < 16384) :
    strRBody cnt dec rf s.length frag (enc s ++ post) = ok (s, post) := by
  have : (frag && decide (s.length ≥ Consts.LENGTH_16K)) = false := by
    rcases h with h | h
    · rw [h]; rfl
    · rw [decide_eq_false (show ¬ s.length ≥ Consts.LENGTH_16K from Nat.not_le.2 h), Bool.and_false]
  simp only [strRBody, rdBits_append _ _ (hlen s), bind_ok, this, Bool.false_eq_true, if_false, hdec]

variable (hrf : ∀ s acc post, rf acc (X691.fragU enc s ++ post) = ok (acc ++ s, post))
include hrf

omit hwf in
theorem rStr_unc (s : List α) (post : Bits) :
    ∃ N R, rLen none none (X691.fragU enc s ++ post) = ok (N, R) ∧
      strRBody cnt dec rf N true R = ok (s, post) := by
  by_cases h : s.length < 16384
  · exact ⟨_, _, rLen_fragU_lt enc s post h, strRBody_plain hlen hdec s true post (Or.inr h)⟩
  · have hge := Nat.le_of_not_lt h
    have hb := frag_bounds hge
    refine ⟨_, _, rLen_fragU_ge enc s post hge, ?_⟩
    simp only [strRBody, rdBits_take hlen hb.2, bind_ok, Bool.true_and, ge_iff_le, c_LENGTH_16K,
      decide_eq_true hb.1, if_true, hdec, hrf, List.take_append_drop]

omit hwf hlen hdec hrf in
theorem rStr_in (lb ub : Option Nat) (ext : Bool) (X : Bits) :
    rStr cnt dec rf z lb ub ext ((if ext then [false] else []) ++ X) =
      (if z = true ∧ ub.getD I64MAXu = 0 then ok ([], X)
      else if lb.isSome && lb = ub && decide (ub.getD I64MAXu < Consts.LENGTH_64K) then
        strRBody cnt dec rf (ub.getD I64MAXu) false X
      else do
        let (n, r1) ← rLen lb ub X
        strRBody cnt dec rf n (lb.isNone && ub.isNone) r1) := by
  cases ext <;> rfl

/-- self-consistency for every shape of bounds, so also in the region of finding F-64k -/
theorem rStr_wStr (lb ub : Option Nat) (ext : Bool) (s : List α) (bits post : Bits)
    (hub : ∀ u, ub = some u → u ≤ U64_MAX) (hw : wStr enc wf oob z lb ub ext s = ok bits) :
    rStr cnt dec rf z lb ub ext (bits ++ post) = ok (s, post) := by
  by_cases hoor : s.length < lb.getD 0 ∨ s.length > ub.getD I64MAXu
  · cases ext with
    | false => rw [wStr_rejects lb ub s hoor] at hw; cases hw
    | true =>
      rw [wStr_ext_out hwf lb ub s hoor] at hw
      cases hw
      obtain ⟨N, R, h1, h2⟩ := rStr_unc hlen hdec hrf s post
      simp only [rStr, if_true, List.cons_append, rdBit_cons, bind_ok, h1]
      exact h2
  · rw [wStr_in lb ub ext s hoor] at hw
    by_cases c0 : z = true ∧ ub.getD I64MAXu = 0
    · rw [if_pos c0] at hw
      cases hw
      rw [rStr_in, if_pos c0, List.eq_nil_of_length_eq_zero (by omega : s.length = 0)]
    rw [if_neg c0] at hw
    by_cases cf : (lb.isSome && lb = ub && decide (ub.getD I64MAXu < Consts.LENGTH_64K)) = true
    · -- fixed size: no length determinant, `ub = s.length`
      rw [if_pos cf, strBody_none] at hw
      cases hw
      have hl : ub.getD I64MAXu = s.length := by
        simp only [Bool.and_eq_true, decide_eq_true_eq] at cf
        obtain ⟨⟨h1, h2⟩, _⟩ := cf
        subst h2
        cases lb with
        | none => cases h1
        | some l => simp at hoor ⊢; omega
      rw [List.append_nil, List.append_assoc, rStr_in, if_neg c0, if_pos cf, hl]
      exact strRBody_plain hlen hdec s false post (Or.inl rfl)
    rw [if_neg cf] at hw
    obtain ⟨⟨hdr, f⟩, hwl, hw⟩ := bind_eq_ok.1 hw
    dsimp only at hw
    rcases (by cases lb <;> cases ub <;> simp : (lb = none ∧ ub = none) ∨
      ((lb.isSome || ub.isSome) = true ∧ (lb.isNone && ub.isNone) = false)) with ⟨rfl, rfl⟩ | ⟨hs, hfr⟩
    · cases (wLen_unc' s.length).symm.trans hwl
      rw [strBody_unc hwf] at hw
      cases hw
      obtain ⟨N, R, h1, h2⟩ := rStr_unc hlen hdec hrf s post
      rw [List.append_assoc, rStr_in, if_neg c0, if_neg cf, h1]
      exact h2
    · -- a bounded length determinant: no fragments, read back by `rLen_wLen`
      cases wLen_bounded_none lb ub _ hdr f hs hwl
      rw [strBody_none] at hw
      cases hw
      have hupper := optGetD_le hub
      rw [List.append_assoc, List.append_assoc, rStr_in, if_neg c0, if_neg cf,
        rLen_wLen lb ub s.length hdr _ hwl (by omega) (by omega) (by omega), hfr]
      exact strRBody_plain hlen hdec s false post (Or.inl rfl)

end Str

/-! ### OCTET STRING -/

theorem wOctFrag_step (rest : List (BitVec 8)) :
    wOctFrag rest = wLen none none rest.length >>= fun p =>
      if p.2.getD rest.length ≤ rest.length then
        if _hfs : p.2.getD rest.length < Consts.MIN_FRAGMENT_SIZE then
          ok (p.1 ++ bytesBits (rest.take (p.2.getD rest.length)))
        else wOctFrag (rest.drop (p.2.getD rest.length)) >>= fun more =>
          ok (p.1 ++ bytesBits (rest.take (p.2.getD rest.length)) ++ more)
      else panic := by
  rw [wOctFrag]
  cases wLen none none rest.length with
  | ok p =>
    refine ite_congr rfl (fun _ => dite_congr rfl (fun _ => rfl) fun _ => ?_) fun _ => rfl
    cases wOctFrag (rest.drop (p.2.getD rest.length)) <;> rfl
  | err k => rfl
  | panic => rfl

theorem wOctFrag_eq (rest : List (BitVec 8)) : wOctFrag rest = ok (X691.fragU bytesBits rest) :=
  wFrag_eq wOctFrag_step rest

theorem rOctFrag_step (acc : List (BitVec 8)) (bs : Bits) :
    rOctFrag acc bs = rLen none none bs >>= fun p => rdBits (8 * p.1) p.2 >>= fun q =>
      if p.1 < Consts.LENGTH_16K then ok (acc ++ bitsBytes q.1, q.2)
      else if _hlt : q.2.length < bs.length then rOctFrag (acc ++ bitsBytes q.1) q.2 else panic := by
  rw [rOctFrag]
  cases rLen none none bs with
  | ok p =>
    obtain ⟨n, r⟩ := p
    dsimp only [bind_ok]
    rcases rdBits (8 * n) r with ⟨d, r'⟩ | k | _ <;> rfl
  | err k => rfl
  | panic => rfl

theorem rOctFrag_rt (s acc : List (BitVec 8)) (post : Bits) :
    rOctFrag acc (X691.fragU bytesBits s ++ post) = ok (acc ++ s, post) :=
  rFrag_rt (cnt := (8 * ·)) bytesBits_length bitsBytes_bytesBits rOctFrag_step s acc post

theorem wOctets_str (lb ub : Option Nat) (ext : Bool) (src : List (BitVec 8)) :
    wOctets lb ub ext src = wStr bytesBits wOctFrag panic true lb ub ext src := by
  simp only [wStr, true_and]
  rfl

theorem rOctets_str (lb ub : Option Nat) (ext : Bool) (bs : Bits) :
    rOctets lb ub ext bs = rStr (8 * ·) bitsBytes rOctFrag true lb ub ext bs := by
  simp only [rStr, true_and]
  rfl

theorem wOctets_ext_out (lb ub : Option Nat) (src : List (BitVec 8))
    (h : src.length < lb.getD 0 ∨ src.length > ub.getD I64MAXu) :
    wOctets lb ub true src = ok (true :: X691.fragU bytesBits src) := by
  rw [wOctets_str, wStr_ext_out wOctFrag_eq lb ub src h]

theorem wOctets_rejects (lb ub : Option Nat) (src : List (BitVec 8))
    (h : src.length < lb.getD 0 ∨ src.length > ub.getD I64MAXu) :
    wOctets lb ub false src = err .sizeNotInRange := by
  rw [wOctets_str, wStr_rejects lb ub src h]

theorem wOctets_pattern (lb ub : Option Nat) (ext : Bool) (src : List (BitVec 8))
    (hd : ¬ LenDeviates lb ub) (hn : src.length ≤ I64MAXu)
    (hadm : ext = true ∨ X691.inRoot lb ub src.length = true) :
    wOctets lb ub ext src = ok (X691.octets lb ub ext src) := by
  rw [wOctets_str]
  exact wStr_pattern wOctFrag_eq rfl lb ub ext src hd hn hadm

theorem rOctets_wOctets (lb ub : Option Nat) (ext : Bool) (s : List (BitVec 8)) (bits post : Bits)
    (hub : ∀ u, ub = some u → u ≤ U64_MAX)
    (hw : wOctets lb ub ext s = ok bits) : rOctets lb ub ext (bits ++ post) = ok (s, post) := by
  rw [wOctets_str] at hw
  rw [rOctets_str]
  exact rStr_wStr wOctFrag_eq bytesBits_length bitsBytes_bytesBits rOctFrag_rt lb ub ext s bits post
    hub hw

end Asn1Verif.Per
