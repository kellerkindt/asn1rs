import Asn1Verif.Per.GlueWrite
import Asn1Verif.Per.GlueRead
import Asn1Verif.Per.PrimLemmasStr
/- OCTET STRING at byte level, with the 16K fragmentation loops of `write_octetstring` /
   `read_octetstring` and the chunked read `read_bytes_chunked`. -/
namespace Asn1Verif.Per.Glue
open Asn1Verif Asn1Verif.Bits Asn1Verif.Per Outcome

theorem slice_ok (src : List Byte) (a c : Nat) (h1 : a ≤ c) (h2 : c ≤ src.length) :
    Concrete.slice src a c = ok ((src.drop a).take (c - a)) := by
  unfold Concrete.slice
  rw [if_pos ⟨h1, h2⟩]

theorem slice_panic (src : List Byte) (a c : Nat) (h : ¬ (a ≤ c ∧ c ≤ src.length)) :
    Concrete.slice src a c = panic := by
  unfold Concrete.slice
  rw [if_neg h]

/-- the `written_bytes` loop of `write_octetstring` -/
theorem wOctLoop_refines (src : List Byte) : ∀ (n written : Nat) (b : BitBuffer),
    src.length - written = n → written ≤ src.length → b.Inv →
    WRel b (Per.wOctFrag (src.drop written)) (Concrete.wOctLoop src written b) := by
  intro n
  induction n using Nat.strongRecOn with
  | _ n ih =>
    intro written b hn hle h
    rw [Per.wOctFrag, Concrete.wOctLoop, List.length_drop, uSub, if_pos hle]
    simp only []
    rcases (wLen_refines none none (src.length - written) b h (by decide)).cases with
      ⟨lbits, f, b1, hm, hc, p1⟩ | ⟨k, hm, hc⟩ | ⟨hm, hc⟩ <;> rw [hm, hc]
    · simp only []
      generalize f.getD (src.length - written) = fs
      by_cases hfit : fs ≤ src.length - written
      · have hle2 : written + fs ≤ src.length := Nat.add_le_of_le_sub' hle hfit
        rw [if_pos hfit, slice_ok src written (written + fs) (Nat.le_add_right _ _) hle2,
          Nat.add_sub_cancel_left]
        obtain ⟨b2, e2, p2⟩ := writeBits_ok b1 ((src.drop written).take fs) p1.1
        simp only [e2]
        by_cases hmin : fs < Consts.MIN_FRAGMENT_SIZE
        · rw [dif_pos hmin, dif_pos hmin]
          exact ⟨b2, rfl, p1.trans p2⟩
        · have hpos : 0 < Consts.MIN_FRAGMENT_SIZE := by decide
          rw [dif_neg hmin, dif_neg hmin, dif_pos hle2, List.drop_drop]
          rcases (ih (src.length - (written + fs)) (by omega) (written + fs) b2 rfl hle2
            p2.1).cases with ⟨more, b3, hm, hc, p3⟩ | ⟨k, hm, hc⟩ | ⟨hm, hc⟩ <;> rw [hm, hc]
          · exact ⟨b3, rfl, (p1.trans p2).trans p3⟩
          · rfl
          · rfl
      · -- a fragment longer than what is left: `Per.wOctFrag` has a `panic` there, the code slices
        -- out of bounds; the branch is not shown dead, the two are matched
        rw [if_neg hfit, slice_panic src written (written + fs) (by omega)]
        rfl
    · rfl
    · rfl

theorem wOctBody_refines (src : List Byte) (pre hdr : Bits) (fragment : Option Nat)
    (b b1 : BitBuffer) (p1 : Appends b (pre ++ hdr) b1) :
    WRel b (strBody bytesBits Per.wOctFrag panic pre src hdr fragment)
      (Concrete.wOctBody src fragment b1) := by
  unfold strBody Concrete.wOctBody
  by_cases hf : fragment.getD src.length ≤ src.length
  · rw [if_pos hf, slice_ok src 0 _ (Nat.zero_le _) hf, List.drop_zero, Nat.sub_zero, Outcome.bind_ok]
    refine bind_of_ok (writeBits_ok b1 _ p1.1) fun b2 p2 => ?_
    cases fragment with
    | none => exact ⟨b2, rfl, p1.trans p2⟩
    | some w => exact WRel.pre (p1.trans p2) (wOctLoop_refines src _ w b2 rfl hf p2.1)
  · rw [if_neg hf, slice_panic src 0 _ (by omega)]
    rfl

theorem wOctets_refines (lb ub : Option Nat) (ext : Bool) (src : List Byte) (b : BitBuffer)
    (h : b.Inv) (hub : ub.getD I64MAXu ≤ U64_MAX) :
    WRel b (Per.wOctets lb ub ext src) (Concrete.wOctets lb ub ext src b) := by
  rw [Per.wOctets_str]
  simp only [wStr, true_and]
  unfold Concrete.wOctets
  refine bind_of_ok (writeExt_ok b ext _ h) fun b1 p1 => ?_
  refine rel_ite (fun _ => rel_ite (fun _ => ?_) fun _ => rfl) fun _ =>
    rel_ite (fun _ => ⟨b1, rfl, p1⟩) fun _ => rel_ite (fun _ => ?_) fun _ => ?_
  · exact WRelV.bind p1 (wLen_refines none none _ b1 p1.1 (by decide)) fun hdr f b2 p2 =>
      wOctBody_refines src _ hdr f b b2 p2
  · exact wOctBody_refines src _ [] none b b1 ((List.append_nil _).symm ▸ p1)
  · exact WRelV.bind p1 (wLen_refines lb ub _ b1 p1.1 hub) fun hdr f b2 p2 =>
      wOctBody_refines src _ hdr f b b2 p2

theorem readBytesChunked_spec (chunk : Nat) (hc : 0 < chunk) : ∀ (n : Nat) (v : BitsView)
    (buffer : List Byte), v.Inv →
    ((remaining v).length < 8 * n ∧
      Concrete.readBytesChunked chunk v buffer n = err .endOfStream) ∨
    (8 * n ≤ (remaining v).length ∧ ∃ v',
      Concrete.readBytesChunked chunk v buffer n =
        ok (buffer ++ bitsBytes ((remaining v).take (8 * n)), v') ∧
      Consumed v ((remaining v).drop (8 * n)) v') := by
  intro n
  induction n using Nat.strongRecOn with
  | _ n ih =>
    intro v buffer h
    rw [Concrete.readBytesChunked]
    by_cases hn : n = 0
    · subst hn
      exact .inr ⟨Nat.zero_le _, v, by simp [bitsBytes_nil], .refl h⟩
    · rw [dif_neg (fun h => h.elim hn (Nat.ne_of_gt hc))]
      simp only [List.drop_left, List.take_left, readBits_eq]
      generalize hk : min n chunk = k
      have hkn : k ≤ n := hk ▸ Nat.min_le_left _ _
      have hk0 : 0 < k := hk ▸ Nat.lt_min.2 ⟨Nat.pos_of_ne_zero hn, hc⟩
      have hsplit : 8 * k + 8 * (n - k) = 8 * n := by rw [← Nat.mul_add, Nat.add_sub_cancel' hkn]
      rcases readZero_cases v h (n := k) (Nat.zero_add (8 * k)) with
        ⟨hlt, e1⟩ | ⟨hge, dst, v1, e1, hd, hb, p1⟩ <;> simp only [e1]
      · exact .inl ⟨Nat.lt_of_lt_of_le hlt (Nat.mul_le_mul_left 8 hkn), trivial⟩
      · rw [List.replicate_zero, List.nil_append] at hb
        rcases ih (n - k) (Nat.sub_lt (Nat.pos_of_ne_zero hn) hk0) v1 (buffer ++ dst) p1.inv with
          ⟨hlt2, e2⟩ | ⟨hge2, v2, e2, p2⟩
        · rw [p1.remaining_eq, List.length_drop] at hlt2
          exact .inl ⟨by omega, e2⟩
        · rw [p1.remaining_eq, List.length_drop] at hge2
          refine .inr ⟨by omega, v2, ?_, ?_⟩
          · rw [e2, p1.remaining_eq, ← hsplit, List.take_add, ← hb, bitsBytes_bytesBits_append,
              List.append_assoc]
          · have := p1.trans p2
            rwa [p1.remaining_eq, List.drop_drop, hsplit] at this

theorem rOctLoop_refines : ∀ (n : Nat) (v : BitsView) (acc : List Byte),
    v.len - v.pos = n → v.Inv →
    RRel v (Per.rOctFrag acc (remaining v)) (Concrete.rOctLoop acc v) := by
  intro n
  induction n using Nat.strongRecOn with
  | _ n ih =>
    intro v acc hn h
    rw [Per.rOctFrag, Concrete.rOctLoop]
    rcases (rLen_refines none none v h (by decide)).cases with
      ⟨extLen, v1, hm, hc, p1⟩ | ⟨k, hm, hc⟩ | ⟨hm, hc⟩ <;> rw [hm, hc]
    · simp only [List.drop_left, List.take_left, readBits_eq, rdBits]
      rcases readZero_cases v1 p1.inv (n := extLen) (Nat.zero_add (8 * extLen)) with
        ⟨hlt, e2⟩ | ⟨hge, dst, v2, e2, hd, hb, p2⟩ <;> simp only [e2]
      · rw [if_pos hlt]; rfl
      · rw [List.replicate_zero, List.nil_append] at hb
        have e := p2.remaining_eq
        rw [← e] at p2
        rw [if_neg (Nat.not_lt.2 hge), ← hb, ← e]
        simp only [bitsBytes_bytesBits]
        refine rel_ite (fun _ => ⟨v2, rfl, p1.trans p2⟩) fun _ => ?_
        -- the `panic` behind the progress guard is not shown dead here (`RT.rOctFrag_good` does that):
        -- `length_remaining` turns the guard of `Per.rOctFrag` into that of the code, branches are matched
        rw [length_remaining, length_remaining]
        by_cases hprog : v2.len - v2.pos < v.len - v.pos
        · rw [dif_pos hprog, dif_pos hprog]
          exact (ih (v2.len - v2.pos) (hn ▸ hprog) v2 (acc ++ dst) rfl p2.inv).of_view
            (p1.trans p2)
        · rw [dif_neg hprog, dif_neg hprog]
          rfl
    · rfl
    · rfl

theorem rOctBody_refines (byteLen : Nat) (frag : Bool) (v : BitsView) (h : v.Inv) :
    RRel v (strRBody (8 * ·) bitsBytes Per.rOctFrag byteLen frag (remaining v))
      (Concrete.rOctBody byteLen frag v) := by
  unfold strRBody Concrete.rOctBody
  rcases readBytesChunked_spec Concrete.READ_CHUNK (by decide) byteLen v [] h with
    ⟨hlt, e1⟩ | ⟨hge, v1, e1, p1⟩ <;> rw [e1, rdBits]
  · rw [if_pos hlt]; rfl
  · have e := p1.remaining_eq
    rw [← e] at p1
    rw [if_neg (Nat.not_lt.2 hge), ← e]
    exact rel_ite (fun _ => (rOctLoop_refines _ v1 _ rfl p1.inv).of_view p1)
      fun _ => ⟨v1, rfl, p1⟩

theorem rOctets_refines (lb ub : Option Nat) (ext : Bool) (v : BitsView) (h : v.Inv)
    (hub : ub.getD I64MAXu ≤ U64_MAX) :
    RRel v (Per.rOctets lb ub ext (remaining v)) (Concrete.rOctets lb ub ext v) := by
  rw [Per.rOctets_str]
  simp only [rStr, true_and]
  unfold Concrete.rOctets
  exact RRel.bind (readExt_refines ext v h) fun isExt v1 h1 => rel_ite
    (fun _ => RRel.bind (rLen_refines none none v1 h1 (by decide)) fun n v2 h2 =>
      rOctBody_refines n true v2 h2)
    fun _ => rel_ite (fun _ => RRel.ok _ h1) fun _ => rel_ite
      (fun _ => rOctBody_refines _ false v1 h1)
      fun _ => RRel.bind (rLen_refines lb ub v1 h1 hub) fun n v2 h2 => rOctBody_refines n _ v2 h2

end Asn1Verif.Per.Glue
