import Asn1Verif.Uper.RoundTripSeq
/-
  C01 — the SEQUENCE node and the mutual structural induction over `Ty` / `Fields`: what the
  writer accepted, the reader reads back, consuming exactly the written bits, whatever stands
  before and behind them.
-/
namespace Asn1Verif.Uper
open Asn1Verif Outcome Per

theorem seq_node (so fc so' fc' : Nat) (ea : Option Nat) (wfs : Fields) (wvs : Vals) (rfs : Fields)
    (rvs : Vals) (bits : Bits) (hlen : wfs.length ≤ U64_MAX)
    (hrc : rootCountOf ea rfs = rootCountOf ea wfs)
    (hopt : rfs.optCount (rootCountOf ea wfs) = wfs.optCount (rootCountOf ea wfs))
    (hcont : ∀ fin inp P B post, SeqLayout inp fin P B post →
      Cont wfs wvs rfs rvs (rootCountOf ea wfs) fin inp P B)
    (h : enc (.seq so fc ea wfs) (.seq wvs) = ok bits) :
    ReadsBack (dec (.seq so' fc' ea rfs)) bits (.seq rvs) := by
  intro inp pos post hat
  unfold enc at h
  obtain ⟨fin, henc, h⟩ := bind_eq_ok.1 h
  change encFields wfs wvs (rootCountOf ea wfs) {} = ok fin at henc
  obtain ⟨rp, rb, ap, ab, F⟩ := encFields_frameC wfs wvs _ {} fin henc
  -- behind the extension bit: the presence bitmap, then the components
  have tail : ∀ p0, At inp p0 (fin.rootPres ++ (fin.rootBody ++ extPart fin)) post →
      (if inp.length - p0 < rfs.optCount (rootCountOf ea rfs) then err ErrKind.endOfStream
        else decFields rfs (rootCountOf ea rfs) 0 0
            { presPos := p0, extBit := fin.st.isAll, nLocal := rfs.length - rootCountOf ea rfs }
            inp (p0 + rfs.optCount (rootCountOf ea rfs)) >>= fun x => ok (Val.seq x.1, x.2))
        = ok (Val.seq rvs, p0 + (fin.rootPres ++ (fin.rootBody ++ extPart fin)).length) := by
    intro p0 hat0
    have hopt' : rfs.optCount (rootCountOf ea wfs) = fin.rootPres.length := by
      rw [hopt, F.rootPres, ← F.optCount]; simp
    have hb := hat0.bound
    simp only [List.length_append] at hb ⊢
    rw [hrc, if_neg (by omega), hopt']
    have := hcont fin inp p0 (p0 + fin.rootPres.length) post ⟨⟨_, hat0.left⟩, hat0.right.left⟩ {}
      { presPos := p0, extBit := fin.st.isAll, nLocal := rfs.length - rootCountOf ea wfs } 0
      (p0 + fin.rootPres.length) henc rfl rfl (by unfold StateInv; exact ⟨rfl, rfl, rfl, rfl, rfl⟩)
    rw [List.length_nil] at this
    rw [this]
    simp only [Outcome.bind_ok, endPos, Nat.add_assoc]
  unfold dec
  cases ea with
  | none =>
    have hst : fin.st = .root := F.allRoot (Nat.le_refl _)
    have hext : extPart fin = [] := by simp [extPart, hst, ExtState.isAll]
    injection h with h; subst h
    have := tail pos (by rw [hext, List.append_nil]; exact hat)
    rw [hst, hext, List.append_nil] at this
    simp only [Outcome.bind_ok]
    exact this
  | some k =>
    have hbits : bits = [fin.st.isAll] ++ (fin.rootPres ++ (fin.rootBody ++ extPart fin)) := by
      cases hst : fin.st <;> simp only [hst] at h
      case all =>
        have hcnt : fin.addPres.length = wfs.length - (k + 1) := by
          rw [F.addPres]; exact (F.stRoot rfl).1 hst
        rw [wSmall_ok _ (by omega)] at h
        injection h with h
        rw [← h]
        simp [extPart, hst, ExtState.isAll, hcnt]
      all_goals
        injection h with h
        rw [← h]
        simp [extPart, hst, ExtState.isAll]
    subst hbits
    rw [hat.left.lift rdBit _ (rdBit_cons _ _)]
    simp only [Outcome.bind_ok]
    exact (tail _ hat.right).trans (by simp only [List.length_append, List.length_cons,
      List.length_nil, Nat.add_assoc])

theorem rt_seq (so fc : Nat) (ea : Option Nat) (fields : Fields)
    (ht : (Ty.seq so fc ea fields).rtOk = true) (ih : FieldsRT fields) :
    RT (enc (.seq so fc ea fields)) (dec (.seq so fc ea fields)) (valOk (.seq so fc ea fields)) := by
  intro v bits hv h
  simp only [Ty.rtOk, Bool.and_eq_true, decide_eq_true_eq] at ht
  cases v <;> try (simp [enc] at h; done)
  rename_i vs
  unfold valOk at hv
  exact seq_node so fc so fc ea fields vs fields vs bits ht.1 rfl rfl
    (fun fin inp P B post L => ih vs _ fin inp P B post ht.2 hv ht.1 L) h

mutual
theorem rt : ∀ (t : Ty), t.rtOk = true → RT (enc t) (dec t) (valOk t)
  | .bool, _ => rt_bool
  | .null, _ => rt_null
  | .int min max ext w s, ht => rt_int min max ext w s ht
  | .enum std total ext, ht => rt_enum std total ext ht
  | .str cs min max ext, _ => rt_str cs min max ext
  | .oct min max ext, ht => rt_oct min max ext ht
  | .bits min max ext, ht => rt_bits min max ext ht
  | .seqOf min max ext elem, ht => rt_seqOf min max ext elem (rt elem (by simpa [Ty.rtOk] using ht))
  | .seq so fc ea fields, ht => rt_seq so fc ea fields ht (rtFields fields)
  | .choice std total ext alts, ht => by
    simp only [Ty.rtOk, Bool.and_eq_true, decide_eq_true_eq] at ht
    exact rt_choice std total ext alts ht.1 (fun i => rtAlt alts alts.length i ht.2)
theorem rtAlt : ∀ (alts : Fields) (n i : Nat), alts.rtOk n = true →
    RT (encAlt alts i) (decAlt alts i) (valOkAlt alts i)
  | .nil, _, _, _ => fun v bits _ h _ _ _ _ => by simp [encAlt] at h
  | .cons k t rest, n, 0, ht => rt t (by
      simp only [Fields.rtOk, Bool.and_eq_true] at ht; exact ht.1.1)
  | .cons k t rest, n, i + 1, ht => rtAlt rest (n - 1) i (by
      simp only [Fields.rtOk, Bool.and_eq_true] at ht; exact ht.2)
theorem rtFields : ∀ (fs : Fields), FieldsRT fs
  | .nil => fieldsRT_nil
  | .cons k t rest => fieldsRT_cons k t rest (rt t) (rtFields rest)
end

end Asn1Verif.Uper
