import Asn1Verif.Proto.Package
import Asn1Verif.Codegen.NamesLemmas
/-
  The package / file name mirror (Proto/Package.lean).  Both loops (`model_name`,
  `rust_module_name`) print, besides their separator, the lowered input characters other than `-`
  (`mem_modelName_go`, `mem_moduleA_go`).  Together with what lowering does to a character class
  (`toLower_eq_or`) this carries every statement about alphabets below.
-/
namespace Asn1Verif.Proto.Package
open Asn1Verif.Codegen.Names

/-! ### characters -/

theorem alpha_nameChar (c : Char) (h : c.isAlpha = true) : nameChar c = true := by
  simp [nameChar, Char.isAlphanum, h]

theorem lowDig_toLower {c : Char} (h : c.isAlphanum = true) : lowDig c.toLower = true := by
  rcases toLower_eq_or c with ⟨hu, he⟩ | ⟨_, hl⟩
  · rw [he]; simpa [lowDig, Char.isAlphanum, Char.isAlpha, hu] using h
  · simp [lowDig, hl]

theorem lowDig_not_upper {d : Char} (h : lowDig d = true) : d.isUpper = false := by
  unfold lowDig at h
  char_nat; omega

theorem identStart_cont {c : Char} (h : identStart c = true) : identCont c = true := by
  grind [identStart, identCont, Char.isAlphanum]

theorem identCont_ne_dot {c : Char} (h : identCont c = true) : c ≠ '.' := by
  rintro rfl; exact absurd h (by decide)

theorem identCont_nameChar {c : Char} (h : identCont c = true) : nameChar c = true := by
  grind [identCont, nameChar]

theorem lowDig_lowIdc {d : Char} (h : lowDig d = true) : lowIdc d = true := by
  grind [lowDig, lowIdc]

theorem lowIdc_identCont {d : Char} (h : lowIdc d = true) : identCont d = true := by
  grind [lowIdc, identCont, Char.isAlphanum, Char.isAlpha]

theorem nameChar_pathChar {d : Char} (h : nameChar d = true) : pathChar d = true := by
  unfold pathChar; rw [h]; rfl

theorem pathChar_toLower (c : Char) : pathChar c.toLower = pathChar c :=
  class_toLower (fun d h => nameChar_pathChar (alpha_nameChar d h)) c

theorem lowIdc_pathChar {d : Char} (h : lowIdc d = true) : pathChar d = true :=
  nameChar_pathChar (identCont_nameChar (lowIdc_identCont h))

theorem pathChar_alnum {c : Char} (h : pathChar c = true) (h1 : c ≠ '-') (h2 : c ≠ '_')
    (h3 : c ≠ '.') : c.isAlphanum = true := by
  simpa [pathChar, nameChar, h1, h2, h3] using h

/-! ### `split` and `join` -/

theorem splitOn_ne_nil (sep : Char) (s : List Char) : splitOn sep s ≠ [] := by
  cases s with
  | nil => simp [splitOn]
  | cons c cs =>
    unfold splitOn
    split
    · simp
    · split <;> simp

theorem splitOn_cons_ne {sep c : Char} (h : c ≠ sep) (cs : List Char) :
    ∃ w ws, splitOn sep cs = w :: ws ∧ splitOn sep (c :: cs) = (c :: w) :: ws := by
  cases hs : splitOn sep cs with
  | nil => exact absurd hs (splitOn_ne_nil sep cs)
  | cons w ws => exact ⟨w, ws, rfl, by rw [splitOn, if_neg h, hs]⟩

theorem splitOn_cons_eq (sep : Char) (cs : List Char) :
    splitOn sep (sep :: cs) = [] :: splitOn sep cs := by
  rw [splitOn, if_pos rfl]

theorem flatten_splitOn (sep : Char) (s : List Char) :
    (splitOn sep s).flatten = s.filter (· != sep) := by
  induction s with
  | nil => rfl
  | cons c cs ih =>
    by_cases hc : c = sep
    · rw [hc, splitOn_cons_eq]; simpa using ih
    · obtain ⟨w, ws, h0, h1⟩ := splitOn_cons_ne hc cs
      rw [h0] at ih
      simpa [h1, hc] using ih

theorem exists_mem_splitOn_iff {sep : Char} (s : List Char) (d : Char) :
    (∃ w ∈ splitOn sep s, d ∈ w) ↔ d ∈ s ∧ d ≠ sep := by
  rw [← List.mem_flatten, flatten_splitOn]; simp

theorem splitOn_append {sep : Char} (w : List Char) (hw : ∀ d ∈ w, d ≠ sep) {rest v : List Char}
    {vs : List Name} (h : splitOn sep rest = v :: vs) :
    splitOn sep (w ++ rest) = (w ++ v) :: vs := by
  induction w with
  | nil => exact h
  | cons c cs ih =>
    rw [List.cons_append, splitOn, if_neg (hw c (by simp)), ih (fun d hd => hw d (by simp [hd]))]
    rfl

theorem splitOn_joinWith {sep : Char} (ws : List Name) (hne : ws ≠ [])
    (h : ∀ w ∈ ws, ∀ d ∈ w, d ≠ sep) : splitOn sep (joinWith sep ws) = ws := by
  induction ws with
  | nil => exact absurd rfl hne
  | cons w rest ih =>
    have hw := h w (by simp)
    cases rest with
    | nil => simpa [joinWith] using splitOn_append w hw (rest := []) rfl
    | cons v vs =>
      rw [joinWith, splitOn_append w hw (splitOn_cons_eq sep _), List.append_nil,
        ih (by simp) (fun x hx => h x (List.mem_cons_of_mem _ hx))]

theorem joinWith_cons (sep : Char) (w : Name) (ws : List Name) :
    joinWith sep (w :: ws) = w ++ ws.flatMap (sep :: ·) := by
  induction ws generalizing w with
  | nil => simp [joinWith]
  | cons v vs ih => rw [joinWith, ih, List.flatMap_cons, List.cons_append]

theorem mem_joinWith {sep : Char} (ws : List Name) :
    ∀ d, d ∈ joinWith sep ws → d = sep ∨ ∃ w ∈ ws, d ∈ w := by
  intro d hd
  cases ws with
  | nil => simp [joinWith] at hd
  | cons w rest =>
    simp only [joinWith_cons, List.mem_append, List.mem_flatMap, List.mem_cons] at hd
    rcases hd with hd | ⟨x, hx, rfl | hd⟩
    · exact .inr ⟨w, by simp, hd⟩
    · exact .inl rfl
    · exact .inr ⟨x, List.mem_cons_of_mem _ hx, hd⟩

theorem mem_joinWith_of_mem {sep : Char} (ws : List Name) :
    ∀ w ∈ ws, ∀ d ∈ w, d ∈ joinWith sep ws := by
  intro w hw d hd
  cases ws with
  | nil => simp at hw
  | cons x rest =>
    simp only [joinWith_cons, List.mem_append, List.mem_flatMap, List.mem_cons]
    rcases List.mem_cons.mp hw with rfl | hw
    · exact .inl hd
    · exact .inr ⟨w, hw, .inr hd⟩

theorem joinWith_eq_nil_iff {sep : Char} (ws : List Name) (h : ∀ w ∈ ws, w ≠ []) :
    joinWith sep ws = [] ↔ ws = [] := by
  cases ws with
  | nil => simp [joinWith]
  | cons w rest => simp [joinWith_cons, h w (by simp)]

theorem filter_splitOn_eq_nil_iff {sep : Char} (s : List Char) :
    (splitOn sep s).filter (fun w => !w.isEmpty) = [] ↔ ∀ d ∈ s, d = sep := by
  have : (∀ w ∈ splitOn sep s, w = []) ↔ ∀ d ∈ s, d = sep := by
    rw [← List.flatten_eq_nil_iff, flatten_splitOn]; simp
  simpa [List.filter_eq_nil_iff] using this

/-! ### the grammar: the automaton `fullIdentGo` reads `ident { "." ident }` -/

/-- the state "inside an `ident`" in terms of the pieces still to come -/
def restOk (start : Char → Bool) : List Name → Bool
  | [] => true
  | w :: ws => w.all identCont && ws.all (identWith start)

theorem fullIdentGo_split (start : Char → Bool) (hs : start '.' = false) (s : List Char) :
    fullIdentGo start true s = (splitOn '.' s).all (identWith start) ∧
    fullIdentGo start false s = restOk start (splitOn '.' s) := by
  induction s with
  | nil => simp [fullIdentGo, splitOn, identWith, restOk]
  | cons c cs ih =>
    by_cases hc : c = '.'
    · subst hc
      rw [splitOn_cons_eq]
      constructor
      · simp [fullIdentGo, hs, identWith]
      · simp only [fullIdentGo, if_true, restOk, List.all_nil, Bool.true_and]
        exact ih.1
    · obtain ⟨w, ws, h0, h1⟩ := splitOn_cons_ne hc cs
      rw [h1]
      rw [h0] at ih
      constructor
      · simp only [fullIdentGo, ih.2, restOk, List.all_cons, identWith, Bool.and_assoc]
      · simp only [fullIdentGo, if_neg hc, ih.2, restOk, List.all_cons, Bool.and_assoc]

theorem fullIdent_eq_split (s : List Char) : FullIdent s = (splitOn '.' s).all ProtoIdent :=
  (fullIdentGo_split identStart (by decide) s).1

theorem strictFullIdent_eq_split (s : List Char) :
    StrictFullIdent s = (splitOn '.' s).all StrictIdent :=
  (fullIdentGo_split Char.isAlpha (by decide) s).1

theorem protoIdent_chars {w : Name} (h : ProtoIdent w = true) : ∀ d ∈ w, identCont d = true := by
  cases w with
  | nil => simp [ProtoIdent, identWith] at h
  | cons c cs =>
    simp only [ProtoIdent, identWith, Bool.and_eq_true, List.all_eq_true] at h
    intro d hd
    rcases List.mem_cons.mp hd with rfl | hd
    · exact identStart_cont h.1
    · exact h.2 d hd

theorem strict_proto {w : Name} (h : StrictIdent w = true) : ProtoIdent w = true := by
  cases w with
  | nil => simp [StrictIdent, identWith] at h
  | cons c cs =>
    simp only [StrictIdent, ProtoIdent, identWith, Bool.and_eq_true] at h ⊢
    refine ⟨?_, h.2⟩
    unfold identStart; simp [h.1]

theorem joinWith_idents (ws : List Name) (h : ∀ w ∈ ws, ProtoIdent w = true) :
    (joinWith '.' ws = [] ↔ ws = []) ∧
    (ws ≠ [] → FullIdent (joinWith '.' ws) = true ∧ splitOn '.' (joinWith '.' ws) = ws) := by
  refine ⟨joinWith_eq_nil_iff ws fun w hw h0 => ?_, fun hne => ?_⟩
  · rw [h0] at hw; exact absurd (h _ hw) (by decide)
  · have hs := splitOn_joinWith ws hne
      (fun w hw d hd => identCont_ne_dot (protoIdent_chars (h w hw) d hd))
    rw [fullIdent_eq_split, hs]
    exact ⟨List.all_eq_true.mpr h, rfl⟩

theorem fullIdent_chars {s : List Char} (h : FullIdent s = true) :
    ∀ d ∈ s, d ≠ '.' → identCont d = true := by
  intro d hd hdot
  obtain ⟨w, hw, hdw⟩ := (exists_mem_splitOn_iff s d).mpr ⟨hd, hdot⟩
  rw [fullIdent_eq_split, List.all_eq_true] at h
  exact protoIdent_chars (h w hw) d hdw

/-! ### `model_name` -/

theorem mem_modelName_go {sep d : Char} (hd : d ≠ sep) (n : List Char) : ∀ (e l : Bool),
    d ∈ modelName.go sep e l n ↔ ∃ c ∈ n, c ≠ '-' ∧ d = c.toLower := by
  induction n with
  | nil => simp [modelName.go]
  | cons c cs ih =>
    intro e l
    rw [modelName.go]
    simp only [List.mem_cons, or_and_right, exists_or, exists_eq_left]
    rcases toLower_eq_or c with ⟨hu, he⟩ | ⟨hu, _⟩
    · rw [if_neg (by simp [hu]), he]
      split
      · next hh => simp only [List.mem_cons, hd, false_or, ih, ne_eq, hh, not_true, false_and]
      · next hh => simp only [List.mem_cons, ih, ne_eq, hh, not_false_eq_true, true_and]
    · have : c ≠ '-' := by rintro rfl; exact absurd hu (by decide)
      simp only [if_pos hu, List.mem_append, List.mem_ite_nil_right, List.mem_cons,
        List.not_mem_nil, or_false, hd, and_false, false_or, ih, ne_eq, this, not_false_eq_true,
        true_and]

theorem modelName_go_id (sep : Char) (n : List Char)
    (h : ∀ d ∈ n, d.isUpper = false ∧ d ≠ '-') : ∀ (e l : Bool), modelName.go sep e l n = n := by
  induction n with
  | nil => intro e l; simp [modelName.go]
  | cons c cs ih =>
    intro e l
    have hc := h c (by simp)
    unfold modelName.go
    simp only [hc.1, Bool.false_eq_true, if_false, hc.2]
    rw [ih (fun d hd => h d (by simp [hd]))]

/-- the generator's `model_name(_, '_')` is `RustCodeGenerator::rust_module_name` -/
theorem modelName_underscore_eq_moduleB (n : List Char) : modelName n '_' = moduleB n := by
  unfold modelName moduleB
  generalize true = e
  generalize false = l
  induction n generalizing e l with
  | nil => simp [modelName.go, moduleB.go]
  | cons c cs ih =>
    unfold modelName.go moduleB.go
    simp only [ih]

/-! ### the branch without object identifier -/

theorem lowerIdent_ident {w : Name} (h : LowerIdent w = true) : ProtoIdent w = true := by
  cases w with
  | nil => simp [LowerIdent] at h
  | cons c cs =>
    simp only [LowerIdent, Bool.and_eq_true, List.all_eq_true] at h
    simp only [ProtoIdent, identWith, Bool.and_eq_true, List.all_eq_true]
    refine ⟨?_, fun d hd => lowIdc_identCont (h.2 d hd)⟩
    have := h.1
    grind [identStart, Char.isAlpha]

theorem pkgComponent_lowerIdent {w : Name} (h : PkgComponent w = true) : LowerIdent w = true := by
  cases w with
  | nil => simp [PkgComponent] at h
  | cons c cs =>
    simp only [PkgComponent, Bool.and_eq_true, List.all_eq_true] at h
    simp only [LowerIdent, Bool.and_eq_true, List.all_eq_true]
    exact ⟨h.1, fun d hd => lowDig_lowIdc (h.2 d hd)⟩

theorem pkgComponent_ident {w : Name} (h : PkgComponent w = true) : ProtoIdent w = true :=
  lowerIdent_ident (pkgComponent_lowerIdent h)

theorem mem_replaceChar {a b : Char} {n : Name} {d : Char} :
    d ∈ replaceChar a b n ↔ (d = b ∧ a ∈ n) ∨ (d ∈ n ∧ d ≠ a) := by
  simp only [replaceChar, List.mem_map]
  constructor
  · rintro ⟨c, hc, rfl⟩
    split
    · next h => exact .inl ⟨rfl, h ▸ hc⟩
    · next h => exact .inr ⟨hc, h⟩
  · rintro (⟨rfl, h⟩ | ⟨h, hne⟩)
    · exact ⟨a, h, if_pos rfl⟩
    · exact ⟨d, h, if_neg hne⟩

theorem mem_modelName_dotted {path : Name} {d : Char} (hd : d ≠ '.') :
    d ∈ modelName (replaceChar '_' '.' path) '.' ↔
      ∃ c ∈ path, c ≠ '-' ∧ c ≠ '_' ∧ d = c.toLower := by
  unfold modelName
  rw [mem_modelName_go hd]
  constructor
  · rintro ⟨c, hc, h1, rfl⟩
    rcases mem_replaceChar.mp hc with ⟨rfl, _⟩ | ⟨hc, h2⟩
    · exact absurd (by decide) hd
    · exact ⟨c, hc, h1, h2, rfl⟩
  · rintro ⟨c, hc, h1, h2, rfl⟩
    exact ⟨c, mem_replaceChar.mpr (.inr ⟨hc, h2⟩), h1, rfl⟩

theorem modelName_path_chars (path : Name) (h : ∀ c ∈ path, pathChar c = true) :
    ∀ d ∈ modelName (replaceChar '_' '.' path) '.', d ≠ '.' → lowDig d = true := by
  intro d hd hdot
  obtain ⟨c, hc, h1, h2, rfl⟩ := (mem_modelName_dotted hdot).mp hd
  have h3 : c ≠ '.' := by rintro rfl; exact hdot (by decide)
  exact lowDig_toLower (pathChar_alnum (h c hc) h1 h2 h3)

theorem mem_pathComponents {path w : Name} : w ∈ pathComponents path ↔
    ∃ w0 ∈ splitOn '.' (modelName (replaceChar '_' '.' path) '.'),
      w0 ≠ [] ∧ underscoreIfNonAlpha w0 = w := by
  simp [pathComponents, and_assoc]

theorem mem_underscoreIfNonAlpha (w0 : Name) (d : Char) :
    d ∈ underscoreIfNonAlpha w0 → d = '_' ∨ d ∈ w0 := by
  unfold underscoreIfNonAlpha; split
  · intro h; exact List.mem_cons.mp h
  · intro h; exact .inr h

theorem underscoreIfNonAlpha_mem (w0 : Name) (d : Char) (h : d ∈ w0) :
    d ∈ underscoreIfNonAlpha w0 := by
  unfold underscoreIfNonAlpha; split
  · exact List.mem_cons_of_mem _ h
  · exact h

theorem underscoreIfNonAlpha_shape (w0 : Name) (hne : w0 ≠ []) (h : ∀ d ∈ w0, lowDig d = true) :
    PkgComponent (underscoreIfNonAlpha w0) = true := by
  cases w0 with
  | nil => exact absurd rfl hne
  | cons c cs =>
    have hall : cs.all lowDig = true := List.all_eq_true.mpr fun d hd => h d (by simp [hd])
    have hc := h c (by simp)
    cases ha : c.isAlpha with
    | true =>
      have hl : c.isLower = true := by simpa [Char.isAlpha, lowDig_not_upper hc] using ha
      simp [underscoreIfNonAlpha, startsNonAlpha, ha, PkgComponent, hl, hall]
    | false => simp [underscoreIfNonAlpha, startsNonAlpha, ha, PkgComponent, hc, hall]

theorem pathComponents_shape (path : Name) (h : ∀ c ∈ path, pathChar c = true) :
    ∀ w ∈ pathComponents path, PkgComponent w = true := by
  intro w hw
  obtain ⟨w0, hm, hne, rfl⟩ := mem_pathComponents.mp hw
  refine underscoreIfNonAlpha_shape w0 hne (fun d hd => ?_)
  obtain ⟨h1, h2⟩ := (exists_mem_splitOn_iff _ d).mp ⟨w0, hm, hd⟩
  exact modelName_path_chars path h d h1 h2

theorem pathComponents_eq_nil_iff (path : Name) :
    pathComponents path = [] ↔ ∀ c ∈ path, c = '-' ∨ c = '_' ∨ c = '.' := by
  unfold pathComponents
  rw [List.map_eq_nil_iff, filter_splitOn_eq_nil_iff]
  constructor
  · intro h c hc
    by_cases h1 : c = '-'
    · exact .inl h1
    by_cases h2 : c = '_'
    · exact .inr (.inl h2)
    refine .inr (.inr ((toLower_eq_iff (by decide)).mp ?_))
    exact Classical.byContradiction fun hne => hne (h _ ((mem_modelName_dotted hne).mpr ⟨c, hc, h1, h2, rfl⟩))
  · intro h d hd
    refine Classical.byContradiction fun hne => ?_
    obtain ⟨c, hc, h1, h2, rfl⟩ := (mem_modelName_dotted hne).mp hd
    rcases h c hc with rfl | rfl | rfl
    · exact h1 rfl
    · exact h2 rfl
    · exact hne (by decide)

theorem only_seps_iff_no_alnum {n : Name} (h : ∀ c ∈ n, pathChar c = true) :
    (∀ c ∈ n, c = '-' ∨ c = '_' ∨ c = '.') ↔ hasAlnum n = false := by
  unfold hasAlnum
  rw [List.any_eq_false]
  constructor
  · intro h1 c hc
    rcases h1 c hc with rfl | rfl | rfl <;> decide
  · intro h1 c hc
    have h2 := h c hc
    simpa [pathChar, nameChar, h1 c hc, or_assoc] using h2

/-! ### exactly which arguments give a `fullIdent` -/

/-- `model_to_package(path, None)`, with no hypothesis on `path` -/
theorem package_fullIdent_iff (path : Name) :
    FullIdent (modelToPackage path none) = true ↔
      (∀ c ∈ path, pathChar c = true) ∧ hasAlnum path = true := by
  constructor
  · intro h
    have hchars : ∀ c ∈ path, pathChar c = true := by
      intro c hc
      by_cases h1 : c = '-'
      · rw [h1]; rfl
      by_cases h2 : c = '_'
      · rw [h2]; rfl
      by_cases h3 : c.toLower = '.'
      · rw [(toLower_eq_iff (by decide)).mp h3]; rfl
      -- the lowered character survives into the package text
      obtain ⟨w0, hw0, hcw⟩ := (exists_mem_splitOn_iff _ _).mpr
        ⟨(mem_modelName_dotted h3).mpr ⟨c, hc, h1, h2, rfl⟩, h3⟩
      have h4 : c.toLower ∈ modelToPackage path none :=
        mem_joinWith_of_mem _ _ (mem_pathComponents.mpr ⟨w0, hw0, List.ne_nil_of_mem hcw, rfl⟩) _
          (underscoreIfNonAlpha_mem w0 _ hcw)
      rw [← pathChar_toLower]
      exact nameChar_pathChar (identCont_nameChar (fullIdent_chars h _ h4 h3))
    refine ⟨hchars, ?_⟩
    cases ha : hasAlnum path with
    | true => rfl
    | false =>
      rw [modelToPackage, (pathComponents_eq_nil_iff path).mpr ((only_seps_iff_no_alnum hchars).mpr ha)] at h
      exact absurd h (by decide)
  · rintro ⟨hchars, ha⟩
    have hne : pathComponents path ≠ [] := by
      intro h0
      rw [(only_seps_iff_no_alnum hchars).mp ((pathComponents_eq_nil_iff path).mp h0)] at ha
      exact absurd ha (by simp)
    exact ((joinWith_idents _
      (fun w hw => pkgComponent_ident (pathComponents_shape path hchars w hw))).2 hne).1

/-! ### `rust_module_name` -/

theorem moduleA_go_hasAlnum (pad : Bool) (n : Name) (e u l a : Bool) :
    hasAlnum (moduleA.go pad e u l a n) = hasAlnum n := by
  rw [Bool.eq_iff_iff]
  simpa [hasAlnum] using exists_mem_moduleA_go
    (class_toLower alnum_of_alpha) rfl rfl pad n e u l a

theorem moduleA_chars (pad : Bool) {n : Name} (h : ∀ c ∈ n, nameChar c = true) :
    ∀ d ∈ moduleA pad n, lowIdc d = true := by
  intro d hd
  have h1 := moduleA_go_idc pad n _ _ _ _ h d hd
  have h2 := (moduleA_go_lower pad n _ _ _ _ d hd).1
  simpa [idc, lowIdc, Char.isAlphanum, Char.isAlpha, h2] using h1

theorem pathChar_moduleA_iff (n : Name) :
    (∀ d ∈ moduleA false n, pathChar d = true) ↔ ∀ c ∈ n, pathChar c = true := by
  simpa [moduleA] using not_congr (exists_mem_moduleA_go (p := fun c => !pathChar c)
    (fun c => by rw [pathChar_toLower])
    rfl rfl false n _ _ _ _)

/-! ### what the pipeline hands over: `make_name_nice`, then `rust_module_name(_, false)` -/

theorem nameChar_eq_inc : nameChar = inc := rfl

theorem nameAlphabet_iff (n : Name) : NameAlphabet n = true ↔ ∀ c ∈ n, nameChar c = true :=
  List.all_eq_true

theorem nameAlphabet_nice {n : Name} (h : NameAlphabet n = true) :
    NameAlphabet (makeNameNice n) = true := by
  rw [nameAlphabet_iff] at h ⊢
  exact fun c hc => h c ((makeNameNice_prefix n).subset hc)

/-- the name stored in `Model<Protobuf>` is over `[a-z0-9_]` -/
theorem pipelineName_chars {raw : Name} (h : NameAlphabet raw = true) :
    ∀ d ∈ pipelineName raw, lowIdc d = true :=
  moduleA_chars false ((nameAlphabet_iff _).mp (nameAlphabet_nice h))

theorem pipelineName_hasAlnum (raw : Name) :
    hasAlnum (pipelineName raw) = hasAlnum (makeNameNice raw) :=
  moduleA_go_hasAlnum false _ _ _ _ _

/-- in the pipeline `model_name` finds nothing to do: no capital, no hyphen is left -/
theorem modelName_pipelineName (raw : Name) (sep : Char) :
    modelName (pipelineName raw) sep = pipelineName raw :=
  modelName_go_id sep _ (moduleA_go_lower false _ _ _ _ _) _ _

/-! ### the object identifier branch -/

theorem replaceChar_hyphen (n : Name) : replaceChar '-' '_' n = replHyphen n := rfl

theorem oidCompPackage_nameAndNumber (n : Name) (k : Nat) :
    oidCompPackage (.nameAndNumberForm n k) = oidCompPackage (.nameForm n) := rfl

theorem oidCompSpelling_chars {c : OidComp} (h : OidCompOk c = true) :
    ∀ d ∈ oidCompSpelling c, nameChar d = true := by
  have name_case : ∀ n : Name, OidCompOk (.nameForm n) = true →
      ∀ d ∈ oidCompSpelling (.nameForm n), nameChar d = true := by
    intro n hn d hd
    simp only [OidCompOk, Bool.and_eq_true] at hn
    have hr : d = '_' ∨ d ∈ replaceChar '-' '_' n := by
      simp only [oidCompSpelling] at hd
      split at hd
      · exact List.mem_cons.mp hd
      · exact .inr hd
    rcases hr with rfl | hr
    · rfl
    · rcases mem_replaceChar.mp hr with ⟨rfl, _⟩ | ⟨h1, _⟩
      · rfl
      · exact (nameAlphabet_iff n).mp hn.2 d h1
  cases c with
  | nameForm n => exact name_case n h
  | nameAndNumberForm n k => exact name_case n h
  | numberForm k =>
    intro d hd
    rcases List.mem_cons.mp hd with rfl | hd
    · rfl
    · have := Nat.isDigit_of_mem_toDigits (by decide) (by decide) hd
      simp [nameChar, Char.isAlphanum, this]

theorem oidCompSpelling_head {c : OidComp} (h : OidCompOk c = true) :
    ∃ x r, oidCompSpelling c = x :: r ∧ (x.isAlpha = true ∨ x = '_') := by
  have name_case : ∀ n : Name, OidCompOk (.nameForm n) = true →
      ∃ x r, oidCompSpelling (.nameForm n) = x :: r ∧ (x.isAlpha = true ∨ x = '_') := by
    intro n hn
    cases n with
    | nil => simp [OidCompOk] at hn
    | cons a as =>
      cases ha : a.isAlpha with
      | true =>
        refine ⟨a, replaceChar '-' '_' as, ?_, .inl ha⟩
        simp [oidCompSpelling, startsNonAlpha, ha, replaceChar, (alpha_not_sep ha).1]
      | false =>
        exact ⟨'_', replaceChar '-' '_' (a :: as), by simp [oidCompSpelling, startsNonAlpha, ha],
          .inr rfl⟩
  cases c with
  | nameForm n => exact name_case n h
  | nameAndNumberForm n k => exact name_case n h
  | numberForm k => exact ⟨'_', _, rfl, .inr rfl⟩

theorem oidCompPackage_shape {c : OidComp} (h : OidCompOk c = true) :
    LowerIdent (oidCompPackage c) = true := by
  have hall := moduleA_chars false (oidCompSpelling_chars h)
  obtain ⟨x, r, hs, hx⟩ := oidCompSpelling_head h
  unfold oidCompPackage
  rw [hs] at hall ⊢
  -- the first character that comes out: the lowered letter, or the underscore
  have hhead : ∃ y r', moduleA false (x :: r) = y :: r' ∧ (y.isLower || y == '_') = true := by
    rcases hx with hx | rfl
    · obtain ⟨r', hr'⟩ := moduleA_cons_alpha false r hx
      refine ⟨_, r', hr', ?_⟩
      rcases toLower_eq_or x with ⟨hu, _⟩ | ⟨hu, hl⟩
      · have : x.isLower = true := by simpa [Char.isAlpha, hu] using hx
        simp [hu, this]
      · simp [hu, hl]
    · exact ⟨'_', _, moduleA_go_sep false (.inr rfl) r _ _ _ _, rfl⟩
  obtain ⟨y, r', hy, hy'⟩ := hhead
  rw [hy] at hall ⊢
  simp only [LowerIdent, Bool.and_eq_true, List.all_eq_true]
  exact ⟨hy', fun d hd => hall d (List.mem_cons_of_mem _ hd)⟩

/-! ### the file name -/

theorem proto_suffix (n : Name) : ".proto".toList <:+ modelFileName n :=
  List.suffix_append _ _

theorem slash_mem_modelFileName (n : Name) : '/' ∈ modelFileName n ↔ '/' ∈ n := by
  have hp : '/' ∉ ".proto".toList := by names_eval
  unfold modelFileName modelName
  rw [List.mem_append, mem_modelName_go (by decide)]
  constructor
  · rintro (⟨c, hc, _, h⟩ | h)
    · rwa [(toLower_eq_iff (by decide)).mp h.symm] at hc
    · exact absurd h hp
  · exact fun h => .inl ⟨_, h, by decide, by decide⟩

theorem slash_mem_moduleA (n : Name) : '/' ∈ moduleA false n ↔ '/' ∈ n := by
  simpa [moduleA] using exists_mem_moduleA_go (p := (· == '/'))
    (fun c => by rw [Bool.eq_iff_iff, beq_iff_eq, beq_iff_eq, toLower_eq_iff rfl])
    rfl rfl false n _ _ _ _

/-- the stem is the one of the generated `.rs` file -/
theorem fileNameOfModule_eq (raw : Name) :
    fileNameOfModule raw = emitModule raw ++ ".proto".toList := by
  unfold fileNameOfModule modelFileName
  rw [modelName_underscore_eq_moduleB]; rfl

/-! ### the alphabet is within what the tokenizer delivers -/

theorem nameChar_tokenChar {c : Char} (h : nameChar c = true) : tokenChar c = true := by
  have hr : 0x21 ≤ c.toNat ∧ c.toNat ≤ 0x7e := by
    unfold nameChar at h
    char_nat; omega
  have hsep : ∀ s ∈ separators, nameChar s = false := by decide +kernel
  have hnot : c ∉ separators := by
    intro hc; rw [hsep c hc] at h; exact absurd h (by simp)
  simp [tokenChar, hnot, hr]

end Asn1Verif.Proto.Package
