import Asn1Verif.Per.ReadTotal
import Asn1Verif.Uper.ReadBound
/-
  C04, part 2 — the positional reader `dec` and its helpers, for EVERY type descriptor (consistent or not),
  input and start position, never panic and, when started inside the input (`pos ≤ inp.length`) and
  successful, return a cursor `p` with `pos ≤ p ≤ inp.length` (`inp` is exactly the declared bits): `GoodP`.
  `GoodPN k` adds that the cursor has moved by at least `k` bits.  One induction over `Ty` / `Fields` proves
  `GoodPN t.minBits` for `dec t`, `Ty.minBits` being a conservative lower bound of the bits a successful read
  consumes (the work bound of SEQUENCE OF in `Uper/ReadTotalWork.lean` rests on it).
-/
namespace Asn1Verif.Uper
open Asn1Verif Outcome Per Per.RT

def GoodP {α : Type} (inp : Bits) (pos : Nat) : Outcome (α × Nat) → Prop
  | .ok (_, p) => pos ≤ inp.length → pos ≤ p ∧ p ≤ inp.length
  | .err _ => True
  | .panic => False

section
variable {α β γ : Type} {inp : Bits} {pos : Nat}

@[simp] theorem goodP_err (k : ErrKind) : GoodP inp pos (err k : Outcome (α × Nat)) := trivial

theorem GoodP.ne_panic {o : Outcome (α × Nat)} (h : GoodP inp pos o) : o ≠ .panic := by
  intro e; subst e; exact h

theorem GoodP.bounds {o : Outcome (α × Nat)} (h : GoodP inp pos o) {a : α} {p : Nat}
    (e : o = ok (a, p)) (hp : pos ≤ inp.length) : pos ≤ p ∧ p ≤ inp.length := by
  subst e; exact h hp

end

section
variable {α β : Type} {inp : Bits} {pos k : Nat}

theorem GoodPN.bounds {o : Outcome (α × Nat)} (h : GoodPN k inp pos o) {a : α} {p : Nat}
    (e : o = ok (a, p)) (hp : pos ≤ inp.length) : pos + k ≤ p ∧ p ≤ inp.length := by
  subst e; exact h hp

theorem GoodP.toN {o : Outcome (α × Nat)} (h : GoodP inp pos o) : GoodPN 0 inp pos o := by
  match o, h with
  | .ok (_, p), h => exact fun hp => h hp
  | .err _, _ => trivial

theorem GoodPN.frame {o : Outcome (α × Nat)} {pos' k₁ k' : Nat}
    (h1 : pos ≤ inp.length → pos + k₁ ≤ pos' ∧ pos' ≤ inp.length) (h : GoodPN k inp pos' o)
    (hk : k' ≤ k₁ + k) : GoodPN k' inp pos o := by
  match o, h with
  | .ok (_, p), h =>
    intro hp
    have := h1 hp
    have := h this.2
    omega
  | .err _, _ => trivial

theorem GoodPN.weaken {o : Outcome (α × Nat)} {k' : Nat} (hk : k' ≤ k) (h : GoodPN k inp pos o) :
    GoodPN k' inp pos o :=
  GoodPN.frame (k₁ := 0) (fun hp => ⟨Nat.le_refl _, hp⟩) h (by omega)

theorem GoodPN.shift {o : Outcome (α × Nat)} {pos' : Nat}
    (h1 : pos ≤ inp.length → pos ≤ pos' ∧ pos' ≤ inp.length) (h : GoodPN k inp pos' o) :
    GoodPN k inp pos o :=
  GoodPN.frame (k₁ := 0) h1 h (by omega)

theorem GoodPN.zero {o : Outcome (α × Nat)} (h : GoodPN k inp pos o) : GoodPN 0 inp pos o :=
  h.weaken (Nat.zero_le _)

theorem GoodPN.toP {o : Outcome (α × Nat)} (h : GoodPN k inp pos o) : GoodP inp pos o := by
  match o, h with
  | .ok (_, p), h => exact fun hp => ⟨by have := h hp; omega, (h hp).2⟩
  | .err _, _ => trivial

theorem GoodPN.pure (a : α) : GoodPN 0 inp pos (ok (a, pos)) := fun h => ⟨Nat.le_refl _, h⟩

theorem GoodPN.bind {k₁ k₂ : Nat} {x : Outcome (α × Nat)} {f : α × Nat → Outcome (β × Nat)}
    (hx : GoodPN k₁ inp pos x) (hf : ∀ a p, x = ok (a, p) → GoodPN k₂ inp p (f (a, p))) :
    GoodPN (k₁ + k₂) inp pos (x >>= f) := by
  match x, hx, hf with
  | .ok (a, p), hx, hf => exact GoodPN.frame hx (hf a p rfl) (Nat.le_refl _)
  | .err _, _, _ => trivial

theorem GoodPN.bindL {x : Outcome (α × Nat)} {f : α × Nat → Outcome (β × Nat)}
    (hx : GoodPN k inp pos x) (hf : ∀ a p, x = ok (a, p) → GoodPN 0 inp p (f (a, p))) :
    GoodPN k inp pos (x >>= f) :=
  GoodPN.bind (k₂ := 0) hx hf

theorem GoodPN.bind_plain {γ : Type} {x : Outcome γ} {f : γ → Outcome (β × Nat)}
    (hx : x ≠ .panic) (hf : ∀ c, x = ok c → GoodPN k inp pos (f c)) : GoodPN k inp pos (x >>= f) := by
  match x, hx, hf with
  | .ok c, _, hf => exact hf c rfl
  | .err _, _, _ => trivial
  | .panic, hx, _ => exact absurd rfl hx

theorem GoodPN.ite' {c : Prop} [Decidable c] {k₁ k₂ : Nat} {x y : Outcome (α × Nat)}
    (hx : c → GoodPN k₁ inp pos x) (hy : ¬ c → GoodPN k₂ inp pos y) :
    GoodPN (if c then k₁ else k₂) inp pos (if c then x else y) := by
  split
  · exact hx ‹_›
  · exact hy ‹_›

theorem GoodPN.ite {c : Prop} [Decidable c] {x y : Outcome (α × Nat)}
    (hx : c → GoodPN k inp pos x) (hy : ¬ c → GoodPN k inp pos y) :
    GoodPN k inp pos (if c then x else y) := by
  split
  · exact hx ‹_›
  · exact hy ‹_›

end

/-! ### the combinators -/

theorem liftL1_goodN {α : Type} {r : Per.Rd α} {k : Nat} (hr : ∀ bs, Reads (fun _ => k) bs (r bs))
    (inp : Bits) (pos : Nat) : GoodPN k inp pos (liftL1 r inp pos) := by
  unfold liftL1
  have h := hr (inp.drop pos)
  split
  · rename_i a rest e
    have := h.of_ok e
    rw [List.length_drop] at this
    intro hp
    omega
  · trivial
  · rename_i e; exact absurd e h.good.ne_panic

theorem liftL1_good {α : Type} {r : Per.Rd α} (hr : ∀ bs, Good bs (r bs)) (inp : Bits) (pos : Nat) :
    GoodPN 0 inp pos (liftL1 r inp pos) :=
  liftL1_goodN (fun bs => (hr bs).reads) inp pos

theorem liftL1_le {α : Type} {r : Per.Rd α} {inp : Bits} {pos p : Nat} {a : α}
    (h : liftL1 r inp pos = ok (a, p)) : p ≤ inp.length := by
  unfold liftL1 at h
  split at h
  · simp only [ok.injEq, Prod.mk.injEq] at h; omega
  · simp at h
  · simp at h

theorem subSlice_good {α : Type} {r : RdP α} (lenBytes : Nat) {inp : Bits} {pos : Nat}
    (hr : GoodPN 0 inp pos (r inp pos)) : GoodPN 0 inp pos (subSlice lenBytes r inp pos) := by
  unfold subSlice
  match r inp pos, hr with
  | .ok (a, _), _ =>
    show GoodPN 0 inp pos (ok (a, min (pos + lenBytes * 8) inp.length))
    intro hp
    omega
  | .err _, _ => trivial

theorem readOpen_good {α : Type} {r : RdP α} {inp : Bits}
    (hr : ∀ pos, GoodP inp pos (r inp pos)) (pos : Nat) : GoodP inp pos (readOpen r inp pos) := by
  unfold readOpen
  exact ((liftL1_good (rLen_good _ _) inp pos).bindL fun len p _ => subSlice_good _ (hr p).toN).toP

theorem bitAt_ne_panic (inp : Bits) (p : Nat) : bitAt inp p ≠ .panic := by
  unfold bitAt; split <;> simp

theorem readExtHeader_good (inp : Bits) (pos : Nat) : GoodP inp pos (readExtHeader inp pos) := by
  unfold readExtHeader
  refine ((liftL1_good rSmall_good inp pos).bindL fun n p _ => ?_).toP
  exact GoodPN.ite (fun _ => trivial) fun _ hp => by omega

theorem skipUnknown_good (win nRead idx : Nat) (inp : Bits) (pos : Nat) :
    GoodPN 0 inp pos (skipUnknown win nRead idx inp pos) := by
  have hopen := fun q => readOpen_good (r := fun _ p => ok ((), p)) (inp := inp)
    (fun q => (GoodPN.pure ()).toP) q
  fun_induction skipUnknown win nRead idx inp pos with
  | case1 idx pos _ u p he _ ih =>
    -- present: the open type is skipped, the cursor lands at `p`
    exact GoodPN.shift ((hopen pos).bounds he) ih
  | case2 => trivial
  | case3 idx pos _ he _ => exact absurd he (hopen pos).ne_panic
  | case4 idx pos _ present _ _ ih => exact ih
  | case5 => trivial
  | case6 idx pos _ he => exact absurd he (bitAt_ne_panic _ _)
  | case7 idx pos _ => exact GoodPN.pure ()

theorem decListWith_goodN {r : RdP Val} {inp : Bits} {k : Nat}
    (hr : ∀ pos, GoodPN k inp pos (r inp pos)) :
    ∀ (n pos : Nat), GoodPN (n * k) inp pos (decListWith r n inp pos)
  | 0, pos => by rw [Nat.zero_mul]; exact GoodPN.pure _
  | n + 1, pos => by
    unfold decListWith
    rw [Nat.succ_mul, Nat.add_comm]
    exact (hr pos).bind fun v p _ => (decListWith_goodN hr n p).bindL fun vs p' _ => GoodPN.pure _

theorem extBitP_good (ext : Bool) (b : Bool) (inp : Bits) (pos : Nat) :
    GoodPN (if ext then 1 else 0) inp pos (if ext then liftL1 rdBit inp pos else ok (b, pos)) :=
  GoodPN.ite' (fun _ => liftL1_goodN rdBit_reads inp pos) fun _ => GoodPN.pure _

theorem GoodPN.extBit {β : Type} {inp : Bits} {pos k : Nat} {ext b : Bool}
    {f : Bool × Nat → Outcome (β × Nat)} (ht : ∀ u p0, GoodPN 0 inp p0 (f (u, p0)))
    (hf : GoodPN k inp pos (f (b, pos))) :
    GoodPN (if ext then 1 else k) inp pos
      ((if ext then liftL1 rdBit inp pos else ok (b, pos)) >>= f) := by
  cases ext with
  | true => exact (liftL1_goodN rdBit_reads inp pos).bindL fun u p0 _ => ht u p0
  | false => exact hf

theorem lenP_good (isExt : Bool) (min max : Option Nat) (inp : Bits) (pos : Nat) :
    GoodPN 0 inp pos
      (if isExt then liftL1 (rLen none none) inp pos else liftL1 (rLen min max) inp pos) :=
  GoodPN.ite (fun _ => liftL1_good (rLen_good _ _) inp pos) fun _ => liftL1_good (rLen_good _ _) inp pos

theorem addWin_good (w : Option (Nat × Nat)) (inp : Bits) (pos : Nat) :
    GoodPN 0 inp pos (match w with
      | some w => ok (w, pos)
      | none => readExtHeader inp pos : Outcome ((Nat × Nat) × Nat)) := by
  cases w with
  | some w => exact GoodPN.pure _
  | none => exact (readExtHeader_good inp pos).toN

theorem strTail_good (inp : Bits) (p1 len w : Nat) (v : Val) :
    GoodPN 0 inp p1 (if (inp.length - p1) / w < len then err .endOfStream
      else ok (v, p1 + len * w)) := by
  refine GoodPN.ite (fun _ => trivial) fun hlen hp => ?_
  have h2 := Nat.mul_le_mul_right w (Nat.le_of_not_lt hlen)
  have h3 := Nat.div_mul_le_self (inp.length - p1) w
  omega

/-! ### the mutual induction over `Ty` / `Fields`

  `dec`, `decAlt`, `decFields` are not unfolded by `unfold` (their equation lemmas are dearer to prove than
  everything below): the lemma applied first has a conclusion of the shape of the reader (`_ >>= _`,
  `if _ then _ else _`) and the goal reduces to it. -/

mutual
theorem dec_goodN : ∀ (t : Ty) (inp : Bits) (pos : Nat), GoodPN t.minBits inp pos (dec t inp pos)
  | .bool, inp, pos => (liftL1_goodN rdBit_reads inp pos).bindL fun b p _ => GoodPN.pure _
  | .null, inp, pos => GoodPN.pure _
  | .int min max ext width signed, inp, pos =>
    -- unconstrained: a length determinant; constrained: the bits of the range
    GoodPN.extBit
      (fun u p0 => GoodPN.bindL (GoodPN.ite (fun _ => liftL1_good rUnconstrained_good inp p0)
        fun _ => liftL1_good (rConstrained_good _ _) inp p0) fun v p1 _ => GoodPN.pure _)
      (GoodPN.bindL (GoodPN.ite' (fun _ => liftL1_goodN rUnconstrained_reads inp pos)
        fun _ => liftL1_goodN (rConstrained_reads _ _) inp pos) fun v p1 _ => GoodPN.pure _)
  | .enum std total ext, inp, pos =>
    (liftL1_goodN (rIndex_reads std ext) inp pos).bindL fun i p _ =>
      GoodPN.ite (fun _ => GoodPN.pure _) fun _ => trivial
  | .str cs min max ext, inp, pos => by
    cases cs with
    | utf8 =>
      refine (liftL1_goodN (fun bs => (rOctets_reads none none false bs).weaken
        fun _ => Nat.le_add_left 1 _) inp pos).bindL fun o p _ => ?_
      dsimp only
      cases utf8Decode o with
      | some _ => exact GoodPN.pure _
      | none => trivial
    | _ =>
      exact GoodPN.extBit
        (fun isExt p0 => (lenP_good isExt min max inp p0).bindL fun len p1 _ => strTail_good ..)
        ((lenP_good false min max inp pos).bindL fun len p1 _ => strTail_good ..)
  | .oct min max ext, inp, pos =>
    (liftL1_goodN (fun bs => (rOctets_reads min max ext bs).weaken
      fun _ => Nat.le_add_left _ _) inp pos).bindL fun b p _ => GoodPN.pure _
  | .bits min max ext, inp, pos =>
    (liftL1_goodN (fun bs => (rBitString_reads min max ext bs).weaken
      fun _ => Nat.le_add_left _ _) inp pos).bindL fun b p _ => GoodPN.pure _
  | .seqOf min max ext elem, inp, pos =>
    have helem := fun len p1 => (decListWith_goodN (fun q => (dec_goodN elem inp q).zero) len p1).bindL
      (f := fun (vs, p2) => ok (Val.list vs, p2)) fun vs p2 _ => GoodPN.pure _
    GoodPN.extBit
      (fun isExt p0 => (lenP_good isExt min max inp p0).bindL fun len p1 _ => helem len p1)
      ((liftL1_goodN (rLen_reads min max) inp pos).bindL fun len p1 _ => helem len p1)
  | .seq stdOpt fieldCount extAfter fields, inp, pos => by
    cases extAfter with
    | some k =>
      refine (liftL1_goodN rdBit_reads inp pos).bindL fun extBit p0 _ =>
        GoodPN.ite (fun _ => trivial) fun h => ?_
      refine (GoodPN.shift (fun hp => ?_) (decFields_goodN' fields _ _ _ _ inp _).zero).bindL
        fun vs p1 _ => GoodPN.pure _
      omega
    | none =>
      refine GoodPN.ite (fun _ => trivial) fun h => ?_
      have hf := decFields_goodN' fields fields.length 0 0
        { presPos := pos, extBit := false, nLocal := fields.length - fields.length } inp
        (pos + fields.optCount fields.length)
      rw [if_pos (Nat.le_refl _)] at hf
      refine (GoodPN.shift (fun hp => ?_) hf).bindL fun vs p1 _ => GoodPN.pure _
      dsimp only at h
      omega
  | .choice std total ext alts, inp, pos => by
    refine (liftL1_goodN (rIndex_reads std ext) inp pos).bindL fun i p0 _ =>
      GoodPN.ite (fun _ => ?_) fun _ => ?_
    · refine (liftL1_good (rLen_good _ _) inp p0).bindL fun len p1 _ =>
        GoodPN.ite (fun _ => trivial) fun _ => ?_
      exact (subSlice_good _ (decAlt_goodN alts i inp p1)).bindL fun v p2 _ => GoodPN.pure _
    · exact (decAlt_goodN alts i inp p0).bindL fun v p1 _ => GoodPN.pure _

theorem decAlt_goodN : ∀ (fs : Fields) (i : Nat) (inp : Bits) (pos : Nat),
    GoodPN 0 inp pos (decAlt fs i inp pos)
  | .nil, _, _, _ => trivial
  | .cons _ t _, 0, inp, pos => (dec_goodN t inp pos).zero
  | .cons _ _ rest, i + 1, inp, pos => decAlt_goodN rest i inp pos

/-- `fs.length ≤ rootLeft`: all components are root components, a non-extensible SEQUENCE -/
theorem decFields_goodN' : ∀ (fs : Fields) (rootLeft optIdx addIdx : Nat) (ctx : SeqCtx)
    (inp : Bits) (pos : Nat),
    GoodPN (if fs.length ≤ rootLeft then fs.minBits else 0) inp pos
      (decFields fs rootLeft optIdx addIdx ctx inp pos)
  | .nil, rootLeft, optIdx, addIdx, ctx, inp, pos => by
    refine GoodPN.weaken (k := 0) (Nat.le_of_eq (ite_self _)) ?_
    exact GoodPN.ite (fun _ => (addWin_good _ inp pos).bindL fun ⟨win, nRead⟩ p _ =>
      (skipUnknown_good win nRead addIdx inp p).bindL fun _ p' _ => GoodPN.pure _)
      fun _ => GoodPN.pure _
  | .cons k t rest, rootLeft, optIdx, addIdx, ctx, inp, pos => by
    -- the component itself, when it is read inline
    have hcomp : ∀ (present : Bool) p, GoodPN 0 inp p (if present then do
          let (x, p) ← dec t inp p
          ok (k.wrap x, p)
        else ok (k.absent, p) : Outcome (Val × Nat)) := fun present p =>
      GoodPN.ite (fun _ => (dec_goodN t inp p).zero.bindL fun x p _ => GoodPN.pure _)
        fun _ => GoodPN.pure _
    have hrest := fun rootLeft' optIdx' addIdx' ctx' (v : Val) p =>
      (decFields_goodN' rest rootLeft' optIdx' addIdx' ctx' inp p).bindL
        (f := fun (vs, p') => ok (Vals.cons v vs, p')) fun vs p' _ => GoodPN.pure _
    refine GoodPN.ite (fun hr => ?_) fun hr => ?_
    · -- root component
      have hw : ∀ c, (Fields.cons k t rest).minBits ≤ c + rest.minBits →
          (if (Fields.cons k t rest).length ≤ rootLeft then (Fields.cons k t rest).minBits else 0) ≤
            c + (if rest.length ≤ rootLeft - 1 then rest.minBits else 0) := fun c hc => by
        by_cases h : (Fields.cons k t rest).length ≤ rootLeft
        · rw [if_pos h, if_pos (Nat.le_sub_one_of_lt h)]; exact hc
        · rw [if_neg h]; exact Nat.zero_le _
      cases k with
      | m =>
        exact (((dec_goodN t inp pos).bindL fun x p _ => GoodPN.pure _).bind
          fun v p _ => hrest _ _ _ _ v p).weaken (hw _ (Nat.le_refl _))
      | o | d dv =>
        exact GoodPN.bind_plain (bitAt_ne_panic _ _) fun present _ =>
          ((hcomp present pos).bind fun v p _ => hrest _ _ _ _ v p).weaken
            (hw 0 (Nat.le_of_eq (Nat.zero_add _).symm))
    · have hl : ¬ (Fields.cons k t rest).length ≤ rootLeft := by simp only [Fields.length]; omega
      rw [if_neg hl]
      refine GoodPN.ite (fun _ => ?_) fun _ => ?_
      · -- extension addition, extension part present
        refine (addWin_good _ inp pos).bindL fun ⟨win, nRead⟩ p _ =>
          GoodPN.bind_plain ?_ fun present _ => GoodPN.bindL ?_ fun v p' _ => (hrest _ _ _ _ v p').zero
        · split
          · exact bitAt_ne_panic _ _
          · simp
        · refine GoodPN.ite (fun _ => GoodPN.bindL ?_ fun x p' _ => GoodPN.pure _)
            fun _ => GoodPN.pure _
          exact GoodPN.ite
            (fun _ => (readOpen_good (fun q => (dec_goodN t inp q).toP) p).toN)
            fun _ => (dec_goodN t inp p).zero
      · -- extension addition, no extension part
        refine GoodPN.bindL ?_ fun v p _ => (hrest _ _ _ _ v p).zero
        cases k with
        | m => exact (dec_goodN t inp pos).zero
        | o | d dv => exact GoodPN.pure _
end

theorem dec_good (t : Ty) (inp : Bits) (pos : Nat) : GoodP inp pos (dec t inp pos) :=
  (dec_goodN t inp pos).toP

theorem decAlt_good (fs : Fields) (i : Nat) (inp : Bits) (pos : Nat) :
    GoodP inp pos (decAlt fs i inp pos) :=
  (decAlt_goodN fs i inp pos).toP

theorem decFields_good (fs : Fields) (rootLeft optIdx addIdx : Nat) (ctx : SeqCtx)
    (inp : Bits) (pos : Nat) : GoodP inp pos (decFields fs rootLeft optIdx addIdx ctx inp pos) :=
  (decFields_goodN' fs rootLeft optIdx addIdx ctx inp pos).toP

theorem decFields_goodN : ∀ (fs : Fields) (rootLeft optIdx addIdx : Nat) (ctx : SeqCtx)
    (inp : Bits) (pos : Nat), fs.length ≤ rootLeft →
    GoodPN fs.minBits inp pos (decFields fs rootLeft optIdx addIdx ctx inp pos) := by
  intro fs rootLeft optIdx addIdx ctx inp pos h
  have := decFields_goodN' fs rootLeft optIdx addIdx ctx inp pos
  rwa [if_pos h] at this

end Asn1Verif.Uper
