import Asn1Verif.Uper.Scope
import Asn1Verif.Uper.SeqLemmas
/-
  The writer half of the scope machine (`Uper/Scope.lean`): patches inside and beyond the written bits,
  `with_buffer`, and the uniform shape `comp` of one component call (`T::write_value`, `write_opt`,
  `write_default`).  The refinement proofs of both halves walk along `>>=` by `bind_congr` (same first step,
  then the continuations under what it has returned), after `bind_assoc` has brought both sides into that form.
-/
namespace Asn1Verif.Uper
open Asn1Verif Outcome Per

namespace Scope

theorem set_append_cons {α : Type} (a : List α) (x y : α) (b : List α) (n : Nat)
    (hn : n = a.length) : (a ++ x :: b).set n y = a ++ y :: b := by
  subst hn
  induction a with
  | nil => rfl
  | cons h t ih => simp only [List.cons_append, List.length_cons, List.set_cons_succ, ih]

theorem replicate_succ' {α : Type} (n : Nat) (x : α) (h : 0 < n) :
    List.replicate n x = x :: List.replicate (n - 1) x := by
  cases n with
  | zero => omega
  | succ m => simp [List.replicate_succ]

@[simp] theorem of_bits (X : Bits) (s : Option Scope) (t : Bool) : (W.of X s t).bits = X := by
  simp [W.of, W.bits]

@[simp] theorem of_len (X : Bits) (s : Option Scope) (t : Bool) : (W.of X s t).len = X.length := by
  simp [W.of, W.len]

@[simp] theorem of_scope (X : Bits) (s : Option Scope) (t : Bool) : (W.of X s t).scope = s := rfl
@[simp] theorem of_strict (X : Bits) (s : Option Scope) (t : Bool) : (W.of X s t).strict = t := rfl

@[simp] theorem of_with_scope (X : Bits) (s s' : Option Scope) (t : Bool) :
    ({ W.of X s t with scope := s' } : W) = W.of X s' t := rfl

@[simp] theorem mk_of_rbits (X : Bits) (s s' : Option Scope) (t t' : Bool) :
    ({ rbits := (W.of X s t).rbits, scope := s', strict := t' } : W) = W.of X s' t' := rfl

theorem of_append (X : Bits) (s : Option Scope) (t : Bool) (b : Bits) :
    (W.of X s t).append b = W.of (X ++ b) s t := by
  simp [W.of, W.append]

theorem eq_of (w : W) : w = W.of w.bits w.scope w.strict := by
  cases w; simp [W.of, W.bits]

@[simp] theorem of_inj (X Y : Bits) (s s' : Option Scope) (t t' : Bool) :
    W.of X s t = W.of Y s' t' ↔ X = Y ∧ s = s' ∧ t = t' := by
  simp [W.of]

theorem fresh_eq (t : Bool) : W.fresh t = W.of [] none t := rfl

theorem len_eq (w : W) : w.len = w.bits.length := by simp [W.len, W.bits]

theorem append_bits (w : W) (b : Bits) : (w.append b).bits = w.bits ++ b := by
  simp [W.append, W.bits]

theorem append_with_scope (w : W) (b : Bits) (s : Option Scope) :
    ({ w.append b with scope := s } : W) = ({ w with scope := s } : W).append b := rfl

theorem patch_mid (a : Bits) (x y : Bool) (b : Bits) (sc : Option Scope) (st : Bool) (p : Nat)
    (hp : p = a.length) :
    W.patch (W.of (a ++ x :: b) sc st) p y = ok (W.of (a ++ y :: b) sc st) := by
  subst hp
  have hlt : a.length < (W.of (a ++ x :: b) sc st).len := by simp
  unfold W.patch
  rw [if_pos hlt]
  simp only [W.len, W.of, List.reverse_append, List.reverse_cons, List.append_assoc,
    List.singleton_append, ok.injEq, W.mk.injEq, and_true]
  apply set_append_cons
  simp only [List.length_append, List.length_cons, List.length_reverse]
  omega

/-- in strict mode a patch at or beyond the written length is a `panic`, in the faithful mode it
    is lost while it lands inside the allocated octets -/
theorem patch_beyond (X : Bits) (sc : Option Scope) (p : Nat) (y : Bool) (hp : X.length ≤ p) :
    W.patch (W.of X sc true) p y = panic ∧
    (p ≤ 8 * ((X.length + 7) / 8) → W.patch (W.of X sc false) p y = ok (W.of X sc false)) := by
  have hlt : ¬ p < X.length := by omega
  refine ⟨by simp [W.patch, hlt], fun h => by simp [W.patch, hlt, h]⟩

@[simp] theorem openTy_none : openTy none = false := rfl
@[simp] theorem openTy_opt (a b : Nat) : openTy (some (.optBitField a b)) = false := rfl
@[simp] theorem openTy_all (a b : Nat) : openTy (some (.allBitField a b)) = true := rfl
@[simp] theorem openTy_ext (a : Nat) (o : Option (Nat × Nat)) (c n : Nat) :
    openTy (some (.extensibleSequence a o c n)) = false := rfl
@[simp] theorem openTy_empty : openTy (some .extensibleSequenceEmpty) = true := rfl

theorem leave_enter_append (w : W) (c : Bits) :
    w.leave (w.enter.append c) =
      (if openTy w.scope then openType c else ok c) >>= fun b => ok (w.append b) := by
  unfold W.leave W.enter
  by_cases h : openTy w.scope = true
  · simp only [h, if_true, fresh_eq, of_append, of_bits, List.nil_append]
  · simp only [h, Bool.false_eq_true, if_false, bind_ok]

/-- one component call: bit-field entry, then the content (if present) is appended — as open type
    when the callee goes through `with_buffer` (`wrap`) and the scope says so -/
def comp (isOpt present wrap : Bool) (content : Outcome Bits) (w : W) : Outcome W :=
  writeBitFieldEntry w isOpt present >>= fun w1 =>
    (if present then content >>= fun c => if wrap && openTy w1.scope then openType c else ok c
     else ok []) >>= fun b => ok (w1.append b)

theorem append_nil (w : W) : w.append [] = w := rfl

theorem writeLeaf_eq_comp {content : Outcome Bits} {w : W} :
    writeLeaf content w = comp false true true content w := by
  unfold writeLeaf comp
  refine bind_congr fun w1 _ => ?_
  simp only [if_true, Bool.true_and, bind_assoc, leave_enter_append]

theorem comp_none (wrap : Bool) (content : Outcome Bits) (b : Bits) (st : Bool) :
    comp false true wrap content (W.of b none st) =
      content >>= fun c => ok (W.of (b ++ c) none st) := by
  unfold comp writeBitFieldEntry
  simp only [of_scope, Bool.false_eq_true, if_false, bind_ok, if_true, openTy_none, Bool.and_false,
    of_append, bind_assoc]

end Scope
end Asn1Verif.Uper
