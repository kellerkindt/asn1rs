import Asn1Verif.Per.GlueBits
import Asn1Verif.Per.PrimLemmasNum
/-
  The byte-level writers of `Per/Concrete.lean` (on a `BitBuffer`) append exactly the bits the L1 writers
  of `Per/Prim.lean` return, preserve the buffer invariant, leave the read cursor alone, and fail exactly
  when (and how) the L1 writers fail.
-/
namespace Asn1Verif.Per.Glue
open Asn1Verif Asn1Verif.Bits Asn1Verif.Per Outcome

def Appends (b : BitBuffer) (bits : Bits) (b' : BitBuffer) : Prop :=
  b'.Inv ∧ b'.abs = b.abs ++ bits ∧ b'.rp = b.rp

theorem Appends.refl {b : BitBuffer} (h : b.Inv) : Appends b [] b :=
  ⟨h, (List.append_nil _).symm, rfl⟩

theorem Appends.trans {b b1 b2 : BitBuffer} {x y : Bits} (h1 : Appends b x b1)
    (h2 : Appends b1 y b2) : Appends b (x ++ y) b2 :=
  ⟨h2.1, by rw [h2.2.1, h1.2.1, List.append_assoc], h2.2.2.trans h1.2.2⟩

theorem writeBit_ok (b : BitBuffer) (x : Bool) (h : b.Inv) :
    ∃ b', b.writeBit x = ok b' ∧ Appends b [x] b' := BitBuffer.writeBit_abs b x h

theorem writeExt_ok (b : BitBuffer) (ext x : Bool) (h : b.Inv) :
    ∃ b', (if ext then b.writeBit x else ok b) = ok b' ∧ Appends b (if ext then [x] else []) b' := by
  cases ext with
  | true => exact writeBit_ok b x h
  | false => exact ⟨b, rfl, .refl h⟩

theorem writeBitsWithOffset_ok (b : BitBuffer) (src : List Byte) (off : Nat) (h : b.Inv)
    (ho : off ≤ src.length * 8) :
    ∃ b', b.writeBitsWithOffset src off = ok b' ∧
      Appends b (bitsOf src off (src.length * 8 - off)) b' := by
  have e : b.writeBitsWithOffset src off =
      b.writeBitsWithOffsetLen src off (src.length * 8 - off) := by
    unfold BitBuffer.writeBitsWithOffset BitBuffer.writeBitsWithOffsetLen sliceWriteBitsWithOffset
      failIf
    rw [byte_len_eq]
    have h1 : ¬ (src.length * 8 < off) := by omega
    have h2 : ¬ (src.length * 8 < off + (src.length * 8 - off)) := by omega
    simp only [h1, h2, decide_false, Bool.false_eq_true, ite_false, Outcome.bind_ok]
  rw [e]
  exact BitBuffer.writeBitsWithOffsetLen_abs b src off _ h (by omega)

theorem writeBits_ok (b : BitBuffer) (src : List Byte) (h : b.Inv) :
    ∃ b', b.writeBits src = ok b' ∧ Appends b (bytesBits src) b' := by
  rw [bytesBits_eq_bitsOf, Nat.mul_comm 8]
  exact writeBitsWithOffset_ok b src 0 h (Nat.zero_le _)

theorem writeField_ok (b : BitBuffer) (w x : Nat) (h : b.Inv) (hw : w ≤ 64) :
    ∃ b', b.writeBitsWithOffset (Concrete.toBeBytes x) (64 - w) = ok b' ∧
      Appends b (natBits w x) b' := by
  have := writeBitsWithOffset_ok b (Concrete.toBeBytes x) (64 - w) h (by simp)
  rwa [length_toBeBytes, show 8 * 8 - (64 - w) = w by omega, bitsOf_toBeBytes w x hw] at this

/-- the outcome `c` of a concrete writer started on `b` refines the outcome `m` of the L1 writer -/
def WRel (b : BitBuffer) (m : Outcome Bits) (c : Outcome BitBuffer) : Prop :=
  match m with
  | .ok bits => ∃ b', c = ok b' ∧ Appends b bits b'
  | .err k => c = err k
  | .panic => c = panic

def WRelV {α : Type} (b : BitBuffer) (m : Outcome (Bits × α)) (c : Outcome (α × BitBuffer)) : Prop :=
  match m with
  | .ok (bits, a) => ∃ b', c = ok (a, b') ∧ Appends b bits b'
  | .err k => c = err k
  | .panic => c = panic

theorem WRel.cases {b : BitBuffer} {m : Outcome Bits} {c : Outcome BitBuffer} (h : WRel b m c) :
    (∃ bits b', m = ok bits ∧ c = ok b' ∧ Appends b bits b') ∨ (∃ k, m = err k ∧ c = err k) ∨
      (m = panic ∧ c = panic) := by
  cases m with
  | ok bits => obtain ⟨b', e, p⟩ := h; exact .inl ⟨bits, b', rfl, e, p⟩
  | err k => exact .inr (.inl ⟨k, rfl, h⟩)
  | panic => exact .inr (.inr ⟨rfl, h⟩)

theorem WRelV.cases {α : Type} {b : BitBuffer} {m : Outcome (Bits × α)}
    {c : Outcome (α × BitBuffer)} (h : WRelV b m c) :
    (∃ bits a b', m = ok (bits, a) ∧ c = ok (a, b') ∧ Appends b bits b') ∨
      (∃ k, m = err k ∧ c = err k) ∨ (m = panic ∧ c = panic) := by
  cases m with
  | ok p => obtain ⟨b', e, p⟩ := h; exact .inl ⟨_, _, b', rfl, e, p⟩
  | err k => exact .inr (.inl ⟨k, rfl, h⟩)
  | panic => exact .inr (.inr ⟨rfl, h⟩)

/-- bits already appended in front (`b → b1`), then a refined writer on `b1` -/
theorem WRel.pre {b b1 : BitBuffer} {pre : Bits} {m : Outcome Bits} {c : Outcome BitBuffer}
    (hp : Appends b pre b1) (h : WRel b1 m c) : WRel b (m >>= fun bits => ok (pre ++ bits)) c := by
  cases m with
  | ok bits => obtain ⟨b', e, p⟩ := h; exact ⟨b', e, hp.trans p⟩
  | err k => exact h
  | panic => exact h

theorem WRelV.pre {α : Type} {b b1 : BitBuffer} {pre : Bits} (a : α) {m : Outcome Bits}
    {c : Outcome BitBuffer} (hp : Appends b pre b1) (h : WRel b1 m c) :
    WRelV b (m >>= fun bits => ok (pre ++ bits, a)) (c >>= fun b' => ok (a, b')) := by
  cases m with
  | ok bits => obtain ⟨b', rfl, p⟩ := h; exact ⟨b', rfl, hp.trans p⟩
  | err k => cases h; rfl
  | panic => cases h; rfl

/-- behind bits already appended (`b0 → b`): a refined writer returning a value, then anything that
    refines what L1 does with its bits -/
theorem WRelV.bind {α : Type} {b0 b : BitBuffer} {pre : Bits} {m : Outcome (Bits × α)}
    {c : Outcome (α × BitBuffer)} {f : Bits × α → Outcome Bits}
    {g : α × BitBuffer → Outcome BitBuffer} (hp : Appends b0 pre b) (h : WRelV b m c)
    (hk : ∀ bits a b1, Appends b0 (pre ++ bits) b1 → WRel b0 (f (bits, a)) (g (a, b1))) :
    WRel b0 (m >>= f) (c >>= g) := by
  cases m with
  | ok p => obtain ⟨b1, rfl, p1⟩ := h; exact hk _ _ b1 (hp.trans p1)
  | err k => cases h; rfl
  | panic => cases h; rfl

theorem wNNBIc_refines (lb ub : Option Nat) (value : Nat) (b : BitBuffer) (h : b.Inv)
    (hub : ub.getD I64MAXu ≤ U64_MAX) :
    WRel b (Per.wNNBIc lb ub value) (Concrete.wNNBIc lb ub value b) := by
  unfold Per.wNNBIc Concrete.wNNBIc
  refine rel_ite (fun _ => rfl) fun hr => ?_
  rw [uSub_ok (by omega), uSub_ok (by omega), bind_ok, bind_ok]
  exact writeField_ok b _ _ h (bitWidth_le_64 (by omega))

theorem wLen_refines (lb ub : Option Nat) (value : Nat) (b : BitBuffer) (h : b.Inv)
    (hub : ub.getD I64MAXu ≤ U64_MAX) :
    WRelV b (Per.wLen lb ub value) (Concrete.wLen lb ub value b) := by
  have field := WRelV.pre (none : Option Nat) (.refl h) (wNNBIc_refines lb ub value b h hub)
  unfold Per.wLen Concrete.wLen
  refine rel_ite
    (fun _ => rel_ite (fun _ => ⟨b, rfl, .refl h⟩) fun _ => rel_ite (fun _ => rfl) fun _ => field)
    fun _ => rel_ite (fun _ => field) fun _ => rel_ite (fun _ => ?_) fun _ =>
      rel_ite (fun _ => ?_) fun _ => ?_
  · refine bind_of_ok (writeBit_ok b false h) fun b1 p1 => ?_
    exact WRelV.pre none p1 (wNNBIc_refines none (some Consts.LENGTH_127) value b1 p1.1 (by decide))
  · refine bind_of_ok (writeBit_ok b true h) fun b1 p1 =>
      bind_of_ok (writeBit_ok b1 false p1.1) fun b2 p2 => ?_
    exact WRelV.pre none (p1.trans p2)
      (wNNBIc_refines none (some (Consts.LENGTH_16K - 1)) value b2 p2.1 (by decide))
  · -- the 16K multiple `m ≤ 4` survives `as u8`, and its low 6 bits are written
    generalize hm : min (value / Consts.LENGTH_16K) Consts.MAX_FRAGMENTS = m
    have hm4 : m ≤ 4 := by rw [← hm]; exact Nat.min_le_right _ _
    refine bind_of_ok (writeBit_ok b true h) fun b1 p1 =>
      bind_of_ok (writeBit_ok b1 true p1.1) fun b2 p2 =>
      bind_of_ok (writeBitsWithOffset_ok b2 [BitVec.ofNat 8 m] 2 p2.1 (by simp)) fun b3 p3 => ?_
    have e : bitsOf [BitVec.ofNat 8 m] 2 ([BitVec.ofNat 8 m].length * 8 - 2) = natBits 6 m :=
      bitsOf_beBytes 1 6 m (by decide)
    rw [BitVec.toNat_ofNat, Nat.mod_eq_of_lt (by omega)]
    exact ⟨b3, rfl, e ▸ (p1.trans p2).trans p3⟩

theorem wNNBI_refines (lb ub : Option Nat) (value : Nat) (b : BitBuffer) (h : b.Inv)
    (hub : ub.getD I64MAXu ≤ U64_MAX) :
    WRel b (Per.wNNBI lb ub value) (Concrete.wNNBI lb ub value b) := by
  cases lb with
  | some l => exact wNNBIc_refines (some l) ub value b h hub
  | none =>
    cases ub with
    | some u => exact wNNBIc_refines none (some u) value b h hub
    | none =>
      simp only [Per.wNNBI, Concrete.wNNBI]
      have ho : min (lz64 value / 8) 7 ≤ 8 := Nat.le_trans (Nat.min_le_right _ _) (by decide)
      generalize min (lz64 value / 8) 7 = o at ho ⊢
      rw [uSub_ok ho, bind_ok]
      refine WRelV.bind (.refl h) (wLen_refines none none _ b h (by decide)) fun lbits _ b1 p1 => ?_
      obtain ⟨b2, e2, p2⟩ := writeBits_ok b1 ((Concrete.toBeBytes value).drop o) p1.1
      exact ⟨b2, e2, bytesBits_toBeBytes_drop o value ho ▸ p1.trans p2⟩

theorem w2s_refines (bitLen : Nat) (value : Int) (b : BitBuffer) (h : b.Inv) :
    WRel b (Per.w2s bitLen value) (Concrete.w2s bitLen value b) := by
  unfold Per.w2s Concrete.w2s
  simp only [toBeBytesI64_eq, length_toBeBytes, byte_len_eq]
  refine rel_ite (fun _ => rfl) fun hr => ?_
  rw [uSub_ok (by omega), bind_ok]
  exact writeField_ok b bitLen _ h (by omega)

theorem wConstrained_refines (lb ub value : Int) (b : BitBuffer) (h : b.Inv)
    (hl : I64_MIN ≤ lb) (hu : ub ≤ I64_MAX) :
    WRel b (Per.wConstrained lb ub value) (Concrete.wConstrained lb ub value b) := by
  unfold Per.wConstrained Concrete.wConstrained
  refine rel_ite (fun _ => rfl) fun hr => rel_ite (fun hlt => ?_) fun _ => ⟨b, rfl, .refl h⟩
  rw [wrappingSubAsU64_eq ub lb (by omega) hl hu,
    wrappingSubAsU64_eq value lb (by omega) hl (by omega)]
  exact wNNBI_refines none (some (ub - lb).toNat) _ b h (i64_range_le hl hu)

theorem wSmall_refines (value : Nat) (b : BitBuffer) (h : b.Inv) :
    WRel b (Per.wSmall value) (Concrete.wSmall value b) := by
  unfold Per.wSmall Concrete.wSmall
  refine bind_of_ok (writeBit_ok b _ h) fun b1 p1 => ?_
  by_cases hc : value ≥ Consts.SMALL_NON_NEGATIVE_NUMBER
  · simp only [hc, if_true, decide_true] at p1 ⊢
    exact WRel.pre p1 (wNNBI_refines none none value b1 p1.1 (by decide))
  · simp only [hc, if_false, decide_false, Bool.false_eq_true] at p1 ⊢
    exact WRel.pre p1
      (wNNBI_refines none (some (Consts.SMALL_NON_NEGATIVE_NUMBER - 1)) value b1 p1.1 (by decide))

theorem wSemi_refines (lb value : Int) (b : BitBuffer) (h : b.Inv)
    (hl : I64_MIN ≤ lb) (hv : value ≤ I64_MAX) :
    WRel b (Per.wSemi lb value) (Concrete.wSemi lb value b) := by
  unfold Per.wSemi Concrete.wSemi
  refine rel_ite (fun _ => rfl) fun hr => ?_
  rw [wrappingSubAsU64_eq value lb (by omega) hl hv]
  exact wNNBI_refines none none _ b h (by decide)

theorem wUnconstrained_refines (value : Int) (b : BitBuffer) (h : b.Inv) :
    WRel b (Per.wUnconstrained value) (Concrete.wUnconstrained value b) := by
  unfold Per.wUnconstrained Concrete.wUnconstrained
  have hp : (if value < 0 then lo64 value - 1 else lz64 (i64AsU64 value) - 1) / 8 ≤ 8 := by
    split <;> exact Nat.div_le_of_le_mul (Nat.le_trans (Nat.sub_le _ 1) (lz64_le _))
  simp only [uSub_ok hp, bind_ok, byte_len_eq]
  refine WRelV.bind (.refl h) (wLen_refines none none _ b h (by decide)) fun lbits _ b1 p1 => ?_
  exact WRel.pre p1 (w2s_refines _ value b1 p1.1)

theorem wIndex_refines (std : Nat) (ext : Bool) (index : Nat) (b : BitBuffer) (h : b.Inv)
    (hstd : std ≤ U64_MAX) :
    WRel b (Per.wIndex std ext index) (Concrete.wIndex std ext index b) := by
  unfold Per.wIndex Concrete.wIndex
  refine bind_of_ok (writeExt_ok b ext _ h) fun b1 p1 => ?_
  refine rel_ite (fun hc => rel_ite (fun _ => ?_) fun _ => rfl) fun hc => ?_
  · rw [uSub_ok (of_decide_eq_true hc), bind_ok]
    exact WRel.pre p1 (wSmall_refines _ b1 p1.1)
  · have hlt : ¬ index ≥ std := fun h => hc (decide_eq_true h)
    rw [uSub_ok (by omega), bind_ok]
    exact WRel.pre p1 (wNNBI_refines none (some (std - 1)) index b1 p1.1
      (by simp only [Option.getD_some]; omega))

end Asn1Verif.Per.Glue
