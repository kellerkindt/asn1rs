import Asn1Verif.Per.GlueBits
import Asn1Verif.Per.PrimLemmasWhole
/-
  The sign extension of `read_2s_compliment_binary_integer` as coded (probing the most significant bit
  with `bytes[k] & (0x80 >> i)`, filling whole bytes with `0xFF`, or-ing single bits with `0x80 >> i`)
  against the arithmetic `v - 2^w` of `Per.r2s`.
-/
namespace Asn1Verif.Per.Glue
open Asn1Verif Asn1Verif.Bits Asn1Verif.Per Asn1Verif.Per.Concrete Outcome

theorem x80_getMsbD (j : Nat) : (0x80#8).getMsbD j = decide (j = 0) := by
  by_cases h : j < 8
  · exact (by decide : ∀ j : Fin 8, (0x80#8).getMsbD j = decide (j.val = 0)) ⟨j, h⟩
  · rw [BitVec.getMsbD_of_ge _ _ (by omega)]; simp; omega

theorem x80_shift_getMsbD (k i : Nat) (hi : i < 8) : (0x80#8 >>> k).getMsbD i = decide (i = k) := by
  rw [BitVec.getMsbD_ushiftRight, x80_getMsbD]
  by_cases h1 : i < k
  · have : ¬ i = k := by omega
    simp [h1, this]
  · by_cases h2 : i = k
    · subst h2; simp [hi]
    · have : ¬ (i - k = 0) := by omega
      simp [h1, h2, this]

theorem byte_probe (x : Byte) (k : Nat) (hk : k < 8) :
    (x &&& (0x80#8 >>> k) ≠ 0#8) ↔ x.getMsbD k = true := by
  constructor
  · intro hne
    apply Classical.byContradiction
    intro hb
    apply hne
    apply BitVec.eq_of_getMsbD_eq
    intro i hi
    rw [BitVec.getMsbD_and, x80_shift_getMsbD k i hi]
    by_cases c : i = k
    · subst c; simp at hb; simp [hb]
    · simp [c]
  · intro hb heq
    have := congrArg (fun y => y.getMsbD k) heq
    simp only [BitVec.getMsbD_and, x80_shift_getMsbD k k hk, hb] at this
    simp at this

theorem byte_or_mask (d : Byte) (n i : Nat) (hi : i < 8) :
    (d ||| (0x80#8 >>> n)).getMsbD i = (d.getMsbD i || decide (i = n)) := by
  rw [BitVec.getMsbD_or, x80_shift_getMsbD n i hi]

theorem orLoop_succ (bytes : List Byte) (k n : Nat) :
    orLoop bytes k (n + 1) = (orLoop bytes k n).modify k (fun d => d ||| (0x80#8 >>> n)) := by
  unfold orLoop
  rw [List.range_succ, List.foldl_append]; rfl

@[simp] theorem length_orLoop (bytes : List Byte) (k n : Nat) :
    (orLoop bytes k n).length = bytes.length := by
  induction n with
  | zero => rfl
  | succ n ih => rw [orLoop_succ, List.length_modify, ih]

/-- `for i in 0..n { bytes[k] |= 0x80 >> i }` -/
theorem getBit_orLoop (bytes : List Byte) (k n : Nat) (hk : k < bytes.length) (j : Nat) :
    getBit (orLoop bytes k n) j = if j / 8 = k ∧ j % 8 < n then true else getBit bytes j := by
  induction n with
  | zero => rw [if_neg (fun h => Nat.not_lt_zero _ h.2)]; rfl
  | succ n ih =>
    rw [orLoop_succ, getBit_modify _ _ _ _ (by rwa [length_orLoop])]
    by_cases c : j / 8 = k
    · subst c
      rw [if_pos rfl, byte_or_mask _ _ _ (Nat.mod_lt _ (by decide)),
        ← getBit_eq_getElem _ j (by rwa [length_orLoop]), ih]
      by_cases c1 : j % 8 < n
      · rw [if_pos ⟨rfl, c1⟩, if_pos ⟨rfl, Nat.lt_succ_of_lt c1⟩]; rfl
      · rw [if_neg (fun h => c1 h.2)]
        by_cases c2 : j % 8 = n
        · rw [if_pos ⟨rfl, c2 ▸ Nat.lt_succ_self _⟩, decide_eq_true c2, Bool.or_true]
        · rw [if_neg (fun h => (Nat.lt_succ_iff_lt_or_eq.1 h.2).elim c1 c2), decide_eq_false c2,
            Bool.or_false]
    · rw [if_neg c, ih, if_neg (fun h => c h.1), if_neg (fun h => c h.1)]

@[simp] theorem length_fillFF (bytes : List Byte) (n : Nat) : (fillFF bytes n).length = bytes.length := by
  induction bytes generalizing n with
  | nil => simp [fillFF]
  | cons x r ih =>
    cases n with
    | zero => simp [fillFF]
    | succ n => simp [fillFF, ih]

theorem getBit_fillFF (bytes : List Byte) (n j : Nat) :
    getBit (fillFF bytes n) j = if j / 8 < n ∧ j / 8 < bytes.length then true else getBit bytes j := by
  induction bytes generalizing n j with
  | nil => rw [fillFF, if_neg (fun h => Nat.not_lt_zero _ h.2)]
  | cons x r ih =>
    cases n with
    | zero => rw [fillFF, if_neg (fun h => Nat.not_lt_zero _ h.1)]; exact fun h => nomatch h
    | succ n =>
      rw [fillFF]
      by_cases c : j < 8
      · rw [getBit_cons_lt _ _ _ c, ff_getMsbD, Nat.div_eq_of_lt c,
          if_pos ⟨Nat.succ_pos _, Nat.succ_pos _⟩, decide_eq_true c]
      · obtain ⟨j', rfl⟩ : ∃ j', j = 8 + j' := ⟨j - 8, by omega⟩
        rw [getBit_cons_add, getBit_cons_add, ih, Nat.add_div_left _ (by decide), List.length_cons]
        simp only [Nat.add_lt_add_iff_right]

theorem getBit_signExtend (dst : List Byte) (hlen : dst.length = 8) (off : Nat) (hoff : off < 64)
    (j : Nat) :
    getBit (orLoop (fillFF dst (off / 8)) (off / 8) (off % 8)) j =
      if j < off then true else getBit dst j := by
  rw [getBit_orLoop _ _ _ (by rw [length_fillFF, hlen]; exact Nat.div_lt_of_lt_mul hoff),
    getBit_fillFF, hlen]
  -- `j < off` in (byte, bit) coordinates: same byte and an earlier bit, or an earlier byte
  have key : j < off ↔ (j / 8 = off / 8 ∧ j % 8 < off % 8) ∨ (j / 8 < off / 8 ∧ j / 8 < 8) := by
    omega
  by_cases c : j < off
  · rw [if_pos c]
    by_cases a : j / 8 = off / 8 ∧ j % 8 < off % 8
    · rw [if_pos a]
    · rw [if_neg a, if_pos ((key.1 c).resolve_left a)]
  · rw [if_neg c, if_neg (fun a => c (key.2 (.inl a))), if_neg (fun b => c (key.2 (.inr b)))]

theorem fromBeBytes_signExtend (dst : List Byte) (hlen : dst.length = 8) (w : Nat) (hw1 : 1 ≤ w)
    (hw : w ≤ 64) :
    fromBeBytes (orLoop (fillFF dst ((64 - w) / 8)) ((64 - w) / 8) ((64 - w) % 8)) =
      (2 ^ (64 - w) - 1) * 2 ^ w + bitsToNat (bitsOf dst (64 - w) w) := by
  have hbit := getBit_signExtend dst hlen (64 - w) (by omega)
  rw [← bitsToNat_bytesBits, bytesBits_eq_bitsOf, length_orLoop, length_fillFF, hlen,
    show 8 * 8 = (64 - w) + w by omega, bitsOf_append, Nat.zero_add, bitsToNat_append, length_bitsOf,
    bitsOf_eq_replicate fun i hi => by rw [hbit, Nat.zero_add, if_pos hi],
    bitsOf_congr _ dst _ _ w fun i _ => by rw [hbit, if_neg (by omega)], bitsToNat_replicate_true]

theorem toInt_signExtended (w x : Nat) (hw1 : 1 ≤ w) (hw : w ≤ 64) (hx : x < 2 ^ w)
    (hs : 2 ^ (w - 1) ≤ x) :
    (BitVec.ofNat 64 ((2 ^ (64 - w) - 1) * 2 ^ w + x)).toInt = (x : Int) - (2 : Int) ^ w := by
  have hQ : 2 ^ (64 - w) * 2 ^ w = 2 ^ 64 := by rw [← Nat.pow_add, Nat.sub_add_cancel hw]
  have e2 : 2 ^ w = 2 ^ (w - 1) * 2 := by
    rw [← Nat.pow_succ, Nat.succ_eq_add_one, Nat.sub_add_cancel hw1]
  have hW : 2 ^ w ≤ 2 ^ 64 := Nat.pow_le_pow_right (by decide) hw
  rw [toInt_ofNat64, Nat.sub_mul, hQ, Nat.one_mul, two_pow_cast]
  generalize (2 : Nat) ^ w = W at *
  generalize (2 : Nat) ^ (w - 1) = P at *
  -- the pattern `2^64 - W + x` lies in the upper half of `u64`: it reads as a negative `i64`
  rw [Nat.mod_eq_of_lt (by omega), u64AsI64, if_neg (by omega)]
  omega

theorem toInt_nonneg (w x : Nat) (hw : w ≤ 64) (hs : x < 2 ^ (w - 1)) :
    (BitVec.ofNat 64 x).toInt = (x : Int) := by
  have h63 : x < 2 ^ 63 := Nat.lt_of_lt_of_le hs (Nat.pow_le_pow_right (by decide) (by omega))
  rw [toInt_ofNat64, Nat.mod_eq_of_lt (Nat.lt_trans h63 (by decide)), u64AsI64, if_pos h63]

theorem testBit_top_bitsOf (src : List Byte) (sp w : Nat) (hw : 1 ≤ w) :
    (bitsToNat (bitsOf src sp w)).testBit (w - 1) = getBit src sp := by
  have hnb := natBits_bitsToNat (bitsOf src sp w)
  rw [length_bitsOf] at hnb
  have h0 : 0 < (natBits w (bitsToNat (bitsOf src sp w))).length := by simp; omega
  have := List.getElem_of_eq hnb h0
  rw [getElem_natBits, getElem_bitsOf] at this
  simpa using this

theorem idx_ok (bytes : List Byte) (i : Nat) (h : i < bytes.length) :
    idx bytes i = ok bytes[i] := by
  unfold idx
  rw [List.getElem?_eq_getElem h]

/-- `read_2s_compliment_binary_integer` after the read: `dst` holds the `w` bits read behind `64 - w`
    zero bits; probe and extension yield the two's-complement value of `Per.r2s` -/
theorem signExtend_value (dst : List Byte) (bits : Bits) (w : Nat) (hw1 : 1 ≤ w) (hw : w ≤ 64)
    (hd : dst.length = 8) (hl : bits.length = w)
    (hb : bytesBits dst = List.replicate (64 - w) false ++ bits) :
    ∃ probe, idx dst ((64 - w) / 8) = ok probe ∧
      fromBeBytesI64 (if probe &&& (0x80#8 >>> ((64 - w) % 8)) ≠ 0#8
        then orLoop (fillFF dst ((64 - w) / 8)) ((64 - w) / 8) ((64 - w) % 8) else dst) =
      if (bitsToNat bits).testBit (w - 1) then (bitsToNat bits : Int) - 2 ^ w else bitsToNat bits := by
  have hbo : (64 - w) / 8 < dst.length := by
    rw [hd]; exact Nat.div_lt_of_lt_mul (by omega)
  have hwin : bitsOf dst (64 - w) w = bits := by
    rw [bitsOf_eq_drop_take dst _ _ (by omega), hb, List.drop_left' (by simp),
      List.take_of_length_le (by omega)]
  have hxlt : bitsToNat bits < 2 ^ w := hl ▸ bitsToNat_lt bits
  -- the probed bit is the first bit read, i.e. the top binary digit of the value
  have htop := testBit_top_bitsOf dst (64 - w) w hw1
  rw [hwin, getBit_eq_getElem dst _ hbo] at htop
  have hprobe := byte_probe dst[(64 - w) / 8] ((64 - w) % 8) (Nat.mod_lt _ (by decide))
  rw [← htop] at hprobe
  refine ⟨dst[(64 - w) / 8], idx_ok dst _ hbo, ?_⟩
  unfold fromBeBytesI64
  cases ht : (bitsToNat bits).testBit (w - 1) with
  | true =>
    rw [if_pos (hprobe.2 ht), if_pos rfl, fromBeBytes_signExtend dst hd w hw1 hw, hwin,
      toInt_signExtended w _ hw1 hw hxlt (of_decide_eq_true (testBit_top w _ hw1 hxlt ▸ ht))]
  | false =>
    rw [if_neg (fun hc => Bool.false_ne_true (ht ▸ hprobe.1 hc)), if_neg Bool.false_ne_true,
      ← bitsToNat_bytesBits, hb, bitsToNat_zeros_append,
      toInt_nonneg w _ hw (Nat.lt_of_not_le (of_decide_eq_false (testBit_top w _ hw1 hxlt ▸ ht)))]

end Asn1Verif.Per.Glue
