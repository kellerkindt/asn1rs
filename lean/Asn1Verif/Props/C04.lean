import Asn1Verif.Uper.ReadTotalWork
import Asn1Verif.Props.C20
import Asn1Verif.Props.C17
/-
  C04 — Decoders never panic, hang or over-read on arbitrary input.

  Models: `Per/Prim.lean` (L1, mirror of `src/protocol/per/unaligned/mod.rs`), `Uper/Impl.lean`
  (L2, mirror of `src/rw/uper.rs`), `Der/Basic.lean` (DER primitives).  Lemmas:
  `Per/ReadTotal.lean`, `Uper/ReadTotal.lean`, `Uper/ReadTotalWork.lean`.

  The reader works on `inp : Bits` = exactly the declared bits (the first `bit_len` bits of the
  byte string; L0/C11 shows that reads through `Bits` never see anything else), so "never beyond
  the declared length" is `p ≤ inp.length`.

  * never panics:       `l1_readers_total`, `uper_total` (+ `_alt`, `_fields`), `der_reader_total`
  * never over-reads:   `l1_readers_total` (the rest is a suffix of the input), `no_overread`
  * never hangs:        all model functions are total Lean definitions — `dec`/`decAlt`/`decFields`
                        by structural recursion over `Ty`/`Fields`, `decListWith` over `Nat`, the
                        three loops `rOctFrag`, `rBitFrag` (on the remaining input) and
                        `skipUnknown` (on `nRead - idx`) by well-founded recursion; the `panic`
                        that guards the decreasing argument of the fragment loops is unreachable
                        (`fragment_loop_progress`).  What remains is quantitative:
  * work/allocation relative to the input: `octets_len_le_input`, `bitstring_len_le_input`,
                        `uper_alloc_le_input`, `work_bound_partial`; the full statement
                        `WorkBounded` is FALSE for the current code (`not_workBounded`,
                        `zero_width_work`): SEQUENCE OF an element type of width zero iterates as
                        often as the (up to 63 bit wide) length field says.  Open finding.
  * accessors:          `remaining_after_ok`.
  * the protobuf reader: `proto_reader_total` (never panics; the proof is `Props/C17.lean`'s).

  Scope of the statements about the REAL reader (what the theorems need from outside):
  * the tie between `Uper/Impl.lean` and `UperReader` is the differential stream over descriptors
    that are `Ty.consistent` (generated code always is).  The theorems hold for every `Ty`, but for
    an inconsistent hand-written descriptor the real reader has a `debug_assert!(scope.exhausted())`
    in `scope_pushed` the mirror does not model (it cannot fail for a consistent one).
  * `inp` = the first `bit_len` bits presupposes `bit_len ≤ 8 * bytes.len()`; with a larger
    declared length `Bits::from((slice, len))` itself fails its `debug_assert!` before any decoding.
  * `UperReader::read_sequence` ignores the error of its own `read_bit_field_entry(false)`
    (`let _ = …;` without `?`); generated code cannot reach a failing call there (extension
    additions are always read through `read_opt`/`read_default`, which propagate the error).
-/
namespace Asn1Verif.Props.C04
open Asn1Verif Asn1Verif.Per Asn1Verif.Per.RT Asn1Verif.Uper Outcome

/-! ### 1. L1: every PER primitive reader, all arguments, all inputs -/

/-- `r` never panics and only consumes from the front of its input -/
def RdTotal {α : Type} (r : Per.Rd α) : Prop :=
  ∀ bs : Bits, r bs ≠ .panic ∧ ∀ a rest, r bs = ok (a, rest) → ∃ pre, bs = pre ++ rest

theorem rdTotal_of_good {α : Type} {r : Per.Rd α} (h : ∀ bs, Good bs (r bs)) : RdTotal r :=
  fun bs => good_iff.1 (h bs)

/-- the suffix form is the same as "the rest is the input without its first
    `bs.length - rest.length` bits" -/
theorem suffix_iff_drop (rest bs : Bits) :
    (∃ pre, bs = pre ++ rest) ↔ rest.length ≤ bs.length ∧ rest = bs.drop (bs.length - rest.length) :=
  isSuffix_iff.symm.trans isSuffix_iff_drop

/-- **L1 totality**: every reader of `Per/Prim.lean` -/
theorem l1_readers_total :
    RdTotal rdBit ∧ (∀ w, RdTotal (rdNat w)) ∧ (∀ n, RdTotal (rdBits n)) ∧
    (∀ lb ub, RdTotal (rNNBIc lb ub)) ∧ (∀ lb ub, RdTotal (rLen lb ub)) ∧
    (∀ lb ub, RdTotal (rNNBI lb ub)) ∧ (∀ bitLen, RdTotal (r2s bitLen)) ∧
    (∀ lb ub, RdTotal (rConstrained lb ub)) ∧ RdTotal rSmall ∧ (∀ lb, RdTotal (rSemi lb)) ∧
    RdTotal rUnconstrained ∧ (∀ std ext, RdTotal (rIndex std ext)) ∧
    (∀ acc, RdTotal (rOctFrag acc)) ∧ (∀ lb ub ext, RdTotal (rOctets lb ub ext)) ∧
    (∀ acc, RdTotal (rBitFrag acc)) ∧ (∀ lb ub ext, RdTotal (rBitString lb ub ext)) :=
  ⟨rdTotal_of_good rdBit_good, fun _ => rdTotal_of_good (rdNat_good _),
   fun _ => rdTotal_of_good (rdBits_good _), fun _ _ => rdTotal_of_good (rNNBIc_good _ _),
   fun _ _ => rdTotal_of_good (rLen_good _ _), fun _ _ => rdTotal_of_good (rNNBI_good _ _),
   fun _ => rdTotal_of_good (r2s_good _), fun _ _ => rdTotal_of_good (rConstrained_good _ _),
   rdTotal_of_good rSmall_good, fun _ => rdTotal_of_good (rSemi_good _),
   rdTotal_of_good rUnconstrained_good, fun _ _ => rdTotal_of_good (rIndex_good _ _),
   fun _ => rdTotal_of_good (rOctFrag_good _), fun _ _ _ => rdTotal_of_good (rOctets_good _ _ _),
   fun _ => rdTotal_of_good (rBitFrag_good _), fun _ _ _ => rdTotal_of_good (rBitString_good _ _ _)⟩

/-- the fragment loops make progress: an unconstrained length determinant consumes at least 8
    bits, so the `panic` guarding the well-founded recursion of `rOctFrag`/`rBitFrag` is dead code
    (and the loop of the real code cannot spin on the same position) -/
theorem fragment_loop_progress (bs rest : Bits) (n : Nat) (h : rLen none none bs = ok (n, rest)) :
    rest.length + 8 ≤ bs.length :=
  ((rLen_none_reads bs).of_ok h).2

/-! ### 2. L2: the UPER reader, every type, every input, every position -/

/-- **the UPER reader never panics** — for every type descriptor (consistent with its constants
    or not), every input and every start position (inside the input or not) -/
theorem uper_total (t : Ty) (inp : Bits) (pos : Nat) : dec t inp pos ≠ .panic :=
  (dec_good t inp pos).ne_panic

theorem uper_total_alt (alts : Fields) (i : Nat) (inp : Bits) (pos : Nat) :
    decAlt alts i inp pos ≠ .panic :=
  (decAlt_good alts i inp pos).ne_panic

theorem uper_total_fields (fs : Fields) (rootLeft optIdx addIdx : Nat) (ctx : SeqCtx) (inp : Bits)
    (pos : Nat) : decFields fs rootLeft optIdx addIdx ctx inp pos ≠ .panic :=
  (decFields_good fs rootLeft optIdx addIdx ctx inp pos).ne_panic

/-- **no over-read**: started inside the input, a successful read ends at a cursor that is not
    left of the start and not beyond the declared length -/
theorem no_overread (t : Ty) (inp : Bits) (pos : Nat) (v : Val) (p : Nat) (hp : pos ≤ inp.length)
    (h : dec t inp pos = ok (v, p)) : pos ≤ p ∧ p ≤ inp.length :=
  (dec_good t inp pos).bounds h hp

theorem no_overread_fields (fs : Fields) (rootLeft optIdx addIdx : Nat) (ctx : SeqCtx)
    (inp : Bits) (pos : Nat) (vs : Vals) (p : Nat) (hp : pos ≤ inp.length)
    (h : decFields fs rootLeft optIdx addIdx ctx inp pos = ok (vs, p)) : pos ≤ p ∧ p ≤ inp.length :=
  (decFields_good fs rootLeft optIdx addIdx ctx inp pos).bounds h hp

/-- decoding a whole message: from position 0 the hypothesis is void -/
theorem decode_total (t : Ty) (inp : Bits) :
    dec t inp 0 ≠ .panic ∧ ∀ v p, dec t inp 0 = ok (v, p) → p ≤ inp.length :=
  ⟨uper_total t inp 0, fun v p h => (no_overread t inp 0 v p (Nat.zero_le _) h).2⟩

/-- the primitives lifted to a position never end beyond the declared length, wherever started -/
theorem lifted_primitive_le {α : Type} (r : Per.Rd α) (inp : Bits) (pos p : Nat) (a : α)
    (h : liftL1 r inp pos = ok (a, p)) : p ≤ inp.length :=
  liftL1_le h

/-! ### 3. work and allocation relative to the input size -/

/-- OCTET STRING: 8 bits of input consumed per octet returned (fragments included) -/
theorem octets_len_le_input (lb ub : Option Nat) (ext : Bool) (bs rest : Bits)
    (data : List (BitVec 8)) (h : rOctets lb ub ext bs = ok (data, rest)) :
    8 * data.length + rest.length ≤ bs.length := by
  have := (rOctets_reads lb ub ext bs).of_ok h
  omega

/-- BIT STRING: one bit of input per bit returned -/
theorem bitstring_len_le_input (lb ub : Option Nat) (ext : Bool) (bs rest data : Bits)
    (h : rBitString lb ub ext bs = ok (data, rest)) : data.length + rest.length ≤ bs.length := by
  have := (rBitString_reads lb ub ext bs).of_ok h
  omega

/-- the same at L2, and for the restricted strings (`strUnit` = 8 bits per byte of a UTF8String,
    `charWidth` = 7 resp. 4 bits per character of the others) -/
theorem uper_alloc_le_input (inp : Bits) (pos p : Nat) (v : Val) (hp : pos ≤ inp.length) :
    (∀ min max ext, dec (.oct min max ext) inp pos = ok (v, p) →
        ∃ b, v = .oct b ∧ 8 * b.length + pos ≤ p) ∧
    (∀ min max ext, dec (.bits min max ext) inp pos = ok (v, p) →
        ∃ b, v = .bits b ∧ b.length + pos ≤ p) ∧
    (∀ cs min max ext, dec (.str cs min max ext) inp pos = ok (v, p) →
        ∃ b, v = .str b ∧ b.length * strUnit cs + pos ≤ p) :=
  ⟨fun _ _ _ h => dec_oct_len_le h hp, fun _ _ _ h => dec_bits_len_le h hp,
   fun _ _ _ _ h => dec_str_len_le h hp⟩

/-- `Ty.minBits` is a lower bound of what a successful read consumes -/
theorem min_bits_consumed (t : Ty) (inp : Bits) (pos : Nat) (v : Val) (p : Nat)
    (hp : pos ≤ inp.length) (h : dec t inp pos = ok (v, p)) : pos + t.minBits ≤ p :=
  ((dec_goodN t inp pos).bounds h hp).1

/-- the full statement: the number of elements a SEQUENCE OF reader returns — the number of
    iterations of its loop and the size of the vector it builds — is bounded by the number of
    input bits -/
def WorkBounded : Prop :=
  ∀ (min max : Option Nat) (ext : Bool) (elem : Ty) (inp : Bits) (pos : Nat) (vs : Vals) (p : Nat),
    pos ≤ inp.length → dec (.seqOf min max ext elem) inp pos = ok (.list vs, p) →
      vs.length ≤ inp.length

/-- **work bound**, partial: holds when every element consumes at least one bit
    (`1 ≤ elem.minBits`: BOOLEAN, an INTEGER with a non-trivial range, anything extensible, a
    non-extensible SEQUENCE with such a mandatory component, …); then the elements are even paid
    for by the bits between start and end: `vs.length ≤ p - pos` -/
theorem work_bound_partial (min max : Option Nat) (ext : Bool) (elem : Ty) (inp : Bits) (pos : Nat)
    (vs : Vals) (p : Nat) (hmin : 1 ≤ elem.minBits) (hp : pos ≤ inp.length)
    (h : dec (.seqOf min max ext elem) inp pos = ok (.list vs, p)) :
    vs.length + pos ≤ p ∧ vs.length ≤ inp.length := by
  obtain ⟨vs', e, h1, h2⟩ := seqOf_count h hp
  have e' : vs = vs' := by injection e
  subst e'
  have : vs.length * 1 ≤ vs.length * elem.minBits := Nat.mul_le_mul_left _ hmin
  omega

/-- in general: `len * minBits elem` bits are consumed -/
theorem work_bound_general (min max : Option Nat) (ext : Bool) (elem : Ty) (inp : Bits) (pos : Nat)
    (v : Val) (p : Nat) (hp : pos ≤ inp.length)
    (h : dec (.seqOf min max ext elem) inp pos = ok (v, p)) :
    ∃ vs, v = .list vs ∧ vs.length * elem.minBits + pos ≤ p ∧ p ≤ inp.length :=
  seqOf_count h hp

/-- zero-width elements: the loop runs `n` times without consuming anything — the work is the
    announced length, independent of the input -/
theorem zero_width_work (n : Nat) (inp : Bits) (pos : Nat) :
    decListWith (dec .null) n inp pos = ok (Vals.ofList (List.replicate n .null), pos) :=
  decListWith_null inp pos n

theorem length_ofList_replicate (n : Nat) (v : Val) :
    (Vals.ofList (List.replicate n v)).length = n := by
  induction n with
  | zero => rfl
  | succ n ih => simp only [List.replicate_succ, Vals.ofList, Vals.length, ih]

/-- … and the announced length comes from a 63 bit wide field: for every `n < 2^63` the 63-bit
    input `n` makes `SEQUENCE (SIZE (0..MAX)) OF NULL` return `n` elements -/
theorem zero_width_unbounded (n : Nat) (hn : n < 2 ^ 63) :
    dec (.seqOf (some 0) (some I64MAXu) false .null) (natBits 63 n) 0 =
      ok (.list (Vals.ofList (List.replicate n .null)), 63) :=
  seqOf_null_unbounded n hn

/-- the full statement is false for the current code (known finding: no limit on the number of
    zero-width elements) -/
theorem not_workBounded : ¬ WorkBounded := by
  intro h
  have := h (some 0) (some I64MAXu) false .null (natBits 63 64) 0 _ 63 (Nat.zero_le _)
    (zero_width_unbounded 64 (by decide))
  rw [length_ofList_replicate, natBits_length] at this
  omega

/-! ### 4. accessors after a read -/

/-- `bits_remaining()` after a successful read: the cursor is inside the input, so the
    subtraction `len - pos` of `remaining()` cannot underflow, and the read has not produced
    bits: what remains is at most what remained before.  After a failed read the model has no
    cursor (`Outcome.err` carries none): the real reader keeps whatever position the failing
    primitive left, which by `l1_readers_total`/`lifted_primitive_le` and the clamping `set_pos`
    is ≤ the declared length as well. -/
theorem remaining_after_ok (t : Ty) (inp : Bits) (pos : Nat) (v : Val) (p : Nat)
    (hp : pos ≤ inp.length) (h : dec t inp pos = ok (v, p)) :
    p + (inp.length - p) = inp.length ∧ inp.length - p ≤ inp.length - pos := by
  have := no_overread t inp pos v p hp h
  omega

/-! ### DER primitives (proved in C20) -/

/-- the DER reader of the primitives it implements never panics -/
theorem der_reader_total (inp : List Der.Byte) (k : Nat) (t : Der.NumTy) (tag : Der.Tag)
    (count : Nat) :
    Der.readIdentifier inp ≠ .panic ∧ Der.readLength inp ≠ .panic ∧ Der.readBoolean inp ≠ .panic ∧
    Der.readIntegerU64 k inp ≠ .panic ∧ Der.readIntegerI64 k inp ≠ .panic ∧
    Der.readNumber t tag inp ≠ .panic ∧ Der.readBooleanTlv tag inp ≠ .panic ∧
    Der.readEnumerated tag count inp ≠ .panic :=
  C20.reader_never_panics inp k t tag count

/-! ### non-vacuity -/

-- hostile inputs: truncated, over-long length, unknown extension additions
example : dec (.int (some 0) (some 255) false 8 false) [true, false, true] 0 = err .endOfStream := by
  rfl
example : dec (.oct none none false) [false, true, true, true, true, true, true, true] 0
    = err .endOfStream := by rfl
example : dec .bool [true] 5 = err .endOfStream := by rfl
-- types satisfying the hypothesis of `work_bound_partial`
example : (Ty.int (some 0) (some 255) false 8 false).minBits = 1 := by decide
example : (Ty.seq 0 2 none (.cons .m .bool (.cons .m (.int (some 0) (some 7) false 8 false) .nil))).minBits
    = 2 := by decide
-- … and an instance of the theorem: three BOOLEANs from 8 + 3 bits
example : ∃ vs p, dec (.seqOf none none false .bool)
    [false, false, false, false, false, false, true, true, true, false, true] 0 = ok (.list vs, p) ∧
    vs.length = 3 ∧ p = 11 := ⟨_, _, by rfl, by rfl, by rfl⟩
-- a type NOT covered (width zero)
example : Ty.null.minBits = 0 ∧ (Ty.int (some 5) (some 5) false 8 false).minBits = 0 ∧
    (Ty.seq 0 0 none .nil).minBits = 0 := by decide

/-! ### the protobuf reader -/

/-- the reader variant the code currently is, selected by the translator flag
    `Consts.PROTO_READER_CHECKED` (what `Driver/ProtoStream.lean` runs against the real reader) -/
def protoCurrentFix : Option Proto.Fix :=
  if Consts.PROTO_READER_CHECKED then some ⟨.endOfStream, true⟩ else none

/-- The protobuf reader never panics on any input, for every type — for the code as the translator
    read it (`PROTO_READER_CHECKED = true` since the `fix:` commits ff0cfec, 11b3503, b49d2ea).  With
    the flag `false` (the code before those commits) the statement is false: `Props.C17.proto_reader_total_false`. -/
theorem proto_reader_total (h : Consts.PROTO_READER_CHECKED = true) (t : Uper.Ty)
    (bytes : List Uper.Byte) : Proto.decode protoCurrentFix t bytes ≠ .panic := by
  unfold protoCurrentFix
  rw [h]
  exact Props.C17.proto_reader_total_fixed ⟨.endOfStream, true⟩ t bytes

/-- non-vacuity: the flag is what the translator extracted from the current source -/
example : Consts.PROTO_READER_CHECKED = true := by decide

end Asn1Verif.Props.C04
