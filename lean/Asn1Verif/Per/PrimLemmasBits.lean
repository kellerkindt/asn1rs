import Asn1Verif.Per.Prim
/-
  The crate's constants as numerals, and the notations shared by the code mirror (`Per/Prim.lean`) and
  the specification (`X691/Prim.lean`): `bitWidth`, `natBits`, `bitsToNat`, octets, the raw readers.
-/
namespace Asn1Verif.Per
open Asn1Verif Outcome

@[simp] theorem c_LENGTH_127 : Consts.LENGTH_127 = 127 := rfl
@[simp] theorem c_LENGTH_16K : Consts.LENGTH_16K = 16384 := rfl
@[simp] theorem c_LENGTH_64K : Consts.LENGTH_64K = 65536 := rfl
@[simp] theorem c_MAX_FRAGMENTS : Consts.MAX_FRAGMENTS = 4 := rfl
@[simp] theorem c_MIN_FRAGMENT_SIZE : Consts.MIN_FRAGMENT_SIZE = 16384 := rfl
@[simp] theorem c_SMALL : Consts.SMALL_NON_NEGATIVE_NUMBER = 64 := rfl

theorem I64MAXu_eq : I64MAXu = 9223372036854775807 := by decide
theorem U64_MAX_eq : U64_MAX = 18446744073709551615 := by decide
theorem I64_MAX_eq : I64_MAX = 9223372036854775807 := by decide
theorem I64_MIN_eq : I64_MIN = -9223372036854775808 := by decide

theorem i64_range_le {lb ub : Int} (hl : I64_MIN ≤ lb) (hu : ub ≤ I64_MAX) :
    (ub - lb).toNat ≤ U64_MAX := by
  rw [I64_MIN_eq] at hl; rw [I64_MAX_eq] at hu; rw [U64_MAX_eq]
  omega

theorem optGetD_le {ub : Option Nat} (h : ∀ u, ub = some u → u ≤ U64_MAX) :
    ub.getD I64MAXu ≤ U64_MAX := by
  cases ub with
  | none => decide
  | some u => exact h u rfl

theorem bitWidth_zero : bitWidth 0 = 0 := rfl

theorem lt_two_pow_bitWidth (n : Nat) : n < 2 ^ bitWidth n := by
  unfold bitWidth
  split
  · subst_vars; exact Nat.one_pos
  · exact Nat.lt_log2_self

theorem bitWidth_le_of_lt {n k : Nat} (h : n < 2 ^ k) : bitWidth n ≤ k := by
  unfold bitWidth
  split
  · exact Nat.zero_le _
  · rename_i hn
    exact (Nat.log2_lt hn).2 h

theorem two_pow_le_of_bitWidth {n : Nat} (hn : n ≠ 0) : 2 ^ (bitWidth n - 1) ≤ n := by
  unfold bitWidth
  rw [if_neg hn, Nat.add_sub_cancel]
  exact Nat.log2_self_le hn

theorem bitWidth_le_iff {n k : Nat} : bitWidth n ≤ k ↔ n < 2 ^ k :=
  ⟨fun h => Nat.lt_of_lt_of_le (lt_two_pow_bitWidth n) (Nat.pow_le_pow_right (by decide) h),
   bitWidth_le_of_lt⟩

theorem bitWidth_mono {a b : Nat} (h : a ≤ b) : bitWidth a ≤ bitWidth b :=
  bitWidth_le_of_lt (Nat.lt_of_le_of_lt h (lt_two_pow_bitWidth b))

theorem bitWidth_le_64 {n : Nat} (h : n ≤ U64_MAX) : bitWidth n ≤ 64 :=
  bitWidth_le_of_lt (by rw [U64_MAX_eq] at h; omega)

theorem bitWidth_pos {n : Nat} (h : n ≠ 0) : 0 < bitWidth n := by
  unfold bitWidth; rw [if_neg h]; exact Nat.succ_pos _

theorem bitWidth_eq_of {n k : Nat} (h1 : 2 ^ k ≤ n) (h2 : n < 2 ^ (k + 1)) : bitWidth n = k + 1 := by
  have hle := bitWidth_le_of_lt h2
  have : ¬ bitWidth n ≤ k := fun h => by
    have := bitWidth_le_iff.1 h; omega
  omega

@[simp] theorem bitWidth_127 : bitWidth 127 = 7 := by decide
@[simp] theorem bitWidth_16383 : bitWidth 16383 = 14 := by decide
@[simp] theorem bitWidth_63 : bitWidth 63 = 6 := by decide

@[simp] theorem natBits_length (w v : Nat) : (natBits w v).length = w := by
  induction w with
  | zero => rfl
  | succ w ih => simp [natBits, ih]

@[simp] theorem natBits_zero_width (v : Nat) : natBits 0 v = [] := rfl

theorem bitsToNat_foldl (bs : Bits) (a : Nat) :
    bs.foldl (fun acc b => 2 * acc + b.toNat) a = a * 2 ^ bs.length + bitsToNat bs := by
  induction bs generalizing a with
  | nil => simp [bitsToNat]
  | cons b r ih =>
    simp only [List.foldl_cons, bitsToNat, List.length_cons]
    rw [ih (2 * a + b.toNat), ih (2 * 0 + b.toNat)]
    simp only [Nat.pow_succ, Nat.add_mul, Nat.zero_mul, Nat.zero_add, Nat.mul_comm 2,
      Nat.mul_assoc, Nat.add_assoc]

@[simp] theorem bitsToNat_nil : bitsToNat [] = 0 := rfl

theorem bitsToNat_cons (b : Bool) (r : Bits) :
    bitsToNat (b :: r) = b.toNat * 2 ^ r.length + bitsToNat r := by
  have := bitsToNat_foldl r (2 * 0 + b.toNat)
  simp only [bitsToNat, List.foldl_cons] at this ⊢
  rw [this]; simp

theorem bitsToNat_lt (bs : Bits) : bitsToNat bs < 2 ^ bs.length := by
  induction bs with
  | nil => exact Nat.one_pos
  | cons b r ih =>
    rw [bitsToNat_cons, List.length_cons, Nat.pow_succ]
    have := Nat.mul_le_mul_right (2 ^ r.length) (Bool.toNat_le b)
    omega

theorem bitsToNat_natBits (w v : Nat) : bitsToNat (natBits w v) = v % 2 ^ w := by
  induction w with
  | zero => rw [Nat.pow_zero, Nat.mod_one]; rfl
  | succ w ih =>
    rw [natBits, bitsToNat_cons, ih, natBits_length, Nat.mod_pow_succ, Nat.toNat_testBit,
      Nat.add_comm, Nat.mul_comm]

theorem bitsToNat_natBits_of_lt {w v : Nat} (h : v < 2 ^ w) : bitsToNat (natBits w v) = v := by
  rw [bitsToNat_natBits, Nat.mod_eq_of_lt h]

theorem bitsToNat_natBits_bitWidth {range n : Nat} (h : n ≤ range) :
    bitsToNat (natBits (bitWidth range) n) = n :=
  bitsToNat_natBits_of_lt (Nat.lt_of_le_of_lt h (lt_two_pow_bitWidth range))

theorem natBits_congr {w a b : Nat} (h : ∀ i, i < w → a.testBit i = b.testBit i) :
    natBits w a = natBits w b := by
  induction w with
  | zero => rfl
  | succ w ih =>
    simp only [natBits]
    rw [h w (Nat.lt_succ_self w), ih (fun i hi => h i (Nat.lt_succ_of_lt hi))]

theorem natBits_mod {w k : Nat} (v : Nat) (h : w ≤ k) : natBits w (v % 2 ^ k) = natBits w v := by
  apply natBits_congr
  intro i hi
  rw [Nat.testBit_mod_two_pow]
  have : i < k := Nat.lt_of_lt_of_le hi h
  simp [this]

theorem natBits_bitsToNat (bs : Bits) : natBits bs.length (bitsToNat bs) = bs := by
  induction bs with
  | nil => rfl
  | cons b r ih =>
    -- `b·2^n + x` with `x < 2^n`: bit `n` is `b`, the bits below are those of `x`
    have hlt := bitsToNat_lt r
    rw [List.length_cons, natBits, bitsToNat_cons, Nat.mul_comm,
      natBits_congr (b := bitsToNat r) (fun i hi => by
        rw [Nat.testBit_two_pow_mul_add _ hlt, if_pos hi]),
      ih, Nat.testBit_two_pow_mul_add _ hlt, if_neg (Nat.lt_irrefl _), Nat.sub_self]
    cases b <;> rfl

theorem getElem_natBits (w v i : Nat) (h : i < (natBits w v).length) :
    (natBits w v)[i] = v.testBit (w - 1 - i) := by
  induction w generalizing i with
  | zero => simp at h
  | succ w ih =>
    cases i with
    | zero => simp [natBits]
    | succ i =>
      simp only [natBits, List.getElem_cons_succ]
      rw [ih]
      congr 1; omega

theorem natBits_add (a b v : Nat) : natBits (a + b) v = natBits a (v >>> b) ++ natBits b v := by
  induction a with
  | zero => simp
  | succ a ih =>
    rw [Nat.add_right_comm, natBits, natBits, ih, Nat.testBit_shiftRight, Nat.add_comm b a]
    rfl

theorem natBits_drop (k w v : Nat) : (natBits (k + w) v).drop k = natBits w v := by
  rw [natBits_add, List.drop_left' (natBits_length _ _)]

theorem bitsToNat_append (a b : Bits) :
    bitsToNat (a ++ b) = bitsToNat a * 2 ^ b.length + bitsToNat b := by
  have := bitsToNat_foldl b (bitsToNat a)
  simp only [bitsToNat, List.foldl_append] at this ⊢
  exact this

theorem bitsToNat_replicate_false (k : Nat) : bitsToNat (List.replicate k false) = 0 := by
  induction k with
  | zero => rfl
  | succ k ih => rw [List.replicate_succ, bitsToNat_cons, ih]; simp

theorem bitsToNat_replicate_true (k : Nat) : bitsToNat (List.replicate k true) = 2 ^ k - 1 := by
  induction k with
  | zero => rfl
  | succ k ih =>
    rw [List.replicate_succ, bitsToNat_cons, ih, List.length_replicate, Nat.pow_succ]
    have : 0 < 2 ^ k := Nat.two_pow_pos k
    simp only [Bool.toNat_true]; omega

theorem bitsToNat_zeros_append (k : Nat) (bs : Bits) :
    bitsToNat (List.replicate k false ++ bs) = bitsToNat bs := by
  rw [bitsToNat_append, bitsToNat_replicate_false]; simp

@[simp] theorem bytesBits_length (s : List (BitVec 8)) : (bytesBits s).length = 8 * s.length := by
  induction s with
  | nil => rfl
  | cons b r ih => simp [bytesBits, ih]; omega

theorem bytesBits_append (a b : List (BitVec 8)) : bytesBits (a ++ b) = bytesBits a ++ bytesBits b := by
  induction a with
  | nil => rfl
  | cons x r ih => simp [bytesBits, ih]

theorem bitsBytes_nil : bitsBytes [] = [] := by
  rw [bitsBytes]; simp

theorem bitsBytes_bytesBits_append (s : List (BitVec 8)) (B : Bits) :
    bitsBytes (bytesBits s ++ B) = s ++ bitsBytes B := by
  induction s with
  | nil => rfl
  | cons x r ih =>
    rw [bitsBytes]
    have hne : ¬ (bytesBits (x :: r) ++ B).isEmpty = true := by simp [bytesBits, natBits]
    rw [dif_neg hne]
    simp only [bytesBits, List.append_assoc]
    have h8 : (natBits 8 x.toNat).length = 8 := natBits_length _ _
    rw [List.take_left' h8, List.drop_left' h8, ih, bitsToNat_natBits]
    simp only [List.cons_append, List.cons.injEq, and_true]
    apply BitVec.eq_of_toNat_eq
    simp [Nat.mod_eq_of_lt x.isLt]

theorem bitsBytes_bytesBits (s : List (BitVec 8)) : bitsBytes (bytesBits s) = s := by
  have := bitsBytes_bytesBits_append s []
  rwa [List.append_nil, bitsBytes_nil, List.append_nil] at this

theorem bitsBytes_length (n : Nat) (d : Bits) (h : d.length = 8 * n) : (bitsBytes d).length = n := by
  induction n generalizing d with
  | zero =>
    have : d = [] := List.length_eq_zero_iff.1 (by omega)
    subst this
    rw [bitsBytes]; rfl
  | succ n ih =>
    cases d with
    | nil => exact absurd h (by simp only [List.length_nil]; omega)
    | cons b r =>
      rw [bitsBytes]
      simp only [List.isEmpty_cons, Bool.false_eq_true, ↓reduceDIte, List.length_cons]
      rw [ih ((b :: r).drop 8) (by rw [List.length_drop]; omega)]

@[simp] theorem rdBit_cons (b : Bool) (r : Bits) : rdBit (b :: r) = ok (b, r) := rfl

theorem rdBits_append {n : Nat} (f post : Bits) (h : f.length = n) :
    rdBits n (f ++ post) = ok (f, post) := by
  unfold rdBits
  have : ¬ (f ++ post).length < n := by simp [List.length_append]; omega
  rw [if_neg this, List.take_left' h, List.drop_left' h]

theorem rdNat_eq (w : Nat) (bs : Bits) :
    rdNat w bs = rdBits w bs >>= fun p => ok (bitsToNat p.1, p.2) := by
  unfold rdNat rdBits
  split <;> rfl

theorem rdNat_append {w : Nat} (f post : Bits) (h : f.length = w) :
    rdNat w (f ++ post) = ok (bitsToNat f, post) := by
  rw [rdNat_eq, rdBits_append f post h]; rfl

theorem rdNat_natBits (w v : Nat) (post : Bits) :
    rdNat w (natBits w v ++ post) = ok (v % 2 ^ w, post) := by
  rw [rdNat_append _ _ (natBits_length w v), bitsToNat_natBits]

theorem rdBits_len {n : Nat} {bs rest data : Bits} (h : rdBits n bs = ok (data, rest)) :
    data.length = n := by
  unfold rdBits at h; split at h
  · simp at h
  · simp only [ok.injEq, Prod.mk.injEq] at h
    rw [← h.1, List.length_take]; omega

end Asn1Verif.Per
