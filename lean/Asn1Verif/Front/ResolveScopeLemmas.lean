import Asn1Verif.Front.ResolveLemmas
import Asn1Verif.Front.ResolveChaseLemmas
/-
  Both views of a scope are chases, so two scopes have equal views as soon as their chases run side by
  side through related modules (`ScopeEquiv.of_related`).  Three instances: a module and its literal
  variant among the same siblings, a module among its siblings in another load order, all loaded
  modules replaced by their literal variants (`MultiModuleResolver::try_resolve_all`).
-/
namespace Asn1Verif.Front.Syn
open Except

def valueAt (n : String) : UModule → Option LiteralValue := fun m =>
  (m.valueReferences.find? fun vr => vr.name == n).map (·.value)

/-- what `Asn::try_resolve` looks at in the module's own definition of a type name -/
def enumAt (n : String) : UModule → Option EnumView := fun m =>
  (m.definitions.find? fun d => d.name == n).map fun d =>
    match d.ty with
    | .enumerated e => .enumerated e
    | _ => .other

theorem valueOf_eq_chase (sc : Scope) (n : String) :
    sc.valueOf n = .ok (chase (valueAt n) sc.scope n (chaseFuel sc.scope) sc.model) := by
  simp only [Scope.valueOf, Scope.valueReference, valueReference_eq_chase]
  exact congrArg _ (chase_map _ _ _).symm

theorem enumView_eq_chase (sc : Scope) (n : String) :
    sc.enumView n = (chase (enumAt n) sc.scope n (chaseFuel sc.scope) sc.model).getD .other := by
  simp only [Scope.enumView, Scope.resolveTypeRef, Scope.definition, definition_eq_chase,
    FRr.bind_ok]
  unfold enumAt
  rw [chase_map]
  generalize chase _ sc.scope n _ sc.model = o
  cases o with
  | none => rfl
  | some d => cases d with | mk _ _ ty => cases ty <;> rfl

theorem ScopeEquiv.of_related (R : UModule → UModule → Prop) {A A' : UModule} {S S' : List UModule}
    (hlen : S'.length = S.length) (hA : R A A')
    (hval : ∀ n m m', R m m' → valueAt n m' = valueAt n m)
    (henum : ∀ n m m', R m m' → enumAt n m' = enumAt n m)
    (hnext : ∀ n m m', R m m' →
      Option.Rel R (modelWithImportedItem m S n) (modelWithImportedItem m' S' n)) :
    ScopeEquiv ⟨A, S⟩ ⟨A', S'⟩ := by
  constructor <;> intro n
  · rw [valueOf_eq_chase, valueOf_eq_chase, chaseFuel, chaseFuel, hlen,
      chase_congr R (hval n) (hnext n) _ A A' hA]
  · rw [enumView_eq_chase, enumView_eq_chase, chaseFuel, chaseFuel, hlen,
      chase_congr R (henum n) (hnext n) _ A A' hA]

theorem enumerated_substTy (σ : Sigma) (t : UTy) (e : Enumerated) :
    substTy σ t = .enumerated e ↔ t = .enumerated e := by
  cases t <;> simp [substTy]

theorem valueAt_substModule (σ : Sigma) (m : UModule) (n : String) :
    valueAt n (substModule σ m) = valueAt n m := by
  simp only [valueAt, substModule, List.find?_map, Option.map_map]
  rfl

theorem enumAt_substModule (σ : Sigma) (m : UModule) (n : String) :
    enumAt n (substModule σ m) = enumAt n m := by
  simp only [enumAt, substModule, List.find?_map, Option.map_map]
  congr 1
  funext ⟨_, _, ty⟩
  cases ty <;> rfl

theorem scopeEquiv_substModule (σ : Sigma) (A : UModule) (S : List UModule) :
    ScopeEquiv ⟨A, S⟩ ⟨substModule σ A, S⟩ := by
  refine .of_related (fun m m' => m' = m ∨ m' = substModule σ m) rfl (.inr rfl) ?_ ?_ ?_
  · rintro n m _ (rfl | rfl)
    · rfl
    · exact valueAt_substModule σ m n
  · rintro n m _ (rfl | rfl)
    · rfl
    · exact enumAt_substModule σ m n
  · intro n m m' h
    -- the imports of the literal variant are those of the module
    have : modelWithImportedItem m' S n = modelWithImportedItem m S n := by
      rcases h with rfl | rfl <;> rfl
    rw [this]
    cases modelWithImportedItem m S n with
    | none => exact .none
    | some _ => exact .some (.inl rfl)

theorem scopeEquiv_perm (m : UModule) (S S' : List UModule) (hm : m ∈ S) (hp : S.Perm S')
    (hu : AllUnambiguous S) : ScopeEquiv ⟨m, S⟩ ⟨m, S'⟩ := by
  refine .of_related (fun m m' => m' = m ∧ m ∈ S) hp.length_eq.symm ⟨rfl, hm⟩ ?_ ?_ ?_
  · rintro n _ m ⟨rfl, _⟩; rfl
  · rintro n _ m ⟨rfl, _⟩; rfl
  · rintro n _ m ⟨rfl, hm⟩
    rw [modelWithImportedItem_perm m S S' hp (hu m hm) n]
    cases h : modelWithImportedItem m S n with
    | none => exact .none
    | some _ => exact .some ⟨rfl, modelWithImportedItem_mem h⟩

def substAllWith (τ : UModule → Sigma) (m : UModule) : UModule := substModule (τ m) m

variable (τ : UModule → Sigma)

theorem importMatches_substAllWith (imp : Import) (c : UModule) :
    importMatches imp (substAllWith τ c) = importMatches imp c := rfl

theorem modelWithImportedItem_substAllWith (m : UModule) (S : List UModule) (n : String) :
    modelWithImportedItem (substAllWith τ m) (S.map (substAllWith τ)) n =
      (modelWithImportedItem m S n).map (substAllWith τ) := by
  simp only [modelWithImportedItem_eq]
  rw [show (substAllWith τ m).imports = m.imports from rfl]
  cases m.imports.find? fun i => i.what.any (· == n) with
  | none => rfl
  | some imp => exact List.find?_map

theorem scopeEquiv_substAll (m : UModule) (S : List UModule) :
    ScopeEquiv ⟨m, S⟩ ⟨substAllWith τ m, S.map (substAllWith τ)⟩ := by
  refine .of_related (fun m m' => m' = substAllWith τ m) (List.length_map _) rfl ?_ ?_ ?_
  · rintro n m _ rfl; exact valueAt_substModule (τ m) m n
  · rintro n m _ rfl; exact enumAt_substModule (τ m) m n
  · rintro n m _ rfl
    rw [modelWithImportedItem_substAllWith]
    cases modelWithImportedItem m S n with
    | none => exact .none
    | some _ => exact .some rfl

theorem resolveAllAux_substAll (S : List UModule)
    (hall : ∀ m ∈ S, Agrees ⟨m, S⟩ (τ m) ∧ SafeModule ⟨m, S⟩ (τ m) m) :
    ∀ L : List UModule, (∀ m ∈ L, m ∈ S) →
      resolveAllAux (S.map (substAllWith τ)) (L.map (substAllWith τ)) = resolveAllAux S L
  | [], _ => rfl
  | m :: tl, hL => by
    obtain ⟨ha, hs⟩ := hall m (hL m List.mem_cons_self)
    simp only [List.map_cons, resolveAllAux, substAllWith,
      tryResolve_substModule (τ m) m S _ (scopeEquiv_substAll τ m S) ha hs,
      resolveAllAux_substAll S hall tl fun x hx => hL x (List.mem_cons_of_mem _ hx)]

end Asn1Verif.Front.Syn
