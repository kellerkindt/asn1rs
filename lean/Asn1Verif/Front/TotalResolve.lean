import Asn1Verif.Front.TotalBase
import Asn1Verif.Front.ResolveChaseLemmas
/-
  Totality of the resolver model.  `ResolveScope::try_resolve` walks the module once (structural
  recursion over the types); the only other recursion of the real code is the import chase of
  `value_reference` / `definition`, which follows at most `scope.len()` imports (repaired code; before,
  it had no bound and a cyclic import of an undefined name overflowed the stack).  The mirror of the
  chase is a structural recursion on that bound and has no budget of its own.

  No branch of `Front/Resolve.lean` builds `.fuel` (a chase whose bound is used up answers `ok none`, as
  the code does), so the statements below hold by the shape of the model, without any hypothesis on
  the imports: that the resolver terminates is Lean accepting the structural recursion on the code's
  own bound.
-/
namespace Asn1Verif.Front.Syn
open Except

structure ChaseTotal (sc : Scope) : Prop where
  value : ∀ n, Post (sc.valueReference n) (fun _ => True)
  defn : ∀ n, Post (sc.definition n) (fun _ => True)

theorem chaseTotal (sc : Scope) : ChaseTotal sc where
  value n := by rw [Scope.valueReference, valueReference_eq_chase]; exact .ok trivial
  defn n := by rw [Scope.definition, definition_eq_chase]; exact .ok trivial

section
set_option linter.unusedSectionVars false
variable (sc : Scope) (hc : ChaseTotal sc)
include hc

theorem resolveInt_post (l : URange) : Post (sc.resolveInt l) (fun _ => True) := by
  cases l with
  | lit i => exact .ok trivial
  | ref name =>
    refine (hc.value name).bind fun r _ => ?_
    split
    · split
      · exact .ok trivial
      · exact .error
    · exact .error

theorem resolveSizeVal_post (l : USz) : Post (sc.resolveSizeVal l) (fun _ => True) := by
  cases l with
  | lit n => exact .ok trivial
  | ref name =>
    refine (hc.value name).bind fun r _ => ?_
    split
    · split
      · split
        · exact .ok trivial
        · exact .error
      · exact .error
    · exact .error

theorem resolveConst_post (l : UConst) : Post (sc.resolveConst l) (fun _ => True) := by
  cases l with
  | lit v => exact .ok trivial
  | ref name =>
    refine (hc.value name).bind fun r _ => ?_
    split
    · exact .ok trivial
    · exact .error

theorem resolveTypeRef_post (n : String) : Post (sc.resolveTypeRef n) (fun _ => True) := by
  refine (hc.defn n).bind fun r _ => ?_
  split
  · exact .ok trivial
  · exact .error

theorem resolveSize_post (s : Size USz) : Post (sc.resolveSize s) (fun _ => True) := by
  cases s with
  | any => exact .ok trivial
  | fix n ext => exact (resolveSizeVal_post sc hc n).bind fun _ _ => .pure trivial
  | range a b ext =>
    exact (resolveSizeVal_post sc hc a).bind fun _ _ =>
      (resolveSizeVal_post sc hc b).bind fun _ _ => .pure trivial

theorem resolveOptInt_post (l : Option URange) : Post (sc.resolveOptInt l) (fun _ => True) := by
  cases l with
  | none => exact .ok trivial
  | some l => exact (resolveInt_post sc hc l).bind fun _ _ => .pure trivial

theorem resolveRange_post (r : Range URange) : Post (sc.resolveRange r) (fun _ => True) :=
  (resolveOptInt_post sc hc r.min).bind fun _ _ =>
    (resolveOptInt_post sc hc r.max).bind fun _ _ => .pure trivial

theorem resolveDefault_post (ty : RTy) (d : UConst) :
    Post (sc.resolveDefault ty d) (fun _ => True) := by
  unfold Scope.resolveDefault
  split
  · exact .ok trivial
  · split
    · split
      · split
        · exact .ok trivial
        · exact resolveConst_post sc hc _
      · exact resolveConst_post sc hc _
    · exact resolveConst_post sc hc _

mutual
theorem resolveTy_post (t : UTy) : Post (sc.resolveTy t) (fun _ => True) := by
  cases t with
  | boolean | null | enumerated _ | typeReference _ _ => exact .ok trivial
  | integer r cs =>
    unfold Scope.resolveTy
    exact (resolveRange_post sc hc r).bind fun _ _ => .pure trivial
  | string s _ | octetString s | bitString s _ =>
    unfold Scope.resolveTy
    exact (resolveSize_post sc hc s).bind fun _ _ => .pure trivial
  | optional inner =>
    unfold Scope.resolveTy
    exact (resolveTy_post inner).bind fun _ _ => .pure trivial
  | sequence fs e | set fs e =>
    unfold Scope.resolveTy
    exact (resolveFields_post fs).bind fun _ _ => .pure trivial
  | sequenceOf inner s | setOf inner s =>
    unfold Scope.resolveTy
    exact (resolveTy_post inner).bind fun _ _ =>
      (resolveSize_post sc hc s).bind fun _ _ => .pure trivial
  | choice vs e =>
    unfold Scope.resolveTy
    exact (resolveVariants_post vs).bind fun _ _ => .pure trivial

theorem resolveFields_post (fs : UFields) : Post (sc.resolveFields fs) (fun _ => True) := by
  cases fs with
  | nil => exact .ok trivial
  | cons name tag ty dflt rest =>
    unfold Scope.resolveFields
    refine (resolveTy_post ty).bind fun t _ => ?_
    refine Post.bind (P := fun _ => True) ?_ fun d _ =>
      (resolveFields_post rest).bind fun _ _ => .pure trivial
    split
    · exact .pure trivial
    · exact (resolveDefault_post sc hc t _).bind fun _ _ => .pure trivial

theorem resolveVariants_post (vs : UVariants) : Post (sc.resolveVariants vs) (fun _ => True) := by
  cases vs with
  | nil => exact .ok trivial
  | cons name tag ty rest =>
    unfold Scope.resolveVariants
    exact (resolveTy_post ty).bind fun _ _ =>
      (resolveVariants_post rest).bind fun _ _ => .pure trivial
end

theorem resolveValueRefs_post (l : List UValueReference) :
    Post (sc.resolveValueRefs l) (fun _ => True) := by
  induction l with
  | nil => exact .ok trivial
  | cons vr rest ih =>
    unfold Scope.resolveValueRefs
    exact (resolveTy_post sc hc vr.ty).bind fun _ _ => ih.bind fun _ _ => .pure trivial

theorem resolveDefinitions_post (l : List UDefinition) :
    Post (sc.resolveDefinitions l) (fun _ => True) := by
  induction l with
  | nil => exact .ok trivial
  | cons d rest ih =>
    unfold Scope.resolveDefinitions
    exact (resolveTy_post sc hc d.ty).bind fun _ _ => ih.bind fun _ _ => .pure trivial

theorem tryResolve_post : Post sc.tryResolve (fun _ => True) :=
  (resolveValueRefs_post sc hc _).bind fun _ _ =>
    (resolveDefinitions_post sc hc _).bind fun _ _ => .pure trivial

end

/-- `ResolveScope::try_resolve` is total: a resolved model or one of the three error classes of
    `resolve::Error` -/
theorem Scope.tryResolve_ne_fuel (sc : Scope) : sc.tryResolve ≠ .error .fuel :=
  (tryResolve_post sc (chaseTotal sc)).ne_fuel

/-- `Model::try_resolve` (the scope is the module itself) -/
theorem tryResolve_ne_fuel (m : UModule) : tryResolve m ≠ .error .fuel :=
  Scope.tryResolve_ne_fuel ⟨m, [m]⟩

theorem resolveAllAux_post (scope : List UModule) :
    ∀ l : List UModule, Post (resolveAllAux scope l) (fun _ => True) := by
  intro l
  induction l with
  | nil => exact .ok trivial
  | cons m rest ih =>
    unfold resolveAllAux
    exact (tryResolve_post ⟨m, scope⟩ (chaseTotal _)).bind fun _ _ =>
      ih.bind fun _ _ => .pure trivial

/-- `MultiModuleResolver::try_resolve_all` -/
theorem tryResolveAll_ne_fuel (models : List UModule) : tryResolveAll models ≠ .error .fuel :=
  (resolveAllAux_post models models).ne_fuel

end Asn1Verif.Front.Syn
