import Asn1Verif.Props.C18Pkg
/- GENERATED by tools/vlib.py: axiom audit of every property theorem -/
#print axioms Asn1Verif.Props.C18Pkg.alphabet_is_one_token
#print axioms Asn1Verif.Props.C18Pkg.asn_in_alphabet
#print axioms Asn1Verif.Props.C18Pkg.package_valid_fn
#print axioms Asn1Verif.Props.C18Pkg.package_valid
#print axioms Asn1Verif.Props.C18Pkg.module_Module_witness
#print axioms Asn1Verif.Props.C18Pkg.package_line_valid_false
#print axioms Asn1Verif.Props.C18Pkg.package_line_valid_iff
#print axioms Asn1Verif.Props.C18Pkg.package_line_valid_alphabet
#print axioms Asn1Verif.Props.C18Pkg.asn_excluded_iff
#print axioms Asn1Verif.Props.C18Pkg.package_line_valid_partial
#print axioms Asn1Verif.Props.C18Pkg.token_plus_witness
#print axioms Asn1Verif.Props.C18Pkg.package_valid_all_tokens_false
#print axioms Asn1Verif.Props.C18Pkg.package_valid_all_tokens_partial
#print axioms Asn1Verif.Props.C18Pkg.oid_component_valid
#print axioms Asn1Verif.Props.C18Pkg.oid_component_sharp
#print axioms Asn1Verif.Props.C18Pkg.oid_number_component
#print axioms Asn1Verif.Props.C18Pkg.oid_package_valid
#print axioms Asn1Verif.Props.C18Pkg.oid_package_line_valid_false
#print axioms Asn1Verif.Props.C18Pkg.oid_package_line_valid_partial
#print axioms Asn1Verif.Props.C18Pkg.file_name_shape
#print axioms Asn1Verif.Props.C18Pkg.file_name_shape_fn
#print axioms Asn1Verif.Props.C18Pkg.file_name_slash_iff
#print axioms Asn1Verif.Props.C18Pkg.token_slash_witness
#print axioms Asn1Verif.Props.C18Pkg.file_name_shape_all_tokens_false
#print axioms Asn1Verif.Props.C18Pkg.strict_reading_differs
