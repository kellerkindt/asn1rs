import Asn1Verif.Uper.RejLemmas
import Asn1Verif.Uper.RejTotalLemmas
/-
  C06 — The encoder rejects constraint-violating values; it never emits a wrong encoding.

  Property theorems only.  Model: `enc` of `Uper/Impl.lean` (mirror of `UperWriter` in
  `src/rw/uper.rs` over the L1 primitives of `Per/Prim.lean`).  Lemmas: `Uper/RejLemmas.lean`,
  `Uper/RejTotalLemmas.lean` (and `Uper/SeqLemmas.lean` for SEQUENCE, `Per/PrimLemmas*.lean` for the
  primitives).

  All statements are for ALL bounds, ALL values, ALL field lists / element lists; a `u64`/`i64`
  range hypothesis appears only where the encoding is compared with X.691 (`*_x691`).

  The two halves of the property:
    * "a value outside a non-extensible constraint makes UPER encoding fail with an error" — the
      theorems below, by kind of constraint (`int_rejects`, `size_rejects_*`, `alphabet_rejects`,
      `index_rejects_*`), their propagation through SEQUENCE / SEQUENCE OF / CHOICE
      (`violation_propagates_*`, `never_ok_if_component_err`) and the closure over the whole value
      tree: `violation_anywhere_is_an_error` (an `err`, neither an encoding nor a panic —
      `enc_never_panics`);
    * "it never succeeds with bits that decode to a different value" is the round trip
      `enc t v = ok bits → dec t bits 0 = ok (v, bits.length)`, i.e. `Props.C01.roundtrip_partial`
      (property C01, proved there under its side condition `WF`); together with the theorems here:
      an encoding exists only for values inside the constraints, and then it decodes to the same
      value.
    * "for extensible constraints an out-of-root value is encoded in the extension form":
      `int_ext_out_of_root`, `size_ext_out_of_root_*`, `index_ext_*` give the form (first bit `1`,
      then the unconstrained / normally-small form); that it "still round-trips" is again C01.

  "Outside the constraint" is taken as the code takes it: a missing lower bound of an INTEGER counts
  as 0 when an upper bound is given (`const_unwrap_or!(C::MIN, 0)`), so `int_rejects` also covers
  negative values of `INTEGER (MIN..10)` — those are wrongly *refused* (a finding of C15/C01, not of
  this property: refusing is the safe side here).  `OutsideInt`/`int_rejects_semantic` is the
  statement for the ASN.1 reading of the constraint.
-/
namespace Asn1Verif.Props.C06
open Asn1Verif Asn1Verif.Uper Asn1Verif.Per Outcome

/-! ### INTEGER range -/

/-- Not extensible, at least one bound given: a value below the (effective) lower bound or above
    the (effective) upper bound is refused with `ValueNotInRange`. -/
theorem int_rejects (min max : Option Int) (w : Nat) (s : Bool) (v : Int)
    (hb : min.isSome = true ∨ max.isSome = true)
    (hv : v < min.getD 0 ∨ v > max.getD I64_MAX) :
    enc (.int min max false w s) (.int v) = err .valueNotInRange :=
  enc_int_rejects hb hv

/-- `v` violates the ASN.1 constraint `(min..max)` (`none` = `MIN`/`MAX`) -/
def OutsideInt (min max : Option Int) (v : Int) : Prop :=
  (∃ m, min = some m ∧ v < m) ∨ (∃ m, max = some m ∧ v > m)

theorem int_rejects_semantic (min max : Option Int) (w : Nat) (s : Bool) (v : Int)
    (h : OutsideInt min max v) :
    enc (.int min max false w s) (.int v) = err .valueNotInRange := by
  rcases h with ⟨m, rfl, hv⟩ | ⟨m, rfl, hv⟩
  · exact enc_int_rejects (Or.inl rfl) (Or.inl hv)
  · exact enc_int_rejects (Or.inr rfl) (Or.inr hv)

/-- single-value range `INTEGER (c)` / `(c..c)`: every other value is refused (the encoding of the
    permitted value is empty, so accepting anything else could never round-trip) -/
theorem int_single_value_rejects (c : Int) (w : Nat) (s : Bool) (v : Int) (h : v ≠ c) :
    enc (.int (some c) (some c) false w s) (.int v) = err .valueNotInRange :=
  enc_int_rejects (Or.inl rfl) (by simp only [Option.getD_some]; omega)

/-! ### SIZE -/

/-- UTF8String: the number of characters is checked -/
theorem size_rejects_utf8 (min max : Option Nat) (bytes : List Byte) (chars : List Nat)
    (hd : utf8Decode bytes = some chars)
    (h : chars.length < min.getD 0 ∨ chars.length > max.getD U64_MAX) :
    enc (.str .utf8 min max false) (.str bytes) = err .sizeNotInRange := by
  simp [enc, hd, h]

/-- IA5String / NumericString / PrintableString / VisibleString (characters inside the alphabet) -/
theorem size_rejects_str (cs : Charset) (min max : Option Nat) (bytes : List Byte)
    (chars : List Nat) (hcs : cs ≠ .utf8) (hd : utf8Decode bytes = some chars)
    (hval : chars.all cs.isValid = true)
    (h : chars.length < min.getD 0 ∨ chars.length > max.getD U64_MAX) :
    enc (.str cs min max false) (.str bytes) = err .sizeNotInRange := by
  rw [enc_str hcs hd, if_neg (not_any_invalid hval), wExtLen_rejects h]
  rfl

theorem size_rejects_oct (min max : Option Nat) (bytes : List Byte)
    (h : bytes.length < min.getD 0 ∨ bytes.length > max.getD I64MAXu) :
    enc (.oct min max false) (.oct bytes) = err .sizeNotInRange := by
  simp [enc, wOctets, h]

theorem size_rejects_bits (min max : Option Nat) (bs : List Bool)
    (h : bs.length < min.getD 0 ∨ bs.length > max.getD I64MAXu) :
    enc (.bits min max false) (.bits bs) = err .sizeNotInRange := by
  simp [enc, wBitString, h]

/-- SEQUENCE OF / SET OF — whatever the elements are (the size is checked first) -/
theorem size_rejects_seqOf (min max : Option Nat) (elem : Ty) (vs : Vals)
    (h : vs.length < min.getD 0 ∨ vs.length > max.getD I64MAXu) :
    enc (.seqOf min max false elem) (.list vs) = err .sizeNotInRange := by
  simp [enc, wExtLen_rejects h]

/-! ### permitted alphabet -/

/-- a restricted string with a character outside its alphabet — at any position, whatever the
    size constraint, extensible or not — is refused with `InvalidString` -/
theorem alphabet_rejects (cs : Charset) (min max : Option Nat) (ext : Bool) (bytes : List Byte)
    (chars : List Nat) (hcs : cs ≠ .utf8) (hd : utf8Decode bytes = some chars)
    (hbad : chars.any (fun c => !cs.isValid c) = true) :
    enc (.str cs min max ext) (.str bytes) = err .invalidString := by
  rw [enc_str hcs hd, if_pos hbad]

/-! ### ENUMERATED / CHOICE index -/

theorem index_rejects_enum (std total i : Nat) (h : i ≥ std) :
    enc (.enum std total false) (.enum i) = err .invalidChoiceIndex := by
  simp [enc, Per.wIndex_err std i h]

/-- (the index is written before the alternative is looked at: also for an alternative the
    descriptor does not know) -/
theorem index_rejects_choice (std total i : Nat) (alts : Fields) (x : Val) (h : i ≥ std) :
    enc (.choice std total false alts) (.choice i x) = err .invalidChoiceIndex := by
  simp [enc, Per.wIndex_err std i h]

/-! ### a violation inside comes through -/

/-- SEQUENCE / SET: the first failing root component — all components before it fit their kind and
    encode (`PrefixFine`) — makes the SEQUENCE fail with the same error -/
theorem violation_propagates_seq (so fc : Nat) (ea : Option Nat) (fields : Fields) (vs : Vals)
    (i : Nat) (k : Kind) (t : Ty) (v : Val) (e : ErrKind)
    (hi : i < rootCountOf ea fields) (hf : fields.get? i = some (k, t)) (hv : vs.get? i = some v)
    (hp : presentOf k v = some true) (he : enc t (contentOf k v) = err e)
    (hall : PrefixFine fields vs (rootCountOf ea fields) i) :
    enc (.seq so fc ea fields) (.seq vs) = err e := by
  rw [enc_seq, encFields_first_err hp he fields vs _ {} i hi hf hv hall]
  rfl

/-- SEQUENCE OF / SET OF: size acceptable, the first failing element -/
theorem violation_propagates_seqOf (min max : Option Nat) (ext : Bool) (elem : Ty) (vs : Vals)
    (i : Nat) (v : Val) (e : ErrKind)
    (hsize : ext = true ∨ (min.getD 0 ≤ vs.length ∧ vs.length ≤ max.getD I64MAXu))
    (hv : vs.get? i = some v) (he : enc elem v = err e)
    (hall : ∀ j, j < i → ∃ vj b, vs.get? j = some vj ∧ enc elem vj = ok b) :
    enc (.seqOf min max ext elem) (.list vs) = err e := by
  obtain ⟨hdr, hh⟩ := wExtLen_ok (Nat.le_refl _) hsize
  simp [enc, hh, encListWith_first_err he vs i hv hall]

/-- CHOICE: a permitted alternative (root, or any when extensible) whose value is refused -/
theorem violation_propagates_choice (std total : Nat) (ext : Bool) (alts : Fields) (i : Nat)
    (x : Val) (k : Kind) (t : Ty) (e : ErrKind) (hidx : i < std ∨ ext = true)
    (ha : alts.get? i = some (k, t)) (he : enc t x = err e) :
    enc (.choice std total ext alts) (.choice i x) = err e := by
  obtain ⟨b, hb⟩ := wIndex_ok (std := std) hidx
  simp [enc, hb, encAlt_eq, ha, he]

/-- Whatever else happens: if the encoder of some present component (root or extension addition,
    at any index) does not succeed, the SEQUENCE encoder does not succeed. -/
theorem never_ok_if_component_err (so fc : Nat) (ea : Option Nat) (fields : Fields) (vs : Vals)
    (i : Nat) (k : Kind) (t : Ty) (v : Val)
    (hf : fields.get? i = some (k, t)) (hv : vs.get? i = some v) (hp : presentOf k v = some true)
    (he : ∀ b, enc t (contentOf k v) ≠ ok b) :
    ∀ bits, enc (.seq so fc ea fields) (.seq vs) ≠ ok bits :=
  fun _ hb => let ⟨c, hc⟩ := enc_seq_ok_component hb hf hv hp; he c hc

/-- … an element of a SEQUENCE OF … -/
theorem never_ok_if_element_err (min max : Option Nat) (ext : Bool) (elem : Ty) (vs : Vals)
    (i : Nat) (v : Val) (hv : vs.get? i = some v) (he : ∀ b, enc elem v ≠ ok b) :
    ∀ bits, enc (.seqOf min max ext elem) (.list vs) ≠ ok bits :=
  fun _ hb => let ⟨c, hc⟩ := enc_seqOf_ok_elem hb hv; he c hc

/-- … the chosen alternative of a CHOICE. -/
theorem never_ok_if_alternative_err (std total : Nat) (ext : Bool) (alts : Fields) (i : Nat)
    (x : Val) (k : Kind) (t : Ty) (ha : alts.get? i = some (k, t)) (he : ∀ b, enc t x ≠ ok b) :
    ∀ bits, enc (.choice std total ext alts) (.choice i x) ≠ ok bits :=
  fun _ hb => let ⟨c, hc⟩ := enc_choice_ok_alt hb ha; he c hc

/-- The writer never unwinds, for any descriptor and any value tree. -/
theorem enc_never_panics (t : Ty) (v : Val) : enc t v ≠ panic := enc_ne_panic t v

/-- The closure: a violation of a non-extensible constraint ANYWHERE in the value tree (`Violates`:
    at the top, inside present components, elements, chosen alternatives, at any depth) makes the
    encoder return an error — no encoding, no panic. -/
theorem violation_anywhere_is_an_error (t : Ty) (v : Val) (h : Violates t v) :
    ∃ e, enc t v = err e :=
  violates_err h

/-- Conversely stated: an encoding exists only for value trees without any violation. -/
theorem ok_implies_no_violation (t : Ty) (v : Val) (bits : Bits) (h : enc t v = ok bits) :
    ¬ Violates t v :=
  fun hv => violates_not_ok hv bits h

/-! ### extensible constraints: the extension form -/

/-- INTEGER `(min..max, ...)`, value outside the root: bit `1`, then the unconstrained whole
    number (X.691 13.1 / 11.8) — which can always be written -/
theorem int_ext_out_of_root (min max : Option Int) (w : Nat) (s : Bool) (v : Int)
    (hv : v < min.getD 0 ∨ v > max.getD I64_MAX) :
    ∃ b, wUnconstrained v = ok b ∧ enc (.int min max true w s) (.int v) = ok (true :: b) := by
  obtain ⟨b, hb⟩ := wUnconstrained_total v
  exact ⟨b, hb, by simp [enc, hv, hb]⟩

/-- … for an `i64` value (what the Rust type can hold) that is X.691 11.8 -/
theorem int_ext_out_of_root_x691 (min max : Option Int) (w : Nat) (s : Bool) (v : Int)
    (hv : v < min.getD 0 ∨ v > max.getD I64_MAX) (hl : I64_MIN ≤ v) (hu : v ≤ I64_MAX) :
    enc (.int min max true w s) (.int v) = ok (true :: X691.unconstrained v) := by
  simp [enc, hv, Per.wUnconstrained_ok v hl hu]

/-- … inside the root: bit `0`, then the constrained whole number (X.691 11.5) -/
theorem int_ext_in_root (min max : Option Int) (w : Nat) (s : Bool) (v : Int)
    (h1 : min.getD 0 ≤ v) (h2 : v ≤ max.getD I64_MAX) :
    enc (.int min max true w s) (.int v) =
      ok (false :: X691.constrained (min.getD 0) (max.getD I64_MAX) v) := by
  have hv : ¬ (v < min.getD 0 ∨ v > max.getD I64_MAX) := by omega
  simp [enc, hv, Per.wConstrained_ok _ _ _ h1 h2]

/-- OCTET STRING `(SIZE (min..max, ...))`, length outside the root: bit `1`, the unconstrained
    length determinant, the octets (first fragment; `tail` = the further fragments, none below 16K) -/
theorem size_ext_out_of_root_oct (min max : Option Nat) (bytes : List Byte)
    (h : bytes.length < min.getD 0 ∨ bytes.length > max.getD I64MAXu) :
    ∃ hdr f tail, wLen none none bytes.length = ok (hdr, f) ∧
      enc (.oct min max true) (.oct bytes) =
        ok (true :: hdr ++ bytesBits (bytes.take (f.getD bytes.length)) ++ tail) ∧
      (f = none → tail = []) := by
  obtain ⟨hdr, f, h1, h2⟩ := wLen_unc_ok bytes.length
  obtain ⟨tail, h3, h4⟩ := strBody_ok (enc := bytesBits) (oob := panic) (pre := [true])
    (hdr := hdr) wOctFrag_ok h2
  exact ⟨hdr, f, tail, h1, by simp [enc, wOctets_str, wStr, h, h1, h3], h4⟩

theorem size_ext_out_of_root_bits (min max : Option Nat) (bs : List Bool)
    (h : bs.length < min.getD 0 ∨ bs.length > max.getD I64MAXu) :
    ∃ hdr f tail, wLen none none bs.length = ok (hdr, f) ∧
      enc (.bits min max true) (.bits bs) =
        ok (true :: hdr ++ bs.take (f.getD bs.length) ++ tail) ∧
      (f = none → tail = []) := by
  obtain ⟨hdr, f, h1, h2⟩ := wLen_unc_ok bs.length
  obtain ⟨tail, h3, h4⟩ := strBody_ok (enc := id) (oob := err .endOfStream) (pre := [true])
    (hdr := hdr) wBitFrag_ok h2
  exact ⟨hdr, f, tail, h1, by simpa [enc, wBitString_str, wStr, h, h1] using h3, h4⟩

theorem size_ext_out_of_root_str (cs : Charset) (min max : Option Nat) (bytes : List Byte)
    (chars : List Nat) (hcs : cs ≠ .utf8) (hd : utf8Decode bytes = some chars)
    (hval : chars.all cs.isValid = true)
    (h : chars.length < min.getD 0 ∨ chars.length > max.getD U64_MAX) :
    ∃ l f, wLen none none chars.length = ok (l, f) ∧
      enc (.str cs min max true) (.str bytes) =
        ok (true :: l ++ (chars.map (charBits cs)).flatten) := by
  obtain ⟨l, f, hl, hh⟩ := wExtLen_ext_out (ul := U64_MAX) h
  exact ⟨l, f, hl, by rw [enc_str hcs hd, if_neg (not_any_invalid hval), hh]; rfl⟩

theorem size_ext_out_of_root_seqOf (min max : Option Nat) (elem : Ty) (vs : Vals) (body : Bits)
    (h : vs.length < min.getD 0 ∨ vs.length > max.getD I64MAXu)
    (hb : encListWith (enc elem) vs = ok body) :
    ∃ l f, wLen none none vs.length = ok (l, f) ∧
      enc (.seqOf min max true elem) (.list vs) = ok (true :: l ++ body) := by
  obtain ⟨l, f, hl, hh⟩ := wExtLen_ext_out (ul := I64MAXu) h
  exact ⟨l, f, hl, by simp [enc, hh, hb]⟩

/-- the unconstrained length determinant used above is that of X.691 11.9.3.5–8, for every length
    (`Props.C10.len_unconstrained_pattern`); in closed form: -/
theorem unconstrained_length (n : Nat) :
    wLen none none n = ok (X691.lenU n) ∧
    wLen none none n =
      if n ≤ 127 then ok (false :: natBits 7 n, none)
      else if n < 16384 then ok (true :: false :: natBits 14 n, none)
      else ok (true :: true :: natBits 6 (min (n / 16384) 4), some (min (n / 16384) 4 * 16384)) :=
  ⟨Per.wLen_unc n, wLen_unc_closed n⟩

/-- UTF8String: the size constraint is not PER-visible; with an extensible constraint nothing is
    checked and the encoding is the unconstrained OCTET STRING of the UTF-8 bytes -/
theorem size_ext_utf8 (min max : Option Nat) (bytes : List Byte) (chars : List Nat)
    (hd : utf8Decode bytes = some chars) :
    enc (.str .utf8 min max true) (.str bytes) = wOctets none none false bytes := by
  simp [enc, hd]

/-- ENUMERATED `{ …, ... }`, index outside the root: bit `1`, normally small number `i − std`
    (X.691 14.3 / 11.6) -/
theorem index_ext_enum (std total i : Nat) (h : i ≥ std) :
    ∃ b, wSmall (i - std) = ok b ∧ enc (.enum std total true) (.enum i) = ok (true :: b) := by
  simpa [enc] using wIndex_ext_out h

/-- … for a `u64` index that is the index encoding of X.691 14.3 -/
theorem index_ext_enum_x691 (std total i : Nat) (h : i ≥ std) (hi : i ≤ U64_MAX) :
    enc (.enum std total true) (.enum i) = ok (X691.index std true i) := by
  simp [enc, Per.wIndex_ext std i h hi]

/-- … in the root: (bit `0`,) constrained number — X.691 14.2 / 14.3 -/
theorem index_root_enum (std total i : Nat) (ext : Bool) (h : i < std) :
    enc (.enum std total ext) (.enum i) = ok (X691.index std ext i) := by
  simp [enc, Per.wIndex_root std ext i h]

/-- CHOICE `{ …, ... }`, alternative outside the root: bit `1`, normally small index, the
    alternative's encoding as open type (X.691 23.8) -/
theorem index_ext_choice (std total i : Nat) (alts : Fields) (x : Val) (c o : Bits)
    (h : i ≥ std) (hc : encAlt alts i x = ok c) (ho : openType c = ok o) :
    ∃ b, wSmall (i - std) = ok b ∧
      enc (.choice std total true alts) (.choice i x) = ok (true :: b ++ o) := by
  obtain ⟨b, hb, hw⟩ := wIndex_ext_out h
  exact ⟨b, hb, by simp [enc, hw, hc, h, ho]⟩

theorem index_root_choice (std total i : Nat) (alts : Fields) (x : Val) (c : Bits) (ext : Bool)
    (h : i < std) (hc : encAlt alts i x = ok c) :
    enc (.choice std total ext alts) (.choice i x) = ok (X691.index std ext i ++ c) := by
  have h1 : ¬ (i ≥ std) := by omega
  simp [enc, Per.wIndex_root std ext i h, hc, h1]

/-! ### non-vacuity: concrete instances satisfying the hypotheses -/

-- int_rejects, int_single_value_rejects (the repaired defect: `INTEGER (5)` with value 7)
example : enc (.int (some 5) (some 5) false 8 false) (.int 7) = err .valueNotInRange := by decide +kernel
example : enc (.int (some 0) (some 255) false 8 false) (.int 256) = err .valueNotInRange := by
  decide +kernel
example : enc (.int (some (-3)) none false 64 true) (.int (-4)) = err .valueNotInRange := by
  decide +kernel
example : OutsideInt (some 0) (some 255) 256 := Or.inr ⟨255, rfl, by decide⟩
example : ((some 5 : Option Int).isSome = true ∨ (some 5 : Option Int).isSome = true) ∧
    ((7 : Int) < (some 5 : Option Int).getD 0 ∨ (7 : Int) > (some 5 : Option Int).getD I64_MAX) :=
  by decide +kernel

-- size_rejects_*: "abcd" in SIZE (1..3); 4 octets in SIZE (2); 1 bit in SIZE (2..8); 3 elements in SIZE (0..2)
example : enc (.str .utf8 (some 1) (some 3) false) (.str [0x61#8, 0x62#8, 0x63#8, 0x64#8]) =
    err .sizeNotInRange := by decide +kernel
example : utf8Decode [0x61#8, 0x62#8, 0x63#8, 0x64#8] = some [97, 98, 99, 100] := by decide +kernel
example : enc (.str .ia5 (some 1) (some 3) false) (.str [0x61#8, 0x62#8, 0x63#8, 0x64#8]) =
    err .sizeNotInRange := by decide +kernel
example : [97, 98, 99, 100].all Charset.ia5.isValid = true := by decide +kernel
example : enc (.oct (some 2) (some 2) false) (.oct [1#8, 2#8, 3#8, 4#8]) = err .sizeNotInRange := by
  decide +kernel
example : enc (.bits (some 2) (some 8) false) (.bits [true]) = err .sizeNotInRange := by decide +kernel
example : enc (.seqOf none (some 2) false .bool)
    (.list (.cons (.bool true) (.cons (.bool true) (.cons (.bool false) .nil)))) =
    err .sizeNotInRange := by decide +kernel

-- alphabet_rejects: "1a" as NumericString
example : enc (.str .numeric none none false) (.str [0x31#8, 0x61#8]) = err .invalidString := by
  decide +kernel
example : utf8Decode [0x31#8, 0x61#8] = some [49, 97] ∧
    [49, 97].any (fun c => !Charset.numeric.isValid c) = true := by decide +kernel

-- index_rejects_*
example : enc (.enum 3 3 false) (.enum 3) = err .invalidChoiceIndex := by decide +kernel
example : enc (.choice 2 2 false (.cons .m .bool (.cons .m .null .nil))) (.choice 2 .null) =
    err .invalidChoiceIndex := by decide +kernel

/-- `SEQUENCE { a BOOLEAN, b INTEGER (0..7) OPTIONAL, c SEQUENCE OF INTEGER (0..7) }` -/
def exFields : Fields :=
  .cons .m .bool (.cons .o (.int (some 0) (some 7) false 8 false)
    (.cons .m (.seqOf none none false (.int (some 0) (some 7) false 8 false)) .nil))
/-- `{ a TRUE, b 9, c {} }` — `b` violates its range -/
def exVals : Vals := .cons (.bool true) (.cons (.some (.int 9)) (.cons (.list .nil) .nil))
/-- `{ a TRUE, c { 1, 8 } }` — the second element of `c` violates its range -/
def exVals2 : Vals :=
  .cons (.bool true) (.cons .none (.cons (.list (.cons (.int 1) (.cons (.int 8) .nil))) .nil))

-- violation_propagates_seq / never_ok_if_component_err
example : enc (.seq 1 3 none exFields) (.seq exVals) = err .valueNotInRange := by decide +kernel
example : exFields.get? 1 = some (.o, .int (some 0) (some 7) false 8 false) ∧
    exVals.get? 1 = some (.some (.int 9)) ∧ presentOf .o (.some (.int 9)) = some true ∧
    enc (.int (some 0) (some 7) false 8 false) (contentOf .o (.some (.int 9))) =
      err .valueNotInRange := ⟨rfl, rfl, rfl, by decide⟩
example : PrefixFine exFields exVals (rootCountOf none exFields) 1 := by
  intro i hi k t hg
  obtain rfl : i = 0 := by omega
  cases hg
  exact ⟨.bool true, true, rfl, rfl, fun _ _ => ⟨[true], rfl⟩⟩
-- violation_propagates_seqOf / never_ok_if_element_err
example : enc (.seqOf none none false (.int (some 0) (some 7) false 8 false))
    (.list (.cons (.int 1) (.cons (.int 8) .nil))) = err .valueNotInRange := by decide +kernel
-- violation_propagates_choice
example : enc (.choice 2 2 false (.cons .m .bool (.cons .m (.int (some 0) (some 7) false 8 false) .nil)))
    (.choice 1 (.int 8)) = err .valueNotInRange := by decide +kernel
-- violation_anywhere_is_an_error: the violation two levels down
example : Violates (.seq 1 3 none exFields) (.seq exVals2) :=
  .comp (i := 2) (k := .m) (t := .seqOf none none false (.int (some 0) (some 7) false 8 false))
    rfl rfl rfl
    (.elem (i := 1) (v := .int 8) rfl (.int (Or.inl rfl) (Or.inr (by decide))))
example : enc (.seq 1 3 none exFields) (.seq exVals2) = err .valueNotInRange := by decide +kernel

-- int_ext_out_of_root / int_ext_in_root: `INTEGER (0..7, ...)` with 8 → `1` + length 1 + `00001000`;
-- with 5 → `0` + `101`
example : enc (.int (some 0) (some 7) true 8 false) (.int 8) =
    ok ([true] ++ [false, false, false, false, false, false, false, true] ++
        [false, false, false, false, true, false, false, false]) := by decide +kernel
example : enc (.int (some 0) (some 7) true 8 false) (.int 5) = ok [false, true, false, true] := by
  decide +kernel
-- size_ext_out_of_root_*: 1 octet in SIZE (2, ...) → `1` + `0 0000001` + the octet
example : enc (.oct (some 2) (some 2) true) (.oct [0xff#8]) =
    ok ([true] ++ [false, false, false, false, false, false, false, true] ++
        [true, true, true, true, true, true, true, true]) := by decide +kernel
example : enc (.bits (some 2) (some 8) true) (.bits [true]) =
    ok ([true] ++ [false, false, false, false, false, false, false, true] ++ [true]) := by decide +kernel
example : enc (.str .ia5 (some 2) (some 3) true) (.str [0x61#8]) =
    ok ([true] ++ [false, false, false, false, false, false, false, true] ++
        [true, true, false, false, false, false, true]) := by decide +kernel
example : enc (.seqOf (some 2) (some 3) true .bool) (.list (.cons (.bool true) .nil)) =
    ok ([true] ++ [false, false, false, false, false, false, false, true] ++ [true]) := by decide +kernel
-- index_ext_*: ENUMERATED { a, b, ..., c } with c → `1` + `0 000000`
example : enc (.enum 2 3 true) (.enum 2) = ok [true, false, false, false, false, false, false, false] := by
  decide +kernel
example : enc (.enum 2 3 true) (.enum 1) = ok [false, true] := by decide +kernel
example : enc (.choice 1 2 true (.cons .m .bool (.cons .m .bool .nil))) (.choice 0 (.bool true)) =
    ok [false, true] := by decide +kernel
example : encAlt (.cons .m .bool (.cons .m .bool .nil)) 1 (.bool true) = ok [true] := by decide +kernel

-- never_ok_if_*: the hypothesis "no encoding" of a component / element / alternative
example : ∀ b, enc (.int (some 0) (some 7) false 8 false) (contentOf .o (.some (.int 9))) ≠ ok b :=
  violates_not_ok (.int (Or.inl rfl) (Or.inr (by decide)))
-- violation_propagates_seqOf: the hypotheses spelled out for `{ 1, 8 }`
example : let vs : Vals := .cons (.int 1) (.cons (.int 8) .nil)
    ((false = true) ∨ ((none : Option Nat).getD 0 ≤ vs.length ∧
      vs.length ≤ (none : Option Nat).getD I64MAXu)) ∧
    vs.get? 1 = some (.int 8) ∧
    enc (.int (some 0) (some 7) false 8 false) (.int 8) = err .valueNotInRange ∧
    ∀ j, j < 1 → ∃ vj b, vs.get? j = some vj ∧ enc (.int (some 0) (some 7) false 8 false) vj = ok b := by
  refine ⟨Or.inr (by decide), rfl, by decide, fun j hj => ?_⟩
  obtain rfl : j = 0 := by omega
  exact ⟨.int 1, [false, false, true], rfl, by decide⟩
-- violation_propagates_choice: root alternative 1
example : (1 < 2 ∨ false = true) ∧
    (Fields.cons .m .bool (.cons .m (.int (some 0) (some 7) false 8 false) .nil)).get? 1 =
      some (.m, .int (some 0) (some 7) false 8 false) := ⟨Or.inl (by decide), rfl⟩
-- int_ext_out_of_root_x691 / index_ext_enum_x691: the range hypotheses
example : I64_MIN ≤ (8 : Int) ∧ (8 : Int) ≤ I64_MAX ∧ (2 : Nat) ≤ U64_MAX := by decide +kernel
-- size_ext_out_of_root_seqOf: the elements encode
example : encListWith (enc .bool) (.cons (.bool true) .nil) = ok [true] := by decide +kernel
-- index_ext_choice: alternative 1 (an extension addition) of `CHOICE { a BOOLEAN, ..., b BOOLEAN }`
-- → `1` + `0 000000` + open type (length 1, octet `0x80`)
example : openType [true] = ok [false, false, false, false, false, false, false, true,
    true, false, false, false, false, false, false, false] := openType_true
example : enc (.choice 1 2 true (.cons .m .bool (.cons .m .bool .nil))) (.choice 1 (.bool true)) =
    ok ([true] ++ [false, false, false, false, false, false, false] ++
        [false, false, false, false, false, false, false, true,
         true, false, false, false, false, false, false, false]) := by
  obtain ⟨b, hb, he⟩ := index_ext_choice 1 2 1 (.cons .m .bool (.cons .m .bool .nil)) (.bool true)
    [true] _ (by decide) (by decide) openType_true
  cases hb.symm.trans (show wSmall 0 = ok [false, false, false, false, false, false, false] by decide)
  exact he

end Asn1Verif.Props.C06
