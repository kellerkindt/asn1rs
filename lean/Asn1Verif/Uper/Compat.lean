import Asn1Verif.Uper.CompatDefs
/-
  C05 — SEQUENCE / SET across schema versions.  `walk`: along the common components the reader follows the
  writer, whatever the two sides do behind them (`Cont` of the tails).  Forward tail: the reader knows
  additions the writer did not send (all absent).  Backward tail: the writer sent additions the reader does
  not know; `skip_unknown_extension_additions` walks the rest of the bitmap and steps over the open type of
  every present one (unfragmented: fewer than 16K octets), ending exactly behind the extension part.
-/
namespace Asn1Verif.Uper
open Asn1Verif Outcome Per

theorem walk (wt : Fields) (wtv : Vals) (rtl : Fields) (rtv : Vals) (fin : SeqAcc) (inp : Bits)
    (P B : Nat) (post : Bits) (L : SeqLayout inp fin P B post) :
    ∀ (fs : Fields) (vs : Vals) (rootLeft : Nat),
    vs.length = fs.length → fs.rtOk rootLeft = true → valOkFields fs vs rootLeft = true →
    (fs.append wt).length ≤ U64_MAX → Cont wt wtv rtl rtv (rootLeft - fs.length) fin inp P B →
    Cont (fs.append wt) (vs.append wtv) (fs.append rtl) (vs.append rtv) rootLeft fin inp P B
  | .nil, .nil, _, _, _, _, _, hc => hc
  | .nil, .cons .., _, hl, _, _, _, _ => by cases hl
  | .cons .., .nil, _, hl, _, _, _, _ => by cases hl
  | .cons k t rest, .cons v vs, rootLeft, hl, hrt, hvo, hlen, hc => by
    simp only [Fields.rtOk, Bool.and_eq_true] at hrt
    simp only [valOkFields, Bool.and_eq_true] at hvo
    exact cont_cons k t (rest.append wt) (vs.append wtv) (rest.append rtl) (vs.append rtv)
      (rt t hrt.1.1) v rootLeft fin inp P B post L hrt.1.2 hvo.1 hlen
      (walk wt wtv rtl rtv fin inp P B post L rest vs (rootLeft - 1) (Nat.succ.inj hl) hrt.2 hvo.2
        (Nat.le_of_succ_le hlen) (by rw [Nat.sub_sub, Nat.add_comm]; exact hc))

theorem dec_absents (oi : Nat) (inp : Bits) (pos : Nat) : ∀ (adds : Fields) (ai : Nat) (ctx : SeqCtx),
    adds.allOpt = true →
    (ctx.extBit = true → ∃ win nRead, ctx.addWin = some (win, nRead) ∧ nRead ≤ ai) →
    decFields adds 0 oi ai ctx inp pos = ok (adds.absents, pos)
  | .nil, ai, ctx, _, hx => by
    unfold decFields
    split
    · obtain ⟨win, nRead, hw, hn⟩ := hx ‹_›
      rw [hw]
      dsimp only [bind_ok]
      rw [skipUnknown_done win nRead ai inp pos hn]
      rfl
    · rfl
  | .cons k t r, ai, ctx, ho, hx => by
    simp only [Fields.allOpt, Bool.and_eq_true] at ho
    unfold decFields
    rw [if_neg (Nat.lt_irrefl 0)]
    split
    · obtain ⟨win, nRead, hw, hn⟩ := hx ‹_›
      rw [hw]
      dsimp only [bind_ok]
      rw [if_neg (Nat.not_lt.2 hn)]
      dsimp only [bind_ok]
      rw [ho.1, if_neg (by decide)]
      dsimp only [bind_ok]
      rw [dec_absents oi inp pos r (ai + 1) _ ho.2 fun _ => ⟨win, nRead, rfl, Nat.le_succ_of_le hn⟩]
      rfl
    · rename_i hno
      have ih := dec_absents oi inp pos r (ai + 1) ctx ho.2 fun h => absurd h hno
      cases k with
      | m => cases ho.1
      | _ => dsimp only [bind_ok]; rw [ih]; rfl

theorem cont_fwd_tail (adds : Fields) (ho : adds.allOpt = true) (fin : SeqAcc) (inp : Bits)
    (P B : Nat) (post : Bits) (L : SeqLayout inp fin P B post) :
    Cont .nil .nil adds adds.absents 0 fin inp P B := by
  intro acc ctx addIdx pos henc _ hext hinv
  cases henc
  unfold StateInv at hinv
  cases hst : fin.st <;> rw [hst] at hinv hext
  case all =>
    rw [dec_absents _ inp pos adds _ ctx ho fun _ => ⟨_, _, hinv.2.1, by omega⟩, hinv.2.2.2,
      (layout_ext L hst).2.2.2]
  all_goals
    rw [dec_absents _ inp pos adds _ ctx ho (fun h => by rw [hext] at h; cases h), hinv.2.1,
      layout_noext (by rw [hst]; nofun)]

theorem skipUnknown_step (win nRead idx : Nat) (inp : Bits) (pos : Nat) (p : Bool) (q : Nat)
    (hlt : idx < nRead) (hbit : bitAt inp (win + idx) = ok p)
    (hopen : p = true → readOpen (fun _ p => ok ((), p)) inp pos = ok ((), q))
    (hq : p = false → q = pos) :
    skipUnknown win nRead idx inp pos = skipUnknown win nRead (idx + 1) inp q := by
  rw [skipUnknown, dif_pos hlt, hbit]
  cases p with
  | true => simp only [if_true, hopen rfl]
  | false => simp only [Bool.false_eq_true, if_false, hq rfl]

theorem skip_walk (fin : SeqAcc) (inp : Bits) (W AB : Nat) (X post : Bits) (hall : fin.st = .all)
    (hW : At inp W fin.addPres X) (hA : At inp AB fin.addBody post) :
    ∀ (adds : Fields) (avs : Vals) (acc : SeqAcc),
    adds.allOpt = true → valOkFields adds avs 0 = true → encFields adds avs 0 acc = ok fin →
    skipUnknown W fin.addPres.length acc.addPres.length inp (AB + acc.addBody.length)
      = ok ((), AB + fin.addBody.length)
  | .nil, .nil, acc, _, _, henc => by
    cases henc
    exact skipUnknown_done W _ _ inp _ (Nat.le_refl _)
  | .nil, .cons .., _, _, _, henc => by cases henc
  | .cons .., .nil, _, _, _, henc => by cases henc
  | .cons k t r, .cons v vs, acc, ho, hv, henc => by
    simp only [Fields.allOpt, Bool.and_eq_true] at ho
    simp only [valOkFields, Bool.and_eq_true] at hv
    rw [encFields_cons_view] at henc
    cases hfv : fieldView k v with
    | none => rw [hfv] at henc; cases henc
    | some px =>
      obtain ⟨p, x⟩ := px
      rw [hfv] at henc hv
      obtain ⟨acc1, hs, henc'⟩ := bind_eq_ok.1 henc
      obtain ⟨rp, rb, ap, ab, F⟩ := encFields_frameC r vs 0 acc1 fin henc'
      -- the run ends in `all`, so it never passed through `empty`: the addition is recorded
      have hne : acc1.st ≠ .empty := fun h => by
        have := (F.stEmpty h).1
        rw [hall] at this
        cases this
      obtain ⟨_, body, hb, rfl⟩ := (step_add_cases hs).resolve_right fun h => hne (by rw [h.2.2])
      have hfp : fin.addPres = acc.addPres ++ ([p] ++ ap) := by
        rw [F.addPres, List.append_assoc]
      have hfb : fin.addBody = acc.addBody ++ (body ++ ab) := by
        rw [F.addBody, List.append_assoc]
      have hlt : acc.addPres.length < fin.addPres.length := by
        rw [hfp, List.length_append]
        exact Nat.lt_add_of_pos_right (Nat.succ_pos _)
      have hbit : bitAt inp (W + acc.addPres.length) = ok p :=
        hW.bit _ _ (by rw [hfp]; simp)
      have hcur : At inp (AB + acc.addBody.length) body (ab ++ post) := by
        rw [hfb] at hA
        exact hA.right.left
      have ih := skip_walk fin inp W AB X post hall hW hA r vs _ ho.2 hv.2 henc'
      dsimp only at ih
      rw [List.length_append, List.length_append, ← Nat.add_assoc] at ih
      rw [skipUnknown_step W _ _ inp _ p (AB + acc.addBody.length + body.length) hlt hbit ?_ ?_]
      · exact ih
      · rintro rfl
        rw [if_pos rfl] at hb
        obtain ⟨c, hc, hopen⟩ := bind_eq_ok.1 hb
        rw [ho.1, Bool.true_or, if_pos rfl] at hopen
        have hl : (openOctets c).length < 16384 := by
          have := hv.1
          simp only [ho.1, Bool.true_or, Bool.not_true, Bool.and_eq_true] at this
          simpa [openOkC, hc] using this.2
        exact skipOpen_at inp _ c _ body hcur hopen hl
      · rintro rfl
        cases hb
        rfl

theorem cont_bwd_tail (adds : Fields) (avs : Vals) (ho : adds.allOpt = true)
    (hv : valOkFields adds avs 0 = true) (hlen : adds.length ≤ U64_MAX) (fin : SeqAcc) (inp : Bits)
    (P B : Nat) (post : Bits) (L : SeqLayout inp fin P B post) :
    Cont adds avs .nil .nil 0 fin inp P B := by
  intro acc ctx addIdx pos henc _ hext hinv
  obtain ⟨rp, rb, ap, ab, F⟩ := encFields_frameC adds avs 0 acc fin henc
  have hrb : fin.rootBody = acc.rootBody := by rw [F.rootBody, (F.rootDone rfl).2, List.append_nil]
  unfold decFields
  by_cases hall : fin.st = .all
  · obtain ⟨hH, hW, hA, hend⟩ := layout_ext L hall
    have hsk := skip_walk fin inp _ _ _ post hall hW hA adds avs acc ho hv henc
    rw [hall] at hext
    rw [if_pos (show ctx.extBit = true from hext)]
    unfold StateInv at hinv
    cases hst : acc.st <;> rw [hst] at hinv
    case all =>
      obtain ⟨_, hwin, rfl, rfl⟩ := hinv
      rw [hwin]
      dsimp only [bind_ok]
      rw [hsk, hend]
      rfl
    case root =>
      obtain ⟨hwin, rfl, hap, hab, rfl⟩ := hinv
      rw [hap, hab] at hsk
      simp only [List.length_nil, Nat.add_zero] at hsk
      have hn : fin.addPres.length = adds.length := by
        rw [F.addPres, hap, List.nil_append, (F.stRoot hst).1 hall, Nat.sub_zero]
      have hn1 : 1 ≤ adds.length := Nat.pos_of_ne_zero fun h0 => by
        have := F.allRoot (Nat.le_of_eq h0)
        rw [hall, hst] at this
        cases this
      rw [hwin, ← hrb, layout_header L hall (by omega) (by omega)]
      dsimp only [bind_ok]
      rw [hsk, hend]
      rfl
    case empty => exact absurd ((F.stEmpty hst).1.symm.trans hall) nofun
  · have hx : ctx.extBit = false := by
      rw [hext]
      cases h : fin.st <;> first | rfl | exact absurd h hall
    rw [hx, layout_noext hall, hrb, (hinv.noext fun hst => hall (F.stAll hst).1).2]
    rfl

/-- the versions share `fields`; the writer goes on with `wt`, the reader with `rtl`
    (forward: `wt` empty, backward: `rtl` empty) -/
theorem seq_versions (so fc so' fc' k : Nat) (fields wt rtl : Fields) (vs wtv rtv : Vals) (bits : Bits)
    (hk : k < fields.length) (hl : vs.length = fields.length)
    (hrt : fields.rtOk (k + 1) = true) (hv : valOkFields fields vs (k + 1) = true)
    (hlen : (fields.append wt).length ≤ U64_MAX)
    (htail : ∀ fin inp P B post, SeqLayout inp fin P B post → Cont wt wtv rtl rtv 0 fin inp P B)
    (h : enc (.seq so fc (some k) (fields.append wt)) (.seq (vs.append wtv)) = ok bits) :
    ReadsBack (dec (.seq so' fc' (some k) (fields.append rtl))) bits (.seq (vs.append rtv)) := by
  refine seq_node so fc so' fc' (some k) (fields.append wt) (vs.append wtv) (fields.append rtl)
    (vs.append rtv) bits hlen rfl
    (by dsimp only [rootCountOf]; rw [optCount_append _ _ _ hk, optCount_append _ _ _ hk]) ?_ h
  intro fin inp' P B post' L
  refine walk wt wtv rtl rtv fin inp' P B post' L fields vs (k + 1) hl hrt hv hlen ?_
  rw [Nat.sub_eq_zero_of_le hk]
  exact htail fin inp' P B post' L
end Asn1Verif.Uper
