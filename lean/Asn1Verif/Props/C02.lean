import Asn1Verif.Uper.Conform
import Asn1Verif.Uper.RoundTrip
import Asn1Verif.Uper.ConformFrag
/-
  C02 — UPER encodings are bit-exact X.691 within the conformance profile.

  Code mirror:     `Uper/Impl.lean`   (`enc`, `dec`: compositional mirror of `src/rw/uper.rs`)
  Specification:   `X691/Encode.lean` (`X691.encode`, written from X.691 08/2015, UNALIGNED)
  Lemmas:          `Uper/ConformDefs|ConformNode|ConformSeq|Conform.lean`
                   on top of the C10 lemma library `Per/PrimLemmas*.lean`

  Writer:  `conform_write_partial` — mutual structural induction over `Ty`/`Fields`: for EVERY type
  none of whose nodes lies in a known deviation class (`NoKnownDeviation`, below) and every value
  inside the Rust ranges with fewer than 16K items per SEQUENCE OF / restricted string (`InRange`),
  the bits the writer produces are the X.691 encoding.  Nesting, number of components, number of
  extension additions, open-type sizes (fragmented from 16K octets on), OCTET/BIT STRING lengths:
  unbounded.
  The full statement `conform_write` (the profile of DESIGN.md section 4, `InProfile`) is false for
  the current code; it is refuted on one witness per deviation class.

  `NoKnownDeviation t` (`Ty.noDev`, decidable, recursive over every node of `t`):
    * INTEGER: `(lb..ub)` with `ub < i64::MAX` (extensible or not) or unconstrained non-extensible.
      Excluded: `(lb..MAX)` (63-bit constrained field instead of 11.7), `(MIN..ub)` (written as
      `(0..ub)` instead of 11.8), extensible without both bounds.
    * OCTET STRING, BIT STRING, restricted strings, SEQUENCE OF: `¬ Per.LenDeviates min max`, i.e.
      no bound at all or an upper bound `< 64K` (finding F-64k).  UTF8String: no condition.
    * SEQUENCE/SET: no MANDATORY extension addition whose type is a CHOICE or a SEQUENCE OF (the
      code writes those inline instead of as an open type); at most 64 extension additions (beyond,
      X.691 19.8 / 11.9.3.4 changes the form of the count; the code does not, and `X691.encode`
      transcribes the code's form 11.6 there: DESIGN.md 4.3, outside the profile).
  `InRange t v` = `t.consistent` ∧ `rangeOk t v` (decidable, recursive over type and value):
    * INTEGER value within `i64`; ENUMERATED index `< total ≤ u64::MAX`; CHOICE `total ≤ u64::MAX`;
      SEQUENCE: number of components `≤ u64::MAX`; OCTET/BIT STRING length `≤ i64::MAX`;
    * SEQUENCE OF and restricted strings: fewer than 16384 items (finding F-frag: the announced
      fragment size is ignored there).  No condition on open-type sizes.
-/
namespace Asn1Verif.Props.C02
open Asn1Verif Asn1Verif.Per Asn1Verif.Uper Outcome

/-- C02, writer direction, outside the known deviation classes -/
theorem conform_write_partial (t : Ty) (v : Val) (bits : Bits)
    (hd : NoKnownDeviation t = true) (hr : InRange t v = true) (h : enc t v = ok bits) :
    X691.encode t v = some bits := by
  simp only [InRange, Bool.and_eq_true] at hr
  exact cw t hd hr.1 v bits hr.2 h

/-- … alternatives of a CHOICE … -/
theorem conform_write_alt_partial (alts : Fields) (i : Nat) (x : Val) (bits : Bits)
    (hd : alts.noDev alts.length = true) (hc : alts.consistent = true)
    (hr : rangeOkAlt alts i x = true) (h : encAlt alts i x = ok bits) :
    X691.encodeAlt alts i x = some bits := cwAlt alts alts.length hd hc i x bits hr h

/-- … and the components of a SEQUENCE/SET: the accumulator frame lemma.  Whatever the writer's
    append-only accumulator held before, a successful run over the components has appended exactly
    the four parts the specification builds (root presence bits, root component encodings, addition
    presence bits, addition open types), subject to the state of the extension machine
    (`Uper.Frame`). -/
theorem conform_write_fields_partial (fs : Fields) (vs : Vals) (rootLeft : Nat) (acc acc' : SeqAcc)
    (hd : fs.noDev rootLeft = true) (hc : fs.consistent = true) (hr : rangeOkFields fs vs = true)
    (h : encFields fs vs rootLeft acc = ok acc') :
    ∃ rp rb ap ab, X691.encodeFields fs vs rootLeft = some (rp, rb, ap, ab) ∧
      Frame acc acc' rp rb ap ab := cwFields fs rootLeft hd hc vs acc acc' hr h

/-- the writer's open type is 11.2 for every content length (16K fragmentation included) -/
theorem open_type_conform (content o : Bits) (h : Uper.openType content = ok o) :
    o = X691.openType content := openType_conform content o h

/-! ### reader direction -/

/-- C02, reader direction, for every value the writer accepts: the reader decodes the canonical
    X.691 encoding `xbits` of `v` — standing between arbitrary `pre` and `post` — to `v` and
    consumes exactly `xbits`.  (`conform_write_partial` + the round trip of C01; `WF` is the
    hypothesis of `C01.roundtrip_partial`: integers fit their Rust type, open-type contents below
    16K octets, no mandatory SEQUENCE OF addition.)
    NOT covered: canonical encodings of values the writer refuses although X.691 encodes them — an
    extensible SEQUENCE whose first extension addition is absent while a later one is present
    (`ExtensionFieldsInconsistent`); the reader side of that pattern is not proved here. -/
theorem conform_read_of_written (t : Ty) (v : Val) (xbits pre post : Bits)
    (hd : NoKnownDeviation t = true) (hr : InRange t v = true) (hw : WF t v = true)
    (hacc : (enc t v).isOk = true) (hx : X691.encode t v = some xbits) :
    dec t (pre ++ xbits ++ post) pre.length = ok (v, pre.length + xbits.length) := by
  match he : enc t v, hacc with
  | ok bits, _ =>
    cases (conform_write_partial t v bits hd hr he).symm.trans hx
    simp only [WF, Bool.and_eq_true] at hw
    exact (rt t hw.1.2 v xbits hw.2 he).between pre post

/-- the full reader statement (kept as a proposition; proved only in the form above) -/
def conform_read : Prop :=
  ∀ (t : Ty) (v : Val) (xbits pre post : Bits), InProfile t v = true →
    X691.encode t v = some xbits →
    dec t (pre ++ xbits ++ post) pre.length = ok (v, pre.length + xbits.length)

/-- … false for the current code: the canonical encoding `00000001 00000010` of the value 7 of
    `INTEGER (5..MAX)` is read as a 63-bit field (end of stream) -/
theorem conform_read_false : ¬ conform_read := fun h => by
  have := h (.int (some 5) (some I64_MAX) false 64 true) (.int 7)
    ([false, false, false, false, false, false, false, true] ++
      [false, false, false, false, false, false, true, false]) [] []
    (by decide +kernel) (by decide +kernel)
  have hok := congrArg Outcome.isOk this
  revert hok
  decide +kernel

/-! ### non-vacuity: an extensible SEQUENCE with OPTIONAL SEQUENCE OF, DEFAULT ENUMERATED, an
    extensible CHOICE and an OPTIONAL IA5String extension addition -/

def exTy : Ty :=
  .seq 2 5 (some 3)
    (.cons .m (.int (some 0) (some 255) false 8 false)
    (.cons .o (.seqOf (some 0) (some 4) true .bool)
    (.cons (.d (.enum 1)) (.enum 3 3 false)
    (.cons .m (.choice 2 3 true
      (.cons .m .bool (.cons .m .null (.cons .m (.oct none none false) .nil))))
    (.cons .o (.str .ia5 (some 1) (some 10) false) .nil)))))

/-- addition absent, root alternative -/
def exVal1 : Val :=
  .seq (.cons (.int 200) (.cons (.some (.list (.cons (.bool true) (.cons (.bool false) .nil))))
    (.cons (.enum 2) (.cons (.choice 0 (.bool true)) (.cons .none .nil)))))

/-- addition present, extension alternative (two open types) -/
def exVal2 : Val :=
  .seq (.cons (.int 200) (.cons (.some (.list (.cons (.bool true) (.cons (.bool false) .nil))))
    (.cons (.enum 1) (.cons (.choice 2 (.oct [0xAB#8])) (.cons (.some (.str [0x41#8])) .nil)))))

example : NoKnownDeviation exTy = true := by decide +kernel
example : InRange exTy exVal1 = true ∧ InRange exTy exVal2 = true := by decide +kernel
example : WF exTy exVal1 = true ∧ WF exTy exVal2 = true := by decide +kernel
example : enc exTy exVal1 = ok [false, true, true, true, true, false, false, true, false, false, false,
    false, false, true, false, true, false, true, false, false, false, true] := by decide +kernel
example : (enc exTy exVal2).isOk = true ∧ (X691.encode exTy exVal2).map Outcome.ok = some (enc exTy exVal2) := by
  decide +kernel

-- `conform_write_alt_partial`, `conform_write_fields_partial`: the parts of `exTy`
def exAlts : Fields := .cons .m .bool (.cons .m .null (.cons .m (.oct none none false) .nil))
example : exAlts.noDev exAlts.length = true ∧ exAlts.consistent = true ∧
    rangeOkAlt exAlts 2 (.oct [0xAB#8]) = true ∧ (encAlt exAlts 2 (.oct [0xAB#8])).isOk = true := by
  decide +kernel
def exFields : Fields :=
  .cons .m (.int (some 0) (some 255) false 8 false) (.cons .o (.seqOf (some 0) (some 4) true .bool) .nil)
def exVals : Vals := .cons (.int 200) (.cons .none .nil)
example : exFields.noDev 1 = true ∧ exFields.consistent = true ∧ rangeOkFields exFields exVals = true ∧
    (encFields exFields exVals 1 {}).isOk = true := by decide +kernel

/-! ### the full statement and its refutation, one witness per deviation class -/

/-- C02 at full strength: the whole profile of DESIGN.md section 4 -/
def conform_write : Prop :=
  ∀ (t : Ty) (v : Val) (bits : Bits), InProfile t v = true → enc t v = ok bits →
    X691.encode t v = some bits

/-- refutation from a witness -/
theorem conform_write_false_of (t : Ty) (v : Val) (bits : Bits) (hp : InProfile t v = true)
    (he : enc t v = ok bits) (hx : X691.encode t v ≠ some bits) : ¬ conform_write :=
  fun h => hx (h t v bits hp he)

/-- `INTEGER (5..MAX)`, value 7: the code writes a 63-bit constrained field, X.691 13.2.3 / 11.7
    demands the semi-constrained form `00000001 00000010` -/
theorem conform_write_false_int_lb_max : ¬ conform_write :=
  conform_write_false_of (.int (some 5) (some I64_MAX) false 64 true) (.int 7)
    (List.replicate 61 false ++ [true, false]) (by decide +kernel) (by decide +kernel)
    (by decide +kernel)

/-- the same with the upper bound absent from the descriptor -/
theorem conform_write_false_int_lb_none : ¬ conform_write :=
  conform_write_false_of (.int (some 5) none false 64 true) (.int 7)
    (List.replicate 61 false ++ [true, false]) (by decide +kernel) (by decide +kernel)
    (by decide +kernel)

/-- `INTEGER (MIN..10)`, value 3: written as `(0..10)` in 4 bits, X.691 13.2.4 / 11.8 demands the
    unconstrained form `00000001 00000011` -/
theorem conform_write_false_int_min_ub : ¬ conform_write :=
  conform_write_false_of (.int none (some 10) false 8 true) (.int 3)
    [false, false, true, true] (by decide +kernel) (by decide +kernel) (by decide +kernel)

/-- `OCTET STRING (SIZE(1..MAX))`, value `'00'H` (finding F-64k): the length is written as a 63-bit
    field, X.691 11.9.4.2 demands `00000001` -/
theorem conform_write_false_len_64k : ¬ conform_write :=
  conform_write_false_of (.oct (some 1) none false) (.oct [0#8])
    (List.replicate 63 false ++ List.replicate 8 false) (by decide +kernel) (by decide +kernel)
    (by decide +kernel)

/-- `SEQUENCE OF BOOLEAN (SIZE(0..65536))` with one element: 17-bit length instead of `00000001` -/
theorem conform_write_false_len_64k_seqof : ¬ conform_write :=
  conform_write_false_of (.seqOf (some 0) (some 65536) false .bool) (.list (.cons (.bool true) .nil))
    (List.replicate 16 false ++ [true, true]) (by decide +kernel) (by decide +kernel)
    (by decide +kernel)

/-- a MANDATORY extension addition of SEQUENCE OF type is written inline, X.691 19.9 demands an
    open type -/
theorem conform_write_false_mandatory_addition : ¬ conform_write :=
  conform_write_false_of
    (.seq 0 2 (some 0) (.cons .m .bool (.cons .m (.seqOf none none false .bool) .nil)))
    (.seq (.cons (.bool true) (.cons (.list (.cons (.bool true) .nil)) .nil)))
    ([true, true] ++ [false, false, false, false, false, false, false] ++ [true] ++
      [false, false, false, false, false, false, false, true, true])
    (by decide +kernel) (by decide +kernel) (by decide +kernel)

/-- Finding F-frag against the standard, for EVERY count `n ≥ 16K` (`SEQUENCE OF BOOLEAN`): the
    writer accepts and emits ONE length determinant `11 0000mm` followed by all `n` elements; X.691
    11.9.3.8 demands a length determinant per fragment (at least 8 more bits). -/
theorem frag_not_conform (bs : List Bool) (hn : 16384 ≤ bs.length) (hm : bs.length ≤ I64MAXu) :
    ∃ bits, enc (.seqOf none none false .bool) (.list (boolVals bs)) = ok bits ∧
      X691.encode (.seqOf none none false .bool) (.list (boolVals bs)) ≠ some bits :=
  ⟨_, enc_bools bs hm, Uper.frag_not_conform bs hn⟩

/-- … so the full statement fails in this class too: 20000 × TRUE -/
theorem conform_write_false_frag : ¬ conform_write := by
  have hl : (List.replicate 20000 true).length = 20000 := List.length_replicate
  obtain ⟨bits, he, hx⟩ := frag_not_conform (List.replicate 20000 true) (by rw [hl]; decide)
    (by rw [hl, I64MAXu_eq]; decide)
  refine conform_write_false_of _ _ bits ?_ he hx
  have h1 : (Ty.seqOf none none false .bool).consistent = true := rfl
  have h2 : (Ty.seqOf none none false .bool).inProfile = true := rfl
  have h3 : profileOk (.seqOf none none false .bool)
      (.list (boolVals (List.replicate 20000 true))) = true := by
    simp only [profileOk, boolVals_length, hl, Bool.and_eq_true, decide_eq_true_eq]
    exact ⟨by rw [I64MAXu_eq]; decide, allVals_bools _ (fun _ => rfl) _⟩
  have h4 : (X691.encode (.seqOf none none false .bool)
      (.list (boolVals (List.replicate 20000 true)))).isSome = true := by
    rw [x691_bools]; rfl
  simp only [InProfile, h1, h2, h3, h4, Bool.and_self]

end Asn1Verif.Props.C02
