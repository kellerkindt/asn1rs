import Asn1Verif.Front.ParserRoundTrip
/-
  parse ∘ print for nested types: SEQUENCE / SET (components, marker position, OPTIONAL / DEFAULT),
  SEQUENCE OF / SET OF, CHOICE, by mutual structural recursion.
-/
namespace Asn1Verif.Front.Syn
open Except

theorem length_printItemEnd (m last : Bool) : 1 ≤ (printItemEnd m last).length := by
  cases m <;> simp [printItemEnd]

theorem tyRT_components (isSet : Bool) (fs : UFields) (e : Option Nat) (hfs : FieldsRT fs) :
    TyRT (if isSet then .set fs e else .sequence fs e) := by
  intro f rest hw hnw _ hf
  cases isSet <;>
    simp only [tok, tyWf, Bool.and_eq_true, tyNoWiden, tyHead, tyTail, List.length_cons]
      at hw hnw hf ⊢ <;>
    rw [parseRoleGiven] <;>
    simp only [tok, kwClass_heads, maybeReadSize_brace, hfs e 0 f rest hw.1 hnw (by omega),
      extIn_all e _ hw.2, canonTy]

theorem tyRT_listOf (isSet : Bool) (t : UTy) (s : Size USz) (ht : TyRT t) :
    TyRT (if isSet then .setOf t s else .sequenceOf t s) := by
  intro f rest hw hnw hr hf
  obtain ⟨f, rfl⟩ : ∃ f', f = f' + 1 := ⟨f - 1, by
    cases isSet <;> simp only [tok, tyTail, List.length_append, List.length_cons] at hf <;> omega⟩
  have hs := fun hs => maybeReadSize_print s hs (.text "OF" :: .text (tyHead t) :: (tyTail t ++ rest))
    (RestOk.text _ _ eqIC_SIZE.2.2.1)
  cases isSet <;>
    simp only [tok, tyWf, Bool.and_eq_true, tyNoWiden, tyHead, tyTail, List.length_append,
      List.length_cons]
      at hw hnw hf ⊢ <;>
    rw [parseRoleGiven] <;>
    simp only [tok, kwClass_heads, hs hw.2, ht f rest hw.1 hnw hr (by omega), canonTy]

theorem tyRT_choice (vs : UVariants) (e : Option Nat) (hvs : VariantsRT vs) :
    TyRT (.choice vs e) := by
  intro f rest hw hnw _ hf
  simp only [tyWf, Bool.and_eq_true, decide_eq_true_eq, tyNoWiden, tyHead, tyTail,
    List.length_cons] at hw hnw hf ⊢
  rw [parseRoleGiven]
  simp only [tok, kwClass_heads, hvs e 0 false f rest hw.1.1 hw.1.2 hnw nofun (by omega),
    extIn_all e _ hw.2, canonTy]

theorem fieldsRT_nil : FieldsRT .nil := by
  intro ext i fuel rest _ _ hf
  obtain ⟨f, rfl⟩ : ∃ f, fuel = f + 1 := ⟨fuel - 1, by
    simp only [printFieldsLoop, List.length_cons] at hf; omega⟩
  rw [Fields.length, extIn_zero]
  rfl

theorem fieldsRT_cons (name : String) (tag : Option Tag) (ty : UTy) (d : Option UConst)
    (tl : UFields) (hty : TyRT (fieldCore ty).1) (htl : FieldsRT tl) :
    FieldsRT (.cons name tag ty d tl) := by
  intro ext i fuel rest hw hnw hf
  obtain ⟨htag, hcw, hod, hd, htlw⟩ := fieldsWf_cons name tag ty d tl hw
  simp only [fieldsNoWiden, Bool.and_eq_true] at hnw
  rw [← tyNoWiden_core] at hnw
  have hlen := congrArg List.length (printFieldsLoop_cons name tag ty d tl ext i [] hod)
  rw [List.append_nil] at hlen
  simp only [List.length_cons, List.length_append] at hlen
  -- an item and the marker that may follow it each spend one unit of the budget
  obtain ⟨f, rfl⟩ : ∃ f, fuel = f + 2 := ⟨fuel - 2, by omega⟩
  have next : ∀ f', (fieldsNext tl ext (i + 1) []).2.length ≤ f' →
      afterItem (componentLoop f' (i + 1)) .nil (fieldsNext tl ext (i + 1) rest).1
          (fieldsNext tl ext (i + 1) rest).2 =
        .ok ((canonFields tl, extIn ext (i + 1) tl.length), rest) := by
    intro f' hf'
    cases tl with
    | nil => rw [Fields.length, extIn_zero]; rfl
    | cons => exact htl ext (i + 1) f' rest htlw hnw.2 (by rwa [fieldsNext, List.append_nil] at hf')
  have step := fun (last : Bool) (more : List Token) =>
    componentLoop_field (f + 1) i name tag htag (tyHead (fieldCore ty).1) (tyTail (fieldCore ty).1)
      (canonTy (fieldCore ty).1) (fieldCore ty).2 d hod hd last more
      (hty f _ hcw hnw.1 (presenceToks_restOk _ _ _ more (closing_cases last)) (by omega))
  rw [printFieldsLoop_cons name tag ty d tl ext i rest hod, canonFields, canonTy_core, Fields.length]
  by_cases hm : ext = some i
  · subst hm
    rw [if_pos rfl] at hlen ⊢
    simp only [List.length_cons, List.length_nil] at hlen
    simp only [List.cons_append, List.nil_append]
    refine (step false _).trans ?_
    simp only [tok, afterItem_false, componentLoop_marker f (i + 1), next f (by omega),
      extIn_past i (i + 1) _ (Nat.lt_succ_self i), Nat.add_sub_cancel,
      extIn_here i _ (Nat.succ_pos _)]
  · rw [if_neg hm] at hlen ⊢
    rw [List.nil_append, step, next (f + 1) (by simp only [List.length_nil] at hlen; omega),
      FR.bind_ok, extIn_step ext i _ hm]

theorem variantsRT_nil : VariantsRT .nil := by
  intro ext i seen fuel rest h
  exact absurd h (Nat.lt_irrefl 0)

theorem variantsRT_cons (name : String) (tag : Option Tag) (ty : UTy) (tl : UVariants)
    (hty : TyRT ty) (htl : VariantsRT tl) : VariantsRT (.cons name tag ty tl) := by
  intro ext i seen fuel rest _ hw hnw hseen hf
  simp only [variantsWf, Bool.and_eq_true] at hw
  simp only [variantsNoWiden, Bool.and_eq_true] at hnw
  obtain ⟨⟨htag, htyw⟩, htlw⟩ := hw
  have hlen := congrArg List.length (printVariantsLoop_cons name tag ty tl ext i [])
  rw [List.append_nil] at hlen
  simp only [List.length_cons, List.length_append] at hlen
  obtain ⟨f, rfl⟩ : ∃ f, fuel = f + 2 := ⟨fuel - 2, by omega⟩
  have next : ∀ (seen' : Bool) (f' : Nat), (variantsNext tl ext (i + 1) []).2.length ≤ f' →
      (seen' = true → extIn ext (i + 1) tl.length = none) →
      afterItem (choiceLoop f' (i + 1) seen') .nil (variantsNext tl ext (i + 1) rest).1
          (variantsNext tl ext (i + 1) rest).2 =
        .ok ((canonVariants tl, extIn ext (i + 1) tl.length), rest) := by
    intro seen' f' hf' hs'
    cases tl with
    | nil => rw [Variants.length, extIn_zero]; rfl
    | cons =>
      exact htl ext (i + 1) seen' f' rest (Nat.succ_pos _) htlw hnw.2 hs'
        (by rwa [variantsNext, List.append_nil] at hf')
  have step := fun (last : Bool) (more : List Token) =>
    choiceLoop_alt (f + 1) i seen name tag htag (tyHead ty) (tyTail ty) (canonTy ty) last more
      (hty f _ htyw hnw.1
        (RestOk.sep _ more (by cases last <;> decide) (by cases last <;> decide)) (by omega))
  rw [Variants.length] at hseen
  rw [printVariantsLoop_cons name tag ty tl ext i rest, canonVariants, Variants.length]
  by_cases hm : ext = some i
  · subst hm
    have hs : seen = false := by
      cases seen with
      | false => rfl
      | true => have := hseen rfl; rw [extIn_here _ _ (Nat.succ_pos _)] at this; cases this
    subst hs
    rw [if_pos rfl] at hlen ⊢
    simp only [List.length_cons, List.length_nil] at hlen
    simp only [List.cons_append, List.nil_append]
    refine (step false _).trans ?_
    simp only [tok, afterItem_false, choiceLoop_marker f i,
      next true f (by omega) (fun _ => extIn_past i (i + 1) _ (Nat.lt_succ_self i)),
      extIn_here i _ (Nat.succ_pos _)]
  · rw [if_neg hm] at hlen ⊢
    rw [List.nil_append, step,
      next seen (f + 1) (by simp only [List.length_nil] at hlen; omega)
        (fun h => by rw [← extIn_step ext i _ hm]; exact hseen h),
      FR.bind_ok, extIn_step ext i _ hm]

theorem tyRT_optional_vacuous (t : UTy) : TyRT (.optional t) := by
  intro fuel rest hw
  rw [tyWf] at hw
  cases hw

mutual
/-- also for the type proper of a component type: the step for a component needs
    `TyRT (fieldCore ty).1`, and `(fieldCore ty).1` is not a syntactic subterm of the component list,
    so the recursion could not ask for it there -/
theorem tyRT_all : ∀ t : UTy, TyRT t ∧ TyRT (fieldCore t).1
  | .boolean => ⟨tyRT_boolean, tyRT_boolean⟩
  | .integer r cs => ⟨tyRT_integer r cs, tyRT_integer r cs⟩
  | .string s c => ⟨tyRT_string s c, tyRT_string s c⟩
  | .octetString s => ⟨tyRT_octetString s, tyRT_octetString s⟩
  | .bitString s cs => ⟨tyRT_bitString s cs, tyRT_bitString s cs⟩
  | .null => ⟨tyRT_null, tyRT_null⟩
  | .optional t => ⟨tyRT_optional_vacuous t, (tyRT_all t).1⟩
  | .sequence fs e =>
    have h := tyRT_components false fs e (fieldsRT_all fs)
    ⟨h, h⟩
  | .sequenceOf t s =>
    have h := tyRT_listOf false t s (tyRT_all t).1
    ⟨h, h⟩
  | .set fs e =>
    have h := tyRT_components true fs e (fieldsRT_all fs)
    ⟨h, h⟩
  | .setOf t s =>
    have h := tyRT_listOf true t s (tyRT_all t).1
    ⟨h, h⟩
  | .enumerated e => ⟨tyRT_enumerated e, tyRT_enumerated e⟩
  | .choice vs e =>
    have h := tyRT_choice vs e (variantsRT_all vs)
    ⟨h, h⟩
  | .typeReference n tag => ⟨tyRT_typeReference n tag, tyRT_typeReference n tag⟩

theorem fieldsRT_all : ∀ fs : UFields, FieldsRT fs
  | .nil => fieldsRT_nil
  | .cons name tag ty d tl => fieldsRT_cons name tag ty d tl (tyRT_all ty).2 (fieldsRT_all tl)

theorem variantsRT_all : ∀ vs : UVariants, VariantsRT vs
  | .nil => variantsRT_nil
  | .cons name tag ty tl => variantsRT_cons name tag ty tl (tyRT_all ty).1 (variantsRT_all tl)
end

/-- `parse_print_Type`: the canonical form is read back and exactly `rest` is left; nesting is
    unbounded -/
theorem parseRoleGiven_print (t : UTy) (fuel : Nat) (rest : List Token) (hw : tyWf t = true)
    (hnw : tyNoWiden t = true) (hr : RestOk rest)
    (hf : (tyTail t).length < fuel) :
    parseRoleGiven fuel (tyHead t) (tyTail t ++ rest) = .ok (canonTy t, rest) := by
  obtain ⟨f, rfl⟩ : ∃ f, fuel = f + 1 := ⟨fuel - 1, by omega⟩
  exact (tyRT_all t).1 f rest hw hnw hr (by omega)

end Asn1Verif.Front.Syn
