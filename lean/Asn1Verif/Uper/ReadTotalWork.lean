import Asn1Verif.Uper.ReadTotal
/-
  C04, part 3 — work and allocation of the reader relative to the input size.  All functions of
  `Uper/Impl.lean` and `Per/Prim.lean` are total Lean definitions (structural recursion over `Ty` / `Fields` /
  `Nat`, well-founded recursion on the remaining input resp. on `nRead - idx` for the three loops): the model
  cannot "hang".  What is left is quantitative: a successful SEQUENCE OF has consumed `minBits` of its element
  type per element returned (`seqOf_count`: at most `inp.length` elements when that is ≥ 1); octet, bit and
  restricted strings 8, 1, `charWidth` bits per unit returned.  For element types of width zero (NULL,
  `INTEGER (5..5)`, an empty SEQUENCE, …) the number of loop iterations is the announced length, whatever the
  input size: `decListWith_null`.
-/
namespace Asn1Verif.Uper
open Asn1Verif Outcome Per Per.RT

theorem decListWith_length {r : RdP Val} {inp : Bits} :
    ∀ (n pos : Nat) (vs : Vals) (p : Nat), decListWith r n inp pos = ok (vs, p) → vs.length = n
  | 0, pos, vs, p, h => by
    simp only [decListWith, ok.injEq, Prod.mk.injEq] at h
    rw [← h.1]; rfl
  | n + 1, pos, vs, p, h => by
    unfold decListWith at h
    obtain ⟨⟨v, p1⟩, _, h2⟩ := bind_eq_ok.1 h
    obtain ⟨⟨vs', p2⟩, h3, h4⟩ := bind_eq_ok.1 h2
    simp only [ok.injEq, Prod.mk.injEq] at h4
    rw [← h4.1]
    simp only [Vals.length, decListWith_length n p1 vs' p2 h3]

theorem decListWith_null (inp : Bits) (pos : Nat) :
    ∀ n, decListWith (dec .null) n inp pos = ok (Vals.ofList (List.replicate n .null), pos)
  | 0 => rfl
  | n + 1 => by
    unfold decListWith
    rw [show dec .null inp pos = ok (.null, pos) from rfl]
    simp only [bind_ok]
    rw [decListWith_null inp pos n]
    rfl

theorem liftL1_took {α : Type} {r : Per.Rd α} {m : α → Nat} (hr : ∀ bs, Reads m bs (r bs))
    {inp : Bits} {pos p : Nat} {a : α} (h : liftL1 r inp pos = ok (a, p)) (hp : pos ≤ inp.length) :
    pos + m a ≤ p := by
  unfold liftL1 at h
  split at h
  · rename_i a' rest e
    simp only [ok.injEq, Prod.mk.injEq] at h
    have := (hr _).of_ok e
    rw [List.length_drop] at this
    rw [← h.1, ← h.2]; omega
  · simp at h
  · simp at h

theorem seqOf_count {min max : Option Nat} {ext : Bool} {elem : Ty} {inp : Bits} {pos p : Nat}
    {v : Val} (h : dec (.seqOf min max ext elem) inp pos = ok (v, p)) (hp : pos ≤ inp.length) :
    ∃ vs, v = .list vs ∧ vs.length * elem.minBits + pos ≤ p ∧ p ≤ inp.length := by
  obtain ⟨⟨isExt, p0⟩, h0, h⟩ := bind_eq_ok.1 h
  obtain ⟨⟨len, p1⟩, h1, h⟩ := bind_eq_ok.1 h
  obtain ⟨⟨vs, p2⟩, h2, h⟩ := bind_eq_ok.1 h
  simp only [ok.injEq, Prod.mk.injEq] at h
  have b0 := (extBitP_good ext false inp pos).zero.bounds h0 hp
  have b1 := (lenP_good isExt min max inp p0).bounds h1 b0.2
  have b2 := (decListWith_goodN (fun q => dec_goodN elem inp q) len p1).bounds h2 b1.2
  have hl := decListWith_length len p1 vs p2 h2
  refine ⟨vs, h.1.symm, ?_, ?_⟩
  · rw [hl, ← h.2]; omega
  · rw [← h.2]; exact b2.2

theorem dec_oct_len_le {min max : Option Nat} {ext : Bool} {inp : Bits} {pos p : Nat} {v : Val}
    (h : dec (.oct min max ext) inp pos = ok (v, p)) (hp : pos ≤ inp.length) :
    ∃ b, v = .oct b ∧ 8 * b.length + pos ≤ p := by
  obtain ⟨⟨b, p0⟩, h0, h⟩ := bind_eq_ok.1 h
  simp only [ok.injEq, Prod.mk.injEq] at h
  have := liftL1_took (rOctets_reads min max ext) h0 hp
  exact ⟨b, h.1.symm, by omega⟩

theorem dec_bits_len_le {min max : Option Nat} {ext : Bool} {inp : Bits} {pos p : Nat} {v : Val}
    (h : dec (.bits min max ext) inp pos = ok (v, p)) (hp : pos ≤ inp.length) :
    ∃ b, v = .bits b ∧ b.length + pos ≤ p := by
  obtain ⟨⟨b, p0⟩, h0, h⟩ := bind_eq_ok.1 h
  simp only [ok.injEq, Prod.mk.injEq] at h
  have := liftL1_took (rBitString_reads min max ext) h0 hp
  exact ⟨b, h.1.symm, by omega⟩

theorem dec_str_len_le {cs : Charset} {min max : Option Nat} {ext : Bool} {inp : Bits}
    {pos p : Nat} {v : Val}
    (h : dec (.str cs min max ext) inp pos = ok (v, p)) (hp : pos ≤ inp.length) :
    ∃ b, v = .str b ∧ b.length * strUnit cs + pos ≤ p := by
  cases cs with
  | utf8 =>
    obtain ⟨⟨o, p0⟩, h0, h⟩ := bind_eq_ok.1 h
    have := liftL1_took (rOctets_reads none none false) h0 hp
    dsimp only at h
    split at h
    · simp only [ok.injEq, Prod.mk.injEq] at h
      exact ⟨o, h.1.symm, by simp only [strUnit]; omega⟩
    · simp at h
  | _ =>
    obtain ⟨⟨isExt, p0⟩, h0, h⟩ := bind_eq_ok.1 h
    obtain ⟨⟨len, p1⟩, h1, h⟩ := bind_eq_ok.1 h
    have b0 := (extBitP_good ext false inp pos).zero.bounds h0 hp
    have b1 := (lenP_good isExt min max inp p0).bounds h1 b0.2
    dsimp only at h
    split at h
    · simp at h
    · simp only [ok.injEq, Prod.mk.injEq] at h
      refine ⟨_, h.1.symm, ?_⟩
      simp only [List.length_map, List.length_range, strUnit]
      omega

/-- the open finding: `SEQUENCE (SIZE (0..MAX)) OF NULL` (the length field is 63 bits wide): for EVERY
    `n < 2^63` the 63-bit input `n` decodes to a list of `n` elements — `n` loop runs on 63 bits of input -/
theorem seqOf_null_unbounded (n : Nat) (hn : n < 2 ^ 63) :
    dec (.seqOf (some 0) (some I64MAXu) false .null) (natBits 63 n) 0 =
      ok (.list (Vals.ofList (List.replicate n .null)), 63) := by
  have hnn : rNNBIc (some 0) (some I64MAXu) (natBits 63 n) = ok (n, []) := by
    have hw : bitWidth ((some I64MAXu).getD I64MAXu - (some 0).getD 0) = 63 := by decide
    have := rNNBIc_rt (some 0) (some I64MAXu) n [] (Nat.zero_le n)
      (by rw [Option.getD_some, I64MAXu_eq]; omega) (by rw [U64_MAX_eq]; omega)
    rwa [hw, List.append_nil] at this
  have hlen : rLen (some 0) (some I64MAXu) (natBits 63 n) = ok (n, []) := by
    unfold rLen
    dsimp only
    rw [if_pos (by decide), if_neg (by decide)]
    exact hnn
  unfold dec
  simp only [Bool.false_eq_true, ↓reduceIte, bind_ok]
  have hl : liftL1 (rLen (some 0) (some I64MAXu)) (natBits 63 n) 0 = ok (n, 63) := by
    unfold liftL1
    rw [List.drop_zero, hlen]
    simp only [natBits_length, List.length_nil, Nat.sub_zero]
  rw [hl]
  simp only [bind_ok, decListWith_null]

end Asn1Verif.Uper
