import Asn1Verif.Uper.ConformNode
import Asn1Verif.Uper.SeqLemmas
/-
  C02, writer side — SEQUENCE / SET.  The writer (`encFields`) walks the components from the left, appending
  to four buffers while running the extension state machine; the specification (`X691.encodeFields`) builds
  the four parts by recursion from the right.  `Frame` says what one run of `encFields` has appended, per
  state of the machine; `Frame.root_step` / `Frame.add_step` put one component in front of a run.
-/
namespace Asn1Verif.Uper
open Asn1Verif Outcome Per

/-- presence flag of a component value and the value whose encoding is its content -/
def fieldView : Kind → Val → Option (Bool × Val)
  | .m, v => some (true, v)
  | .o, .none => some (false, .none)
  | .o, .some x => some (true, x)
  | .o, _ => none
  | .d dv, v => some (!(v == dv), v)

theorem fieldView_eq (k : Kind) (v : Val) :
    fieldView k v = (presentOf k v).map fun p => (p, contentOf k v) := by
  cases k <;> first | rfl | (cases v <;> rfl)

theorem encFields_cons_view (k : Kind) (t : Ty) (rest : Fields) (v : Val) (vs : Vals) (rootLeft : Nat)
    (acc : SeqAcc) :
    encFields (.cons k t rest) (.cons v vs) rootLeft acc =
      match fieldView k v with
      | none => err .illTyped
      | some (p, x) =>
        acc.step k t (decide (rootLeft > 0)) p (fun _ => enc t x) >>= fun acc' =>
          encFields rest vs (rootLeft - 1) acc' := by
  rw [encFields_cons, fieldView_eq]
  cases presentOf k v <;> rfl

theorem encodeFields_cons (k : Kind) (t : Ty) (rest : Fields) (v : Val) (vs : Vals) (rootLeft : Nat) :
    X691.encodeFields (.cons k t rest) (.cons v vs) rootLeft =
      match fieldView k v, X691.encodeFields rest vs (rootLeft - 1) with
      | some (p, x), some (rp, rb, ap, ab) =>
        match (if p = true then X691.encode t x else some []) with
        | some c =>
          if rootLeft > 0 then some ((if k.isOptional then [p] else []) ++ rp, c ++ rb, ap, ab)
          else some (rp, rb, p :: ap, (if p = true then X691.openType c else []) ++ ab)
        | none => none
      | _, _ => none := by
  cases k with
  | o =>
    cases v <;> dsimp only [X691.encodeFields, fieldView, X691.present] <;>
      cases X691.encodeFields rest vs (rootLeft - 1) <;> rfl
  | _ =>
    dsimp only [X691.encodeFields, fieldView, X691.present]
    cases X691.encodeFields rest vs (rootLeft - 1) with
    | none => rfl
    | some q =>
      obtain ⟨rp, rb, ap, ab⟩ := q
      dsimp only
      first
        | cases X691.encode t v <;> rfl
        | cases (!(v == _)) <;> cases X691.encode t v <;> rfl

/-- what `encFields` has appended to the accumulator, per state of the extension machine:
    `all`   – every addition is recorded (bitmap bit + open type);
    `empty` – the first addition was absent: every further one is absent and nothing is recorded;
    `root`  – either the first addition seen was present (then as `all`) or none was present -/
def Frame (acc acc' : SeqAcc) (rp rb ap ab : Bits) : Prop :=
  acc'.rootPres = acc.rootPres ++ rp ∧ acc'.rootBody = acc.rootBody ++ rb ∧
  match acc.st with
  | .all => acc'.st = .all ∧ acc'.addPres = acc.addPres ++ ap ∧ acc'.addBody = acc.addBody ++ ab
  | .empty => acc'.st = .empty ∧ ap.any id = false
  | .root =>
    (acc'.st = .all ∧ ap.any id = true ∧ acc'.addPres = acc.addPres ++ ap ∧
      acc'.addBody = acc.addBody ++ ab) ∨
    (acc'.st ≠ .all ∧ ap.any id = false)

theorem Frame.root_step {acc acc1 acc' : SeqAcc} {k : Kind} {t : Ty} {p : Bool}
    {content : Unit → Outcome Bits} {rp rb ap ab : Bits}
    (hs : acc.step k t true p content = ok acc1) (hf : Frame acc1 acc' rp rb ap ab) :
    ∃ body, (if p = true then content () else ok []) = ok body ∧
      Frame acc acc' ((if k.isOptional then [p] else []) ++ rp) (body ++ rb) ap ab := by
  obtain ⟨body, hb, rfl⟩ := step_root_ok hs
  refine ⟨body, hb, ?_⟩
  unfold Frame at hf ⊢
  simpa only [List.append_assoc] using hf

theorem Frame.add_step {acc acc1 acc' : SeqAcc} {k : Kind} {t : Ty} {p : Bool}
    {content : Unit → Outcome Bits} {rp rb ap ab : Bits}
    (hs : acc.step k t false p content = ok acc1) (hf : Frame acc1 acc' rp rb ap ab) :
    ∃ body, (if p = true then addContent k t content else ok []) = ok body ∧
      Frame acc acc' rp rb (p :: ap) (body ++ ab) := by
  obtain ⟨body, hb, rfl, hr⟩ := step_add_ok hs
  refine ⟨body, hb, ?_⟩
  unfold Frame at hf ⊢
  cases hst : acc.st <;> cases p <;> simp only [hst, emitAdd, finalSt] at hf hr ⊢
  case empty.true => cases hr
  case empty.false =>
    cases hb
    simpa using hf
  case root.false =>
    obtain ⟨h1, h2, h3, h4⟩ := hf
    exact ⟨h1, h2, Or.inr ⟨by simp [h3], by simpa using h4⟩⟩
  all_goals simpa using hf

theorem rangeOkFields_cons {k : Kind} {t : Ty} {r : Fields} {v : Val} {vs : Vals} {p : Bool} {x : Val}
    (hr : rangeOkFields (.cons k t r) (.cons v vs) = true) (hv : fieldView k v = some (p, x)) :
    (p = true → rangeOk t x = true) ∧ rangeOkFields r vs = true := by
  unfold rangeOkFields at hr
  simp only [Bool.and_eq_true] at hr
  refine ⟨fun hp => ?_, hr.2⟩
  cases k with
  | o =>
    cases v <;> cases hv
    · cases hp
    · exact hr.1
  | _ => cases hv; exact hr.1

def ConformFields (fs : Fields) (rootLeft : Nat) : Prop :=
  ∀ vs acc acc', rangeOkFields fs vs = true → encFields fs vs rootLeft acc = ok acc' →
    ∃ rp rb ap ab, X691.encodeFields fs vs rootLeft = some (rp, rb, ap, ab) ∧
      Frame acc acc' rp rb ap ab

theorem cwFields_nil (rootLeft : Nat) : ConformFields .nil rootLeft := by
  intro vs acc acc' _ h
  cases vs with
  | cons v vs => cases h
  | nil =>
    cases h
    refine ⟨[], [], [], [], rfl, ?_⟩
    unfold Frame
    cases acc.st <;> simp

theorem cwFields_cons {k : Kind} {t : Ty} {rest : Fields} {rootLeft : Nat} (iht : Conform t)
    (ihr : ConformFields rest (rootLeft - 1))
    (hw : (decide (rootLeft > 0) || k.isOptional || t.buffersOnWrite) = true) :
    ConformFields (.cons k t rest) rootLeft := by
  intro vs acc acc' hr h
  cases vs with
  | nil => cases h
  | cons v vs =>
    rw [encFields_cons_view] at h
    rw [encodeFields_cons]
    cases hv : fieldView k v with
    | none => rw [hv] at h; cases h
    | some px =>
      obtain ⟨p, x⟩ := px
      rw [hv] at h
      obtain ⟨acc1, hs, h⟩ := bind_eq_ok.1 h
      obtain ⟨hx, hrt⟩ := rangeOkFields_cons hr hv
      obtain ⟨rp, rb, ap, ab, he, hf⟩ := ihr vs acc1 acc' hrt h
      rw [he]
      dsimp only
      by_cases hroot : rootLeft > 0
      · rw [decide_eq_true hroot] at hs
        obtain ⟨body, hb, hf⟩ := hf.root_step hs
        cases p with
        | false => cases hb; exact ⟨_, _, _, _, if_pos hroot, hf⟩
        | true =>
          rw [if_pos rfl, iht x body (hx rfl) hb]
          exact ⟨_, _, _, _, if_pos hroot, hf⟩
      · rw [decide_eq_false hroot] at hs
        rw [decide_eq_false hroot, Bool.false_or] at hw
        obtain ⟨body, hb, hf⟩ := hf.add_step hs
        cases p with
        | false => cases hb; exact ⟨_, _, _, _, if_neg hroot, hf⟩
        | true =>
          -- a present addition is an open type on both sides
          obtain ⟨c, hc, ho⟩ := bind_eq_ok.1 hb
          rw [if_pos hw] at ho
          cases openType_conform _ _ ho
          rw [if_pos rfl, iht x c (hx rfl) hc]
          exact ⟨_, _, _, _, if_neg hroot, hf⟩

theorem encodeFields_addCount : ∀ (fs : Fields) (vs : Vals) (rootLeft : Nat) (rp rb ap ab : Bits),
    X691.encodeFields fs vs rootLeft = some (rp, rb, ap, ab) → ap.length = fs.length - rootLeft
  | .nil, .nil, _, _, _, _, _, h => by cases h; simp [Fields.length]
  | .nil, .cons .., _, _, _, _, _, h => by cases h
  | .cons .., .nil, _, _, _, _, _, h => by cases h
  | .cons k t rest, .cons v vs, rootLeft, rp, rb, ap, ab, h => by
    rw [encodeFields_cons] at h
    split at h
    · rename_i he
      have ih := encodeFields_addCount rest vs _ _ _ _ _ he
      unfold Fields.length
      split at h
      · split at h <;> cases h
        · omega
        · simp only [List.length_cons]; omega
      · cases h
    · cases h
end Asn1Verif.Uper
