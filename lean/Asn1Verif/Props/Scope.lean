import Asn1Verif.Uper.ScopeRefineWrite
import Asn1Verif.Uper.ScopeRefineRead
import Asn1Verif.Uper.RejTotalLemmas
/-
  Scope — the compositional L2 mirror (`Uper/Impl.lean`: `enc`, `dec`) against the FAITHFUL mirror of
  the scope machine of `src/rw/uper.rs` (`Uper/Scope.lean`: `Scope.write`, `Scope.read` with
  `Scope`, `write_bit_field_entry`, `with_buffer`, `scope_pushed`, position patching).

  Not a numbered property: it strengthens the tie of C01–C06, whose theorems speak about `enc`/`dec`.
  The correspondence streams of the `uper` driver answer every `enc`/`rt`/`dec`/`conf`/`cross`/`many`
  request with both models (`scope-mismatch` if they differ), so the scope machine is validated
  against the real code on every stream and the theorems below carry the C-properties over to it.

  Models: `Uper/Scope.lean`.  Lemmas, writer: `Uper/ScopeLemmas.lean`, `Uper/ScopeRefineW.lean` (one
  component call = one `SeqAcc.step`; invariant of the walk), `Uper/ScopeRefineWrite.lean` (mutual
  induction over `Ty`/`Fields`).  Lemmas, reader: `Uper/ScopeLemmasR.lean`, `Uper/ScopeRefineR.lean`
  (the scope as a function of the parameters of `decFields`; one bit-field entry = the presence bit
  `decFields` reads; the skip loop), `Uper/ScopeRefineRead.lean` (invariant, simulation, mutual
  induction).

  Overview
    writer  `write_refines_in_scope`, `write_refines`, `encode_refines`, `no_patch_beyond_written`
            — FULL: every consistent descriptor (extensible or not), every value, every outcome.
    reader  `read_refines_in_scope`, `read_refines_partial`, `decode_refines_partial`,
            `read_never_panics` — every consistent descriptor without a mandatory extension
            addition of type SEQUENCE/SET (`Ty.noMandatorySeqAddition`; the converter never
            generates one); `ReadRefinesFull` is the statement without that hypothesis,
            `read_refines_full_false` the counterexample (there the REAL reader swallows a failed
            read of the extension header and goes on; `Impl.dec` propagates the error — the
            scope machine is right, checked against the crate).

  Hypotheses that remain (and why)
    * `t.consistent`: the generated constants agree with the component list (tie of C08; the
      driver refuses other descriptors).  Without it the scope machine patches beyond its
      bitmaps / runs into the `debug_assert!` of `scope_pushed`, `Impl` does something else.
    * reader: `inp.length < U64_MAX` — positions are `usize`; `saturating_add` in
      `read_from_field` is the identity below that; `pos ≤ inp.length` — invariant of `Bits`.
-/
namespace Asn1Verif.Props.Scope
open Asn1Verif Asn1Verif.Uper Asn1Verif.Per Outcome

/-! ### writer -/

/-- The refinement in an arbitrary enclosing scope (the component invariant): for a consistent
    descriptor, `T::write_value` in ANY writer state is `write_bit_field_entry(false, true)`
    followed by the compositional encoding of the value — wrapped as an open type exactly when the
    type's `write_*` goes through `with_buffer` and the scope is in its extension part. -/
theorem write_refines_in_scope (t : Ty) (hc : t.consistent = true) (v : Val) (w : Scope.W) :
    Scope.write t v w =
      Scope.writeBitFieldEntry w false true >>= fun w1 =>
        enc t v >>= fun c =>
          (if t.buffersOnWrite && Scope.openTy w1.scope then openType c else ok c) >>= fun b =>
            ok (w1.append b) := by
  rw [Scope.write_eq_comp t hc v w]
  simp only [Scope.comp, if_true, Outcome.bind_assoc]

/-- The position-patching writer refines to the compositional mirror: same outcome (`ok`, the same
    `err` kind, `panic`); on `ok` the buffer is `pre ++ bits` and the scope is restored.  In both
    modes of modelling choice (W1). -/
theorem write_refines (t : Ty) (hc : t.consistent = true) (v : Val) (pre : Bits) (strict : Bool) :
    Scope.write t v (Scope.W.of pre none strict) =
      enc t v >>= fun bits => ok (Scope.W.of (pre ++ bits) none strict) :=
  Scope.plain_of_comp (Scope.write_eq_comp t hc v) pre strict

/-- a whole message -/
theorem encode_refines (t : Ty) (hc : t.consistent = true) (v : Val) :
    Scope.encode t v = enc t v >>= fun bits => ok (Scope.W.of bits none false) := by
  unfold Scope.encode
  rw [Scope.fresh_eq, write_refines t hc v [] false]
  simp

/-- For consistent descriptors no patch (`with_write_position_at`) ever lands at or beyond the
    written length, anywhere during the run (also not in a run that ends with an error, nor inside
    a sub-writer of an open type): the strict mode of the model, in which such a patch is an
    immediate `panic`, computes what the faithful mode computes — and never panics, so neither the
    padding quirk of (W1) nor the `debug_assert!`s of `with_write_position_at` and `scope_pushed`
    nor the unsigned subtractions `FIELD_COUNT - (extension_after + 1)`, `number_of_ext_fields - 1`
    are ever hit. -/
theorem no_patch_beyond_written (t : Ty) (hc : t.consistent = true) (v : Val) (pre : Bits) :
    (Scope.write t v (Scope.W.of pre none true) >>= fun w => ok w.bits) =
      (Scope.write t v (Scope.W.of pre none false) >>= fun w => ok w.bits) ∧
    Scope.write t v (Scope.W.of pre none true) ≠ panic := by
  rw [write_refines t hc v pre true, write_refines t hc v pre false]
  have hp := enc_ne_panic t v
  cases h : enc t v with
  | ok bits => exact ⟨by simp, by simp⟩
  | err k => exact ⟨rfl, by simp⟩
  | panic => exact absurd h hp

/-- non-vacuity of `no_patch_beyond_written`: with a wrong generated constant
    (`STD_OPTIONAL_FIELDS = 0` for a SEQUENCE with one OPTIONAL component) the presence bit is
    patched at position 8 of an 8-bit buffer.  The faithful mode loses the bit (in the real buffer it
    lands in a fresh octet behind the written length) and goes on — here until the `debug_assert!`
    of `scope_pushed` —, the strict mode stops at the patch. -/
example :
    Scope.writeBitFieldEntry (Scope.W.of (List.replicate 8 true) (some (.optBitField 8 8)) false) true true =
      ok (Scope.W.of (List.replicate 8 true) (some (.optBitField 9 8)) false) ∧
    Scope.writeBitFieldEntry (Scope.W.of (List.replicate 8 true) (some (.optBitField 8 8)) true) true true =
      panic := by
  decide +kernel

/-- non-vacuity of `write_refines`: an extensible SEQUENCE with a root OPTIONAL and a present
    addition — extension bit and presence bit are patched, the addition is an open type -/
example :
    (Ty.seq 1 3 (some 1) (.cons .m .bool (.cons .o .bool (.cons .o .bool .nil)))).consistent = true ∧
    Scope.write (.seq 1 3 (some 1) (.cons .m .bool (.cons .o .bool (.cons .o .bool .nil))))
      (.seq (.cons (.bool true) (.cons (.some (.bool false)) (.cons (.some (.bool true)) .nil))))
      (Scope.W.of [true] none false) =
    ok (Scope.W.of ([true] ++ ([true, true, true, false] ++ [false, false, false, false, false, false, false] ++ [true] ++
        [false, false, false, false, false, false, false, true,
         true, false, false, false, false, false, false, false])) none false) := by
  decide +kernel

/-- non-vacuity, directly on the scope machine (no refinement used): a root OPTIONAL is patched -/
example :
    Scope.write (.seq 1 2 none (.cons .o .bool (.cons .m .bool .nil)))
      (.seq (.cons (.some (.bool false)) (.cons (.bool true) .nil))) (Scope.W.of [false] none true) =
    ok (Scope.W.of [false, true, false, true] none true) := by decide +kernel

/-! ### reader -/

/-- The refinement in an arbitrary enclosing scope: `T::read_value` in ANY reader state (window =
    the whole input, cursor inside) is the bit-field entry — propagated with `?`, swallowed by
    `read_sequence` — followed by the compositional reader, behind a length determinant and with
    the cursor moved to the announced end exactly when the type's `read_*` goes through
    `with_buffer` and the scope is in its extension part (`Scope.rcomp`, `Scope.rbody`). -/
theorem read_refines_in_scope (t : Ty) (hc : t.consistent = true)
    (hm : t.noMandatorySeqAddition = true) (inp : Bits) (hL : inp.length < U64_MAX) (r : Scope.R)
    (hl : r.len = inp.length) (hp : r.pos ≤ inp.length) :
    Scope.read t inp r = Scope.rcomp t.isSeq t.buffersOnRead (dec t) inp r :=
  Scope.read_ok t hc hm inp hL r hl hp

/-- The scope-keeping reader refines to the compositional mirror: same outcome (`ok`, the same
    `err` kind, `panic`); on `ok` the same value, the same cursor, the scope restored. -/
theorem read_refines_partial (t : Ty) (hc : t.consistent = true)
    (hm : t.noMandatorySeqAddition = true) (inp : Bits) (hL : inp.length < U64_MAX) (pos : Nat)
    (hp : pos ≤ inp.length) :
    Scope.read t inp ⟨pos, inp.length, none⟩ =
      dec t inp pos >>= fun vp => ok (vp.1, ⟨vp.2, inp.length, none⟩) :=
  Scope.plainR_of_readOk (Scope.read_ok t hc hm inp hL) pos hp

/-- a whole message -/
theorem decode_refines_partial (t : Ty) (hc : t.consistent = true)
    (hm : t.noMandatorySeqAddition = true) (inp : Bits) (hL : inp.length < U64_MAX) :
    Scope.decode t inp 0 = dec t inp 0 >>= fun vp => ok (vp.1, ⟨vp.2, inp.length, none⟩) :=
  read_refines_partial t hc hm inp hL 0 (Nat.zero_le _)

/-- the reader of the scope machine never panics there: neither the `debug_assert!` of
    `scope_pushed` nor the `unwrap()` of `read_opt`/`read_default` nor `FIELD_COUNT -
    (extension_after + 1)` is ever hit (`dec` never panics: C04) -/
theorem read_never_panics (t : Ty) (hc : t.consistent = true)
    (hm : t.noMandatorySeqAddition = true) (inp : Bits) (hL : inp.length < U64_MAX) (pos : Nat)
    (hp : pos ≤ inp.length) : Scope.read t inp ⟨pos, inp.length, none⟩ ≠ panic := by
  rw [read_refines_partial t hc hm inp hL pos hp]
  have := (dec_good t inp pos).ne_panic
  cases h : dec t inp pos with
  | ok vp => simp
  | err k => simp
  | panic => exact absurd h this

/-- the full statement: without the hypothesis on mandatory SEQUENCE-typed additions -/
def ReadRefinesFull : Prop :=
  ∀ (t : Ty), t.consistent = true → ∀ (inp : Bits), inp.length < U64_MAX →
    Scope.decode t inp 0 = dec t inp 0 >>= fun vp => ok (vp.1, ⟨vp.2, inp.length, none⟩)

/-- `Outer ::= SEQUENCE { a BOOLEAN, ..., b Inner }`, `Inner ::= SEQUENCE {}` with `b` NOT wrapped
    in `Option` (hand-written descriptor; the converter would generate `Option<Inner>`) -/
def cxOuter : Ty := .seq 0 2 (some 0) (.cons .m .bool (.cons .m (.seq 0 0 none .nil) .nil))

/-- extension bit `1`, `a = 1`, then `110` = the beginning of a normally small length ≥ 64 whose
    14-bit length field is cut off by the end of the input, then `0000000 0` -/
def cxInp : Bits :=
  [true, true, true, true, false, false, false, false, false, false, false, false, false]

def cxVals : Vals := .cons (.bool true) (.cons (.seq .nil) .nil)
def cxB : Scope.R := ⟨5, 13, some (.extensibleSequence 0 (some (1, 1)) 0 1)⟩
def cxC : Scope.R := ⟨13, 13, some (.allBitField 13 13)⟩

/-- the compositional mirror: the header of the extension part cannot be read -/
theorem cx_dec_outer : dec cxOuter cxInp 0 = err .endOfStream := by rfl

theorem cx_skip_outer : Scope.skipUnknownAdditions cxInp cxB = ok cxC := by
  rw [Scope.skipUnknownAdditions_eq]
  have h1 : Scope.skipMore cxB.scope = true := by decide
  have h2 : Scope.entryQ cxInp cxB true = ok (some false, cxC) := by decide
  simp only [h1, if_true, h2, bind_ok, Option.getD_some, Bool.false_eq_true, if_false]
  rw [Scope.skipUnknownAdditions_eq]
  have h3 : Scope.skipMore cxC.scope = false := by decide
  simp only [h3, Bool.false_eq_true, if_false]

/-- the scope machine up to the skip loop: `read_sequence` of `b` has swallowed the failed header
    read, the cursor stands behind the three bits the failed read has consumed (`cxB`) -/
theorem cx_unfold_outer : Scope.decode cxOuter cxInp 0 =
    (((Scope.skipUnknownAdditions cxInp cxB >>= fun r5 => r5.popScope none >>= fun r6 => ok (cxVals, r6)) >>=
      fun x => ok (x.1, x.2.leave none)) >>= fun x => ok (Val.seq x.1, x.2)) := by
  rfl

/-- the scope machine (and the crate: `UperReader` on the hand-written type answers
    `Ok(Outer { a: true, b: Inner })` with 13 bits consumed): the second attempt to read the
    header, made by `skip_unknown_extension_additions` at the new cursor, succeeds -/
theorem cx_decode_outer : Scope.decode cxOuter cxInp 0 = ok (.seq cxVals, ⟨13, 13, none⟩) := by
  rw [cx_unfold_outer, cx_skip_outer]
  rfl

/-- the full statement is false for the current code -/
theorem read_refines_full_false : ¬ ReadRefinesFull := by
  intro h
  have := h cxOuter (by decide) cxInp (by decide)
  rw [cx_decode_outer, cx_dec_outer] at this
  cases this

/-- the counterexample lies outside the hypothesis of `read_refines_partial` … -/
example : cxOuter.noMandatorySeqAddition = false := by decide

/-- … and a type with an OPTIONAL SEQUENCE-typed addition and a mandatory CHOICE-typed one inside -/
example :
    (Ty.seq 1 3 (some 0) (.cons .o .bool (.cons .o (.seq 0 1 none (.cons .m .bool .nil))
      (.cons .m (.choice 1 1 false (.cons .m .bool .nil)) .nil)))).noMandatorySeqAddition = true ∧
    (Ty.seq 1 3 (some 0) (.cons .o .bool (.cons .o (.seq 0 1 none (.cons .m .bool .nil))
      (.cons .m (.choice 1 1 false (.cons .m .bool .nil)) .nil)))).consistent = true := by decide

/-- non-vacuity, directly on the scope machine: extension bit set, two additions announced, the
    first (OPTIONAL SEQUENCE) present as open type of one octet, the second absent -/
example :
    Scope.readFields (.cons .m .bool (.cons .o (.seq 0 1 none (.cons .m .bool .nil)) (.cons .o .bool .nil)))
      ([true, true] ++ [false, false, false, false, false, false, true] ++ [true, false] ++
        [false, false, false, false, false, false, false, true] ++
        [true, false, false, false, false, false, false, false])
      ⟨1, 27, some (.extensibleSequence 0 (some (1, 1)) 1 2)⟩ =
    ok (.cons (.bool true) (.cons (.some (.seq (.cons (.bool true) .nil))) (.cons .none .nil)),
        ⟨27, 27, some (.allBitField 11 11)⟩) := by decide +kernel

end Asn1Verif.Props.Scope
