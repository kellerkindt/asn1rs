import Asn1Verif.Uper.SeqLemmas
/-
  Constraint violations in the writer mirror `enc`: when the size header and the index can be written, that
  a refusal inside a component / element / alternative comes through, and `Violates`, a violation anywhere
  in a value tree.
-/
namespace Asn1Verif.Uper
open Asn1Verif Outcome Per

/-! ### length determinant -/

theorem wLen_spec (lb ub : Option Nat) (v : Nat) :
    match wLen lb ub v with
    | ok (_, f) => f.getD v ≤ v
    | err _ => v < lb.getD 0 ∨ ub.getD I64MAXu < v
    | .panic => False := by
  have hn : match wNNBIc lb ub v >>= fun b => ok (b, (none : Option Nat)) with
      | ok (_, f) => f.getD v ≤ v
      | err _ => v < lb.getD 0 ∨ ub.getD I64MAXu < v
      | .panic => False := by
    by_cases h : v < lb.getD 0 ∨ ub.getD I64MAXu < v
    · rw [wNNBIc_err lb ub v h]
      exact h
    · rw [wNNBIc_ok lb ub v (by omega) (by omega)]
      exact Nat.le_refl v
  rcases len_regime lb ub with ⟨rfl, rfl⟩ | ⟨u, rfl, hu⟩ | hd
  · obtain ⟨b, f, h, hle⟩ := wLen_unc_ok v
    rw [h]
    exact hle
  · rw [wLen_lt64K lb u v hu]
    exact hn
  · rw [wLen_dev lb ub v hd]
    by_cases hlu : lb = ub
    · rw [if_pos hlu]
      exact Nat.le_refl v
    · by_cases hl : v < lb.getD 0
      · rw [if_neg hlu, if_pos hl]
        exact Or.inl hl
      · rw [if_neg hlu, if_neg hl]
        exact hn

theorem wLen_ne_panic (lb ub : Option Nat) (v : Nat) : wLen lb ub v ≠ panic := by
  intro h
  have := wLen_spec lb ub v
  rwa [h] at this

theorem wLen_frag_le {lb ub : Option Nat} {v : Nat} {b : Bits} {f : Option Nat}
    (h : wLen lb ub v = ok (b, f)) : f.getD v ≤ v := by
  have := wLen_spec lb ub v
  rwa [h] at this

theorem wLen_ok_in_range {lb ub : Option Nat} {v : Nat} (h1 : lb.getD 0 ≤ v)
    (h2 : v ≤ ub.getD I64MAXu) : ∃ r, wLen lb ub v = ok r := by
  have hs := wLen_spec lb ub v
  cases h : wLen lb ub v with
  | ok r => exact ⟨r, rfl⟩
  | err e =>
    rw [h] at hs
    dsimp only at hs
    omega
  | panic => exact absurd h (wLen_ne_panic lb ub v)

/-! ### INTEGER -/

theorem enc_int_rejects {min max : Option Int} {w : Nat} {s : Bool} {v : Int}
    (hb : min.isSome = true ∨ max.isSome = true)
    (hv : v < min.getD 0 ∨ v > max.getD I64_MAX) :
    enc (.int min max false w s) (.int v) = err .valueNotInRange := by
  have hu : (min.isNone && max.isNone) = false := by
    cases min <;> cases max <;> simp at hb ⊢
  simp [enc, hu, wConstrained, hv]

theorem wUnconstrained_total (v : Int) : ∃ b, wUnconstrained v = ok b := by
  unfold wUnconstrained
  generalize hp : (if v < 0 then lo64 v - 1 else lz64 (i64AsU64 v) - 1) / 8 = p
  have hp7 : p ≤ 7 := by
    subst hp
    unfold lo64 lz64
    split <;> omega
  have h1 : 8 - p ≤ 127 := by omega
  have h2 : ¬ ((8 - p) * 8 = 0 ∨ (8 - p) * 8 > 64) := by omega
  simp [wLen_unc_small h1, w2s, h2]

/-! ### the size header -/

theorem wExtLen_rejects {min max : Option Nat} {ul len : Nat}
    (h : len < min.getD 0 ∨ len > max.getD ul) :
    wExtLen false min max ul len = err .sizeNotInRange := by
  simp [wExtLen, h]

theorem wExtLen_ext_out {min max : Option Nat} {ul len : Nat}
    (h : len < min.getD 0 ∨ len > max.getD ul) :
    ∃ l f, wLen none none len = ok (l, f) ∧ wExtLen true min max ul len = ok (true :: l) := by
  obtain ⟨l, f, hl, _⟩ := wLen_unc_ok len
  exact ⟨l, f, hl, by simp [wExtLen, h, hl]⟩

theorem wExtLen_in {ext : Bool} {min max : Option Nat} {ul len : Nat}
    (h : ¬ (len < min.getD 0 ∨ len > max.getD ul)) :
    wExtLen ext min max ul len =
      (wLen min max len >>= fun x => ok ((if ext then [false] else []) ++ x.1)) := by
  simp [wExtLen, h]

theorem wExtLen_ok {ext : Bool} {min max : Option Nat} {ul len : Nat} (hul : ul ≤ I64MAXu)
    (h : ext = true ∨ (min.getD 0 ≤ len ∧ len ≤ max.getD ul)) :
    ∃ hdr, wExtLen ext min max ul len = ok hdr := by
  by_cases ho : len < min.getD 0 ∨ len > max.getD ul
  · obtain rfl : ext = true := h.resolve_right (by omega)
    obtain ⟨l, _, _, hl⟩ := wExtLen_ext_out ho
    exact ⟨_, hl⟩
  · have h2 : len ≤ max.getD I64MAXu := by
      cases max <;> simp only [Option.getD_none, Option.getD_some] at ho ⊢ <;> omega
    obtain ⟨r, hr⟩ := wLen_ok_in_range (lb := min) (by omega) h2
    exact ⟨_, by rw [wExtLen_in ho, hr]; rfl⟩

/-! ### restricted character strings -/

theorem enc_str {cs : Charset} {min max : Option Nat} {ext : Bool} {bytes : List Byte}
    {chars : List Nat} (hcs : cs ≠ .utf8) (hd : utf8Decode bytes = some chars) :
    enc (.str cs min max ext) (.str bytes) =
      if chars.any (fun c => !cs.isValid c) then err .invalidString
      else wExtLen ext min max U64_MAX chars.length >>= fun hdr =>
        ok (hdr ++ (chars.map (charBits cs)).flatten) := by
  cases cs <;> first | exact absurd rfl hcs | simp only [enc, hd]

theorem not_any_invalid {cs : Charset} {chars : List Nat} (h : chars.all cs.isValid = true) :
    ¬ chars.any (fun c => !cs.isValid c) = true := by
  rw [← List.not_all_eq_any_not, h]
  decide

/-! ### OCTET STRING / BIT STRING: what follows the length determinant -/

/-- a fragment is only announced within the length (`wLen_frag_le`), so the slice of `write_octetstring`
    is in bounds: the branch `oob` is not taken -/
theorem strBody_ok {α : Type} {enc : List α → Bits} {wf : List α → Outcome Bits}
    {oob : Outcome Bits} {pre hdr : Bits} {src : List α} {f : Option Nat}
    (hwf : ∀ xs, ∃ b, wf xs = ok b) (h : f.getD src.length ≤ src.length) :
    ∃ tail, strBody enc wf oob pre src hdr f =
        ok (pre ++ hdr ++ enc (src.take (f.getD src.length)) ++ tail) ∧
      (f = none → tail = []) := by
  cases f with
  | none => exact ⟨[], by simp [strBody], fun _ => rfl⟩
  | some n =>
    obtain ⟨m, hm⟩ := hwf (src.drop n)
    simp only [Option.getD_some] at h
    exact ⟨m, by simp [strBody, h, hm], nofun⟩

theorem wBitFrag_ok (rest : Bits) : ∃ b, wBitFrag rest = ok b :=
  ⟨_, wBitFrag_eq rest⟩

/-! ### ENUMERATED / CHOICE index -/

theorem wIndex_ext_out {std i : Nat} (h : i ≥ std) :
    ∃ b, wSmall (i - std) = ok b ∧ wIndex std true i = ok (true :: b) := by
  obtain ⟨b, hb⟩ := wSmall_total (i - std)
  exact ⟨b, hb, by simp [wIndex, h, hb]⟩

theorem wIndex_ok {std i : Nat} {ext : Bool} (h : i < std ∨ ext = true) :
    ∃ b, wIndex std ext i = ok b := by
  by_cases hi : i < std
  · exact ⟨_, Per.wIndex_root std ext i hi⟩
  · obtain rfl : ext = true := h.resolve_left hi
    obtain ⟨b, _, hb⟩ := wIndex_ext_out (std := std) (i := i) (by omega)
    exact ⟨_, hb⟩

/-! ### a refusal inside comes through: SEQUENCE / SET -/

theorem encFields_first_err {k : Kind} {t : Ty} {v : Val} {e : ErrKind}
    (hp : presentOf k v = some true) (he : enc t (contentOf k v) = err e) :
    ∀ (fields : Fields) (vs : Vals) (rl : Nat) (acc : SeqAcc) (i : Nat),
    i < rl → fields.get? i = some (k, t) → vs.get? i = some v → PrefixFine fields vs rl i →
    encFields fields vs rl acc = err e
  | .nil, vs, rl, acc, i, _, hf, _, _ => by cases hf
  | .cons k0 t0 rest, .nil, rl, acc, i, _, _, hv, _ => by cases hv
  | .cons k0 t0 rest, .cons v0 vs, 0, acc, i, hi, _, _, _ => by omega
  | .cons k0 t0 rest, .cons v0 vs, n + 1, acc, 0, _, hf, hv, _ => by
    cases hf
    cases hv
    rw [encFields_cons, hp]
    simp [step_root_eq, he]
  | .cons k0 t0 rest, .cons v0 vs, n + 1, acc, i + 1, hi, hf, hv, hall => by
    obtain ⟨acc1, _, h⟩ := hall.root_step acc
    rw [h]
    exact encFields_first_err hp he rest vs n acc1 i (by omega) hf hv hall.tail

theorem enc_seq_ok_component {so fc : Nat} {ea : Option Nat} {fields : Fields} {vs : Vals}
    {bits : Bits} {i : Nat} {k : Kind} {t : Ty} {v : Val}
    (h : enc (.seq so fc ea fields) (.seq vs) = ok bits) (hf : fields.get? i = some (k, t))
    (hv : vs.get? i = some v) (hp : presentOf k v = some true) :
    ∃ b, enc t (contentOf k v) = ok b := by
  rw [enc_seq] at h
  obtain ⟨acc, ha, _⟩ := bind_eq_ok.1 h
  obtain ⟨rb, ab, hl, _⟩ := encFields_init ha
  obtain ⟨v', hv', hb⟩ := hl.get hf
  cases hv.symm.trans hv'
  simp only [RootBody, AddBody, hp] at hb
  split at hb
  · obtain ⟨b, _, hb⟩ := hb
    exact ⟨b, hb⟩
  · obtain ⟨_, _, c, hc, _⟩ := hb
    exact ⟨c, hc⟩

/-! ### … SEQUENCE OF / SET OF -/

theorem encListWith_first_err {f : Val → Outcome Bits} {v : Val} {e : ErrKind} (he : f v = err e) :
    ∀ (vs : Vals) (i : Nat), vs.get? i = some v →
    (∀ j, j < i → ∃ vj b, vs.get? j = some vj ∧ f vj = ok b) → encListWith f vs = err e
  | .nil, i, hv, _ => by cases hv
  | .cons v0 vs, 0, hv, _ => by
    cases hv
    simp [encListWith, he]
  | .cons v0 vs, i + 1, hv, hall => by
    obtain ⟨_, b, h1, h2⟩ := hall 0 (by omega)
    cases h1
    simp [encListWith, h2, encListWith_first_err he vs i hv fun j hj => hall (j + 1) (by omega)]

theorem encListWith_ok_elem {f : Val → Outcome Bits} : ∀ {vs : Vals} {body : Bits},
    encListWith f vs = ok body → ∀ {i v}, vs.get? i = some v → ∃ b, f v = ok b
  | .nil, _, _, i, v, hv => by cases hv
  | .cons v0 vs, body, h, i, v, hv => by
    simp only [encListWith] at h
    obtain ⟨a, ha, h⟩ := bind_eq_ok.1 h
    obtain ⟨b, hb, _⟩ := bind_eq_ok.1 h
    cases i with
    | zero =>
      cases hv
      exact ⟨a, ha⟩
    | succ i => exact encListWith_ok_elem hb hv

theorem enc_seqOf_ok_elem {min max : Option Nat} {ext : Bool} {elem : Ty} {vs : Vals}
    {bits : Bits} {i : Nat} {v : Val} (h : enc (.seqOf min max ext elem) (.list vs) = ok bits)
    (hv : vs.get? i = some v) : ∃ b, enc elem v = ok b := by
  simp only [enc] at h
  obtain ⟨_, _, h⟩ := bind_eq_ok.1 h
  obtain ⟨body, hb, _⟩ := bind_eq_ok.1 h
  exact encListWith_ok_elem hb hv

/-! ### … CHOICE -/

theorem encAlt_eq : ∀ (alts : Fields) (i : Nat) (x : Val),
    encAlt alts i x = match alts.get? i with
      | some (_, t) => enc t x
      | none => err .illTyped
  | .nil, _, _ => by simp [encAlt, Fields.get?]
  | .cons _ _ _, 0, _ => by simp [encAlt, Fields.get?]
  | .cons _ _ rest, i + 1, x => by
    simp only [encAlt, Fields.get?]
    exact encAlt_eq rest i x

theorem enc_choice_ok_alt {std total : Nat} {ext : Bool} {alts : Fields} {i : Nat} {x : Val}
    {bits : Bits} {k : Kind} {t : Ty} (h : enc (.choice std total ext alts) (.choice i x) = ok bits)
    (ha : alts.get? i = some (k, t)) : ∃ c, enc t x = ok c := by
  simp only [enc, encAlt_eq, ha] at h
  obtain ⟨_, _, h⟩ := bind_eq_ok.1 h
  obtain ⟨c, hc, _⟩ := bind_eq_ok.1 h
  exact ⟨c, hc⟩

/-! ### a violation anywhere in the value tree -/

/-- somewhere in the value tree — at the top, in a present component, an element, the chosen alternative,
    at any depth — a value lies outside a non-extensible constraint (INTEGER range, SIZE, ENUMERATED/CHOICE
    index) or a restricted string holds a character outside its alphabet -/
inductive Violates : Ty → Val → Prop
  | int {min max : Option Int} {w : Nat} {s : Bool} {v : Int} :
      (min.isSome = true ∨ max.isSome = true) → (v < min.getD 0 ∨ v > max.getD I64_MAX) →
      Violates (.int min max false w s) (.int v)
  | utf8Size {min max : Option Nat} {bytes : List Byte} {chars : List Nat} :
      utf8Decode bytes = some chars →
      (chars.length < min.getD 0 ∨ chars.length > max.getD U64_MAX) →
      Violates (.str .utf8 min max false) (.str bytes)
  | strSize {cs : Charset} {min max : Option Nat} {bytes : List Byte} {chars : List Nat} :
      cs ≠ .utf8 → utf8Decode bytes = some chars →
      (chars.length < min.getD 0 ∨ chars.length > max.getD U64_MAX) →
      Violates (.str cs min max false) (.str bytes)
  | alphabet {cs : Charset} {min max : Option Nat} {ext : Bool} {bytes : List Byte}
      {chars : List Nat} :
      cs ≠ .utf8 → utf8Decode bytes = some chars → chars.any (fun c => !cs.isValid c) = true →
      Violates (.str cs min max ext) (.str bytes)
  | octSize {min max : Option Nat} {bytes : List Byte} :
      (bytes.length < min.getD 0 ∨ bytes.length > max.getD I64MAXu) →
      Violates (.oct min max false) (.oct bytes)
  | bitsSize {min max : Option Nat} {bs : List Bool} :
      (bs.length < min.getD 0 ∨ bs.length > max.getD I64MAXu) →
      Violates (.bits min max false) (.bits bs)
  | listSize {min max : Option Nat} {elem : Ty} {vs : Vals} :
      (vs.length < min.getD 0 ∨ vs.length > max.getD I64MAXu) →
      Violates (.seqOf min max false elem) (.list vs)
  | enumIdx {std total i : Nat} : i ≥ std → Violates (.enum std total false) (.enum i)
  | choiceIdx {std total i : Nat} {alts : Fields} {x : Val} :
      i ≥ std → Violates (.choice std total false alts) (.choice i x)
  | elem {min max : Option Nat} {ext : Bool} {elem : Ty} {vs : Vals} {i : Nat} {v : Val} :
      vs.get? i = some v → Violates elem v → Violates (.seqOf min max ext elem) (.list vs)
  | comp {so fc : Nat} {ea : Option Nat} {fields : Fields} {vs : Vals} {i : Nat} {k : Kind}
      {t : Ty} {v : Val} :
      fields.get? i = some (k, t) → vs.get? i = some v → presentOf k v = some true →
      Violates t (contentOf k v) → Violates (.seq so fc ea fields) (.seq vs)
  | alt {std total : Nat} {ext : Bool} {alts : Fields} {i : Nat} {k : Kind} {t : Ty} {x : Val} :
      alts.get? i = some (k, t) → Violates t x → Violates (.choice std total ext alts) (.choice i x)

theorem violates_not_ok {t : Ty} {v : Val} (h : Violates t v) : ∀ b, enc t v ≠ ok b := by
  induction h with
  | int hb hv => simp [enc_int_rejects hb hv]
  | utf8Size hd hs => simp [enc, hd, hs]
  | strSize hcs hd hs =>
    intro b
    rw [enc_str hcs hd, wExtLen_rejects hs]
    split <;> simp
  | alphabet hcs hd hbad => simp [enc_str hcs hd, hbad]
  | octSize hs => simp [enc, wOctets, hs]
  | bitsSize hs => simp [enc, wBitString, hs]
  | listSize hs => simp [enc, wExtLen_rejects hs]
  | enumIdx hi => simp [enc, Per.wIndex_err _ _ hi]
  | choiceIdx hi => simp [enc, Per.wIndex_err _ _ hi]
  | elem hv _ ih => exact fun b hb => let ⟨c, hc⟩ := enc_seqOf_ok_elem hb hv; ih c hc
  | comp hf hv hp _ ih => exact fun b hb => let ⟨c, hc⟩ := enc_seq_ok_component hb hf hv hp; ih c hc
  | alt ha _ ih => exact fun b hb => let ⟨c, hc⟩ := enc_choice_ok_alt hb ha; ih c hc

end Asn1Verif.Uper
