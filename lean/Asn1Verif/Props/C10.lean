import Asn1Verif.Per.PrimLemmasWhole
import Asn1Verif.Per.PrimLemmasBitStr
import Asn1Verif.Per.ReadTotal
/-
  C10 — PER primitive codecs are correct for every runtime bound and value.

  Code mirror:     `Per/Prim.lean`   (`Per.w…` writers return the appended bits, `Per.r…` readers
                                      consume from the front of the remaining input)
  Specification:   `X691/Prim.lean`  (written from X.691 08/2015, UNALIGNED variant)
  Lemmas:          `Per/PrimLemmasBits|Num|Whole|Str|BitStr.lean`; `P_read_total` from `Per/ReadTotal.lean`

  For every primitive `P`:
    `P_pattern`     admissible ⇒ the writer produces exactly the X.691 bits
    `P_roundtrip`   admissible ⇒ the reader, started on those bits followed by ANY `post`, returns
                    the value and leaves exactly `post` (same number of bits consumed; back-to-back)
    `P_rejects`     inadmissible ⇒ the writer returns `Err` (and does not panic)
    `P_read_total`  on ANY input the reader does not panic and leaves a suffix of its input
  The only hypotheses besides admissibility are the ranges of the Rust argument types
  (`u64`: `≤ U64_MAX`, `i64`: `I64_MIN ≤ · ≤ I64_MAX`, slice lengths `≤ i64::MAX`).  No bound on
  any length: OCTET/BIT STRING statements go through the 16K fragment recursion by strong
  induction.

  Known deviation (finding F-64k, `LenDeviates`): with a bound given and an upper bound ≥ 64K (or a
  lower bound and no upper bound) the length determinant is written as a constrained / 63-bit
  field instead of the unconstrained form of 11.9.4.2 and nothing is fragmented.  There the
  `_pattern`/`_roundtrip` theorems are `_partial` (hypothesis `¬ LenDeviates lb ub`), the full
  statements are `def … : Prop` with an evaluated counterexample, and what *does* hold in that
  region — writer and reader are inverse to each other — is proved as `…_selfconsistent`.
-/
namespace Asn1Verif.Props.C10
open Asn1Verif Asn1Verif.Per Outcome
open Asn1Verif.Per.RT (Good)

/-- "no panic, no over-read": not a panic, and an `ok` result leaves a suffix of the input -/
def ReadTotal {α : Type} (f : Rd α) : Prop :=
  ∀ input, f input ≠ panic ∧ ∀ v rest, f input = ok (v, rest) → ∃ pre, input = pre ++ rest

theorem readTotal_of_good {α : Type} {f : Rd α} (h : ∀ bs, Good bs (f bs)) : ReadTotal f :=
  fun input => RT.good_iff.1 (h input)

/-- `Option<u64>` argument in range -/
def OptU64 (o : Option Nat) : Prop := ∀ x, o = some x → x ≤ U64_MAX

/-! ### 11.3 non-negative-binary-integer (helper of all others; public in `PackedWrite`) -/

/-- with a bound: `value − lower` in a field of `bitWidth (upper − lower)` bits, where a missing
    lower bound is 0 and a missing upper bound is `i64::MAX` (the function's contract) -/
theorem nnbi_field_pattern (lb ub : Option Nat) (v : Nat) (hb : lb.isSome ∨ ub.isSome)
    (h1 : lb.getD 0 ≤ v) (h2 : v ≤ ub.getD I64MAXu) :
    wNNBI lb ub v = ok (natBits (bitWidth (ub.getD I64MAXu - lb.getD 0)) (v - lb.getD 0)) := by
  rw [wNNBI_bounded lb ub v hb]; exact wNNBIc_ok lb ub v h1 h2

theorem nnbi_field_roundtrip (lb ub : Option Nat) (v : Nat) (post : Bits) (hb : lb.isSome ∨ ub.isSome)
    (h1 : lb.getD 0 ≤ v) (h2 : v ≤ ub.getD I64MAXu) (hv : v ≤ U64_MAX) :
    rNNBI lb ub (natBits (bitWidth (ub.getD I64MAXu - lb.getD 0)) (v - lb.getD 0) ++ post)
      = ok (v, post) := by
  rw [rNNBI_bounded lb ub _ hb]; exact rNNBIc_rt lb ub v post h1 h2 hv

theorem nnbi_field_rejects (lb ub : Option Nat) (v : Nat) (hb : lb.isSome ∨ ub.isSome)
    (h : v < lb.getD 0 ∨ ub.getD I64MAXu < v) : ∃ k, wNNBI lb ub v = err k := by
  rw [wNNBI_bounded lb ub v hb]; exact ⟨_, wNNBIc_err lb ub v h⟩

/-- without bounds: minimum octets preceded by their count (the body of 11.7) -/
theorem nnbi_unbounded_pattern (v : Nat) (hv : v ≤ U64_MAX) :
    wNNBI none none v = ok (X691.semiNat v) := wNNBI_unb v hv

theorem nnbi_unbounded_roundtrip (v : Nat) (post : Bits) (hv : v ≤ U64_MAX) :
    rNNBI none none (X691.semiNat v ++ post) = ok (v, post) := rNNBI_unb v post hv

theorem nnbi_read_total (lb ub : Option Nat) : ReadTotal (rNNBI lb ub) :=
  readTotal_of_good (RT.rNNBI_good lb ub)

example : (some 3 : Option Nat).isSome ∨ (none : Option Nat).isSome := Or.inl rfl
example : wNNBI (some 3) (some 10) 7 = ok [true, false, false] := by decide +kernel
example : ∃ k, wNNBI (some 3) (some 10) 11 = err k := ⟨.valueNotInRange, by decide +kernel⟩

/-! ### 11.4 2's-complement-binary-integer (public in `PackedWrite`) -/

/-- any `i64` in a field of `1 ≤ w ≤ 64` bits: `v mod 2^w` (for a value outside the range of `w`
    bits these are the low bits — the callers of this function never do that, see
    `unconstrained_pattern`) -/
theorem twos_pattern (w : Nat) (v : Int) (h1 : 1 ≤ w) (h2 : w ≤ 64) :
    w2s w v = ok (X691.twos w v) := w2s_ok w v h1 h2

theorem twos_roundtrip (w : Nat) (v : Int) (post : Bits) (h1 : 1 ≤ w) (h2 : w ≤ 64)
    (hl : -(2 : Int) ^ (w - 1) ≤ v) (hu : v < (2 : Int) ^ (w - 1)) :
    r2s w (X691.twos w v ++ post) = ok (v, post) := r2s_rt w v post h1 h2 hl hu

theorem twos_rejects (w : Nat) (v : Int) (h : w = 0 ∨ 64 < w) : ∃ k, w2s w v = err k :=
  ⟨_, w2s_err w v h⟩

theorem twos_read_total (w : Nat) : ReadTotal (r2s w) := readTotal_of_good (RT.r2s_good w)

example : w2s 8 (-2) = ok [true, true, true, true, true, true, true, false] := by decide +kernel
example : -(2 : Int) ^ (8 - 1) ≤ -128 ∧ (-128 : Int) < (2 : Int) ^ (8 - 1) := by decide +kernel
example : ∃ k, w2s 65 1 = err k := ⟨.bitLenNotInRange, by decide +kernel⟩

/-! ### 11.5 constrained whole number -/

theorem constrained_pattern (lb ub v : Int) (h1 : lb ≤ v) (h2 : v ≤ ub) :
    wConstrained lb ub v = ok (X691.constrained lb ub v) := wConstrained_ok lb ub v h1 h2

theorem constrained_roundtrip (lb ub v : Int) (post : Bits) (h1 : lb ≤ v) (h2 : v ≤ ub)
    (hl : I64_MIN ≤ lb) (hu : ub ≤ I64_MAX) :
    rConstrained lb ub (X691.constrained lb ub v ++ post) = ok (v, post) :=
  rConstrained_rt lb ub v post h1 h2 hl hu

/-- `v < lb`, `v > ub` and also every `v` when `lb > ub` -/
theorem constrained_rejects (lb ub v : Int) (h : ¬ (lb ≤ v ∧ v ≤ ub)) :
    ∃ k, wConstrained lb ub v = err k :=
  ⟨_, wConstrained_err lb ub v (by omega)⟩

theorem constrained_read_total (lb ub : Int) : ReadTotal (rConstrained lb ub) :=
  readTotal_of_good (RT.rConstrained_good lb ub)

example : wConstrained (-3) 4 1 = ok [true, false, false] := by decide +kernel
example : wConstrained I64_MIN I64_MAX (-1) = ok (false :: List.replicate 63 true) := by decide +kernel
example : ∃ k, wConstrained 5 5 7 = err k := ⟨.valueNotInRange, by decide +kernel⟩
example : ∃ k, wConstrained 5 4 5 = err k := ⟨.valueNotInRange, by decide +kernel⟩

/-! ### 11.7 semi-constrained whole number -/

theorem semi_pattern (lb v : Int) (h : lb ≤ v) (hl : I64_MIN ≤ lb) (hv : v ≤ I64_MAX) :
    wSemi lb v = ok (X691.semi lb v) := wSemi_ok lb v h hl hv

theorem semi_roundtrip (lb v : Int) (post : Bits) (h : lb ≤ v) (hl : I64_MIN ≤ lb)
    (hv : v ≤ I64_MAX) : rSemi lb (X691.semi lb v ++ post) = ok (v, post) :=
  rSemi_rt lb v post h hl hv

theorem semi_rejects (lb v : Int) (h : v < lb) : ∃ k, wSemi lb v = err k := ⟨_, wSemi_err lb v h⟩

theorem semi_read_total (lb : Int) : ReadTotal (rSemi lb) := readTotal_of_good (RT.rSemi_good lb)

/-- the specification's octet count really is "the minimum number of octets" -/
theorem semi_spec_minimal (n : Nat) :
    n < 2 ^ (8 * X691.nnOctets n) ∧ ∀ k, 1 ≤ k → n < 2 ^ (8 * k) → X691.nnOctets n ≤ k :=
  ⟨lt_two_pow_nnOctets n, fun k hk h => nnOctets_min n k hk h⟩

example : wSemi 5 5 = ok (X691.semi 5 5) ∧
    X691.semi 5 5 = [false, false, false, false, false, false, false, true] ++ List.replicate 8 false := by
  decide +kernel
example : wSemi I64_MIN I64_MAX = ok (List.replicate 4 false ++ [true, false, false, false]
    ++ List.replicate 64 true) := by decide +kernel

/-! ### 11.8 unconstrained whole number -/

theorem unconstrained_pattern (v : Int) (hl : I64_MIN ≤ v) (hu : v ≤ I64_MAX) :
    wUnconstrained v = ok (X691.unconstrained v) := wUnconstrained_ok v hl hu

theorem unconstrained_roundtrip (v : Int) (post : Bits) (hl : I64_MIN ≤ v) (hu : v ≤ I64_MAX) :
    rUnconstrained (X691.unconstrained v ++ post) = ok (v, post) := rUnconstrained_rt v post hl hu

theorem unconstrained_read_total : ReadTotal rUnconstrained :=
  readTotal_of_good RT.rUnconstrained_good

/-- the specification's octet count is the least `k ≥ 1` with `−2^(8k−1) ≤ v < 2^(8k−1)` -/
theorem unconstrained_spec_minimal (v : Int) :
    (-(2 : Int) ^ (8 * X691.twosOctets v - 1) ≤ v ∧ v < (2 : Int) ^ (8 * X691.twosOctets v - 1)) ∧
    ∀ k, 1 ≤ k → -(2 : Int) ^ (8 * k - 1) ≤ v → v < (2 : Int) ^ (8 * k - 1) →
      X691.twosOctets v ≤ k :=
  ⟨twosOctets_range v, fun k hk h1 h2 => twosOctets_min v k hk h1 h2⟩

example : wUnconstrained (-129) = ok ([false, false, false, false, false, false, true, false] ++
    [true, true, true, true, true, true, true, true, false, true, true, true, true, true, true, true]) := by
  decide +kernel
example : X691.unconstrained 128 = [false, false, false, false, false, false, true, false] ++
    [false, false, false, false, false, false, false, false, true, false, false, false, false, false, false, false] := by
  decide +kernel

/-! ### 11.6 normally small non-negative whole number (every `u64` is admissible) -/

theorem small_pattern (v : Nat) (hv : v ≤ U64_MAX) : wSmall v = ok (X691.small v) := wSmall_ok v hv

theorem small_roundtrip (v : Nat) (post : Bits) (hv : v ≤ U64_MAX) :
    rSmall (X691.small v ++ post) = ok (v, post) := rSmall_rt v post hv

theorem small_read_total : ReadTotal rSmall := readTotal_of_good RT.rSmall_good

example : wSmall 63 = ok [false, true, true, true, true, true, true] := by decide +kernel
example : wSmall 64 = ok ([true] ++ [false, false, false, false, false, false, false, true] ++
    [false, true, false, false, false, false, false, false]) := by decide +kernel

/-! ### 14 / 23 enumeration and choice index -/

theorem index_pattern (std : Nat) (ext : Bool) (i : Nat) (h : i < std ∨ ext = true)
    (hi : i ≤ U64_MAX) : wIndex std ext i = ok (X691.index std ext i) := by
  by_cases c : i < std
  · exact wIndex_root std ext i c
  · cases h.resolve_left c
    exact wIndex_ext std i (Nat.le_of_not_lt c) hi

theorem index_roundtrip (std : Nat) (ext : Bool) (i : Nat) (post : Bits) (h : i < std ∨ ext = true)
    (hs : std ≤ U64_MAX) (hi : i ≤ U64_MAX) :
    rIndex std ext (X691.index std ext i ++ post) = ok (i, post) := rIndex_rt std ext i post h hs hi

theorem index_rejects (std i : Nat) (h : std ≤ i) : ∃ k, wIndex std false i = err k :=
  ⟨_, wIndex_err std i h⟩

theorem index_read_total (std : Nat) (ext : Bool) : ReadTotal (rIndex std ext) :=
  readTotal_of_good (RT.rIndex_good std ext)

example : wIndex 5 true 2 = ok [false, false, true, false] := by decide +kernel
example : wIndex 5 true 7 = ok [true, false, false, false, false, false, true, false] := by decide +kernel
example : wIndex 1 false 0 = ok [] := by decide +kernel
example : ∃ k, wIndex 5 false 5 = err k := ⟨.invalidChoiceIndex, by decide +kernel⟩

/-! ### 11.9 length determinant -/

/-- admissible length for the bounds -/
def LenAdm (lb ub : Option Nat) (v : Nat) : Prop := lb.getD 0 ≤ v ∧ ∀ u, ub = some u → v ≤ u

/-- bits *and* the announced fragment size (`none`: the whole length is announced) -/
theorem len_pattern_partial (lb ub : Option Nat) (v : Nat) (hd : ¬ LenDeviates lb ub)
    (h : LenAdm lb ub v) : wLen lb ub v = ok (X691.len lb ub v) :=
  wLen_pattern lb ub v hd h.1 h.2

/-- the reader returns what was announced: `v`, or the fragment size `m·16K` (11.9.3.8) -/
theorem len_roundtrip_partial (lb ub : Option Nat) (v : Nat) (post : Bits) (hd : ¬ LenDeviates lb ub)
    (h : LenAdm lb ub v) :
    rLen lb ub ((X691.len lb ub v).1 ++ post) = ok ((X691.len lb ub v).2.getD v, post) :=
  rLen_pattern lb ub v post hd h.1 h.2

theorem len_rejects_partial (lb ub : Option Nat) (v : Nat) (hd : ¬ LenDeviates lb ub)
    (h : ¬ LenAdm lb ub v) : ∃ k, wLen lb ub v = err k :=
  wLen_rejects lb ub v hd h

theorem len_read_total (lb ub : Option Nat) : ReadTotal (rLen lb ub) :=
  readTotal_of_good (RT.rLen_good lb ub)

/-- the unconstrained form for EVERY length, with the fragment announced -/
theorem len_unconstrained_pattern (v : Nat) : wLen none none v = ok (X691.lenU v) := wLen_unc v

/-- the full statements … -/
def len_pattern_full : Prop :=
  ∀ (lb ub : Option Nat) (v : Nat), OptU64 lb → OptU64 ub → v ≤ U64_MAX → LenAdm lb ub v →
    wLen lb ub v = ok (X691.len lb ub v)

def len_roundtrip_full : Prop :=
  ∀ (lb ub : Option Nat) (v : Nat) (post : Bits), OptU64 lb → OptU64 ub → v ≤ U64_MAX →
    LenAdm lb ub v →
    rLen lb ub ((X691.len lb ub v).1 ++ post) = ok ((X691.len lb ub v).2.getD v, post)

def len_rejects_full : Prop :=
  ∀ (lb ub : Option Nat) (v : Nat), OptU64 lb → OptU64 ub → v ≤ U64_MAX → ¬ LenAdm lb ub v →
    ∃ k, wLen lb ub v = err k

theorem optU64_none : OptU64 none := fun _ h => by cases h
theorem optU64_some {x : Nat} (h : x ≤ U64_MAX) : OptU64 (some x) := fun _ e => by cases e; exact h

/-- … are false for the current code (finding F-64k): `SIZE(1..MAX)` with one element is written
    as 63 zero bits, X.691 11.9.4.2 demands `0 0000001` -/
theorem len_pattern_full_false : ¬ len_pattern_full := fun h => by
  have := h (some 1) none 1 (optU64_some (by decide)) optU64_none (by decide)
    ⟨by decide, fun u hu => by cases hu⟩
  revert this; decide

theorem len_roundtrip_full_false : ¬ len_roundtrip_full := fun h => by
  have := h (some 1) none 1 [] (optU64_some (by decide)) optU64_none (by decide)
    ⟨by decide, fun u hu => by cases hu⟩
  revert this; decide

/-- `lb = ub ≥ 64K`: nothing is written and the value is not looked at -/
theorem len_rejects_full_false : ¬ len_rejects_full := fun h => by
  have := h (some 70000) (some 70000) 5 (optU64_some (by decide)) (optU64_some (by decide))
    (by decide) (fun h => absurd h.1 (by decide))
  obtain ⟨k, hk⟩ := this
  have h5 : wLen (some 70000) (some 70000) 5 = ok ([], none) := by decide +kernel
  rw [h5] at hk; cases hk

/-- What does hold in EVERY region, the deviating one included: writer and reader of the length
    determinant are inverse to each other on admissible lengths (no fragment announced there). -/
theorem len_selfconsistent (lb ub : Option Nat) (v : Nat) (bits post : Bits)
    (hw : wLen lb ub v = ok (bits, none)) (h1 : lb.getD 0 ≤ v) (h2 : v ≤ ub.getD I64MAXu)
    (hv : v ≤ U64_MAX) : rLen lb ub (bits ++ post) = ok (v, post) :=
  rLen_wLen lb ub v bits post hw h1 h2 hv

/-- in the deviating region the writer never announces a fragment (so `len_selfconsistent`
    applies to everything it accepts) and refuses lengths outside non-degenerate bounds -/
theorem len_deviating_no_fragment (lb ub : Option Nat) (v : Nat) (hdr : Bits) (f : Option Nat)
    (hd : LenDeviates lb ub) (hw : wLen lb ub v = ok (hdr, f)) : f = none :=
  wLen_bounded_none lb ub v hdr f (by simpa using hd.1) hw

/-- … and, unless `lb = ub`, refuses what lies outside the bounds -/
theorem len_deviating_rejects (lb ub : Option Nat) (v : Nat) (hd : LenDeviates lb ub) (hne : lb ≠ ub)
    (h : v < lb.getD 0 ∨ ub.getD I64MAXu < v) : ∃ k, wLen lb ub v = err k :=
  ⟨_, wLen_dev_rejects lb ub v hd hne h⟩

example : ¬ LenDeviates (some 3) (some 65535) ∧ LenAdm (some 3) (some 65535) 300 :=
  ⟨by decide, by decide, fun u hu => by cases hu; decide⟩
example : ¬ LenDeviates none none := by decide +kernel
example : LenDeviates (some 1) none ∧ LenDeviates none (some 65536) := by decide +kernel
example : wLen none none 100000 = ok ([true, true, false, false, false, true, false, false], some 65536) := by
  decide +kernel
example : wLen (some 1) (some 70000) 2 = ok (List.replicate 16 false ++ [true], none) := by decide +kernel
example : ∃ k, wLen (some 1) (some 70000) 70001 = err k := ⟨.valueNotInRange, by decide +kernel⟩

/-! ### 17 OCTET STRING -/

/-- admissible: the size is in the root, or the constraint is extensible -/
def StrAdm (lb ub : Option Nat) (ext : Bool) (n : Nat) : Prop :=
  ext = true ∨ X691.inRoot lb ub n = true

theorem octets_pattern_partial (lb ub : Option Nat) (ext : Bool) (s : List (BitVec 8))
    (hd : ¬ LenDeviates lb ub) (hn : s.length ≤ I64MAXu) (h : StrAdm lb ub ext s.length) :
    wOctets lb ub ext s = ok (X691.octets lb ub ext s) := wOctets_pattern lb ub ext s hd hn h

/-- every length, every fragment count -/
theorem octets_roundtrip_partial (lb ub : Option Nat) (ext : Bool) (s : List (BitVec 8))
    (post : Bits) (hd : ¬ LenDeviates lb ub) (hub : OptU64 ub) (hn : s.length ≤ I64MAXu)
    (h : StrAdm lb ub ext s.length) :
    rOctets lb ub ext (X691.octets lb ub ext s ++ post) = ok (s, post) :=
  rOctets_wOctets lb ub ext s _ post hub (wOctets_pattern lb ub ext s hd hn h)

/-- full: every shape of bounds, F-64k included -/
theorem octets_rejects (lb ub : Option Nat) (s : List (BitVec 8))
    (h : X691.inRoot lb ub s.length = false) : ∃ k, wOctets lb ub false s = err k :=
  ⟨_, wOctets_rejects lb ub s (not_inRoot_outOfRange lb ub _ h)⟩

theorem octets_read_total (lb ub : Option Nat) (ext : Bool) : ReadTotal (rOctets lb ub ext) :=
  readTotal_of_good (RT.rOctets_good lb ub ext)

/-- full: whatever `wOctets` accepts — any bounds (also the deviating ones), any length, any
    number of fragments — `rOctets` reads back, consuming exactly the written bits -/
theorem octets_selfconsistent (lb ub : Option Nat) (ext : Bool) (s : List (BitVec 8))
    (bits post : Bits) (hub : OptU64 ub) (hw : wOctets lb ub ext s = ok bits) :
    rOctets lb ub ext (bits ++ post) = ok (s, post) :=
  rOctets_wOctets lb ub ext s bits post hub hw

/-- the unconstrained fragmented form for every length (the fragment loop alone) -/
theorem octets_fragments_pattern (s : List (BitVec 8)) :
    wOctFrag s = ok (X691.fragU bytesBits s) := wOctFrag_eq s

def octets_pattern_full : Prop :=
  ∀ (lb ub : Option Nat) (ext : Bool) (s : List (BitVec 8)), OptU64 lb → OptU64 ub →
    s.length ≤ I64MAXu → StrAdm lb ub ext s.length →
    wOctets lb ub ext s = ok (X691.octets lb ub ext s)

def octets_roundtrip_full : Prop :=
  ∀ (lb ub : Option Nat) (ext : Bool) (s : List (BitVec 8)) (post : Bits), OptU64 lb → OptU64 ub →
    s.length ≤ I64MAXu → StrAdm lb ub ext s.length →
    rOctets lb ub ext (X691.octets lb ub ext s ++ post) = ok (s, post)

/-- X.691 for `OCTET STRING (SIZE(1..MAX))`, value `'00'H`: `00000001 00000000` -/
theorem x691_octets_witness : X691.octets (some 1) none false [0#8] =
    [false, false, false, false, false, false, false, true] ++ List.replicate 8 false := by
  unfold X691.octets X691.sized
  rw [fragU_lt _ _ (by decide)]
  decide +kernel

theorem octets_pattern_full_false : ¬ octets_pattern_full := fun h => by
  have := h (some 1) none false [0#8] (optU64_some (by decide)) optU64_none (by decide)
    (Or.inr (by decide))
  rw [x691_octets_witness] at this
  revert this; decide

theorem octets_roundtrip_full_false : ¬ octets_roundtrip_full := fun h => by
  have := h (some 1) none false [0#8] [] (optU64_some (by decide)) optU64_none (by decide)
    (Or.inr (by decide))
  rw [x691_octets_witness] at this
  revert this; decide

/-- the specification itself: an exact multiple of 16K ends with the zero length octet
    (11.9.3.8 NOTE) -/
theorem fragments_exact_multiple {α : Type} (enc : List α → Bits) (s : List α)
    (h : s.length = 16384) :
    X691.fragU enc s = [true, true, false, false, false, false, false, true] ++ enc s ++
      (List.replicate 8 false ++ enc []) := by
  have h1 : min (s.length / 16384) 4 * 16384 = s.length := by rw [h]; decide
  have e1 : (X691.lenU 16384).1 = [true, true, false, false, false, false, false, true] := by decide +kernel
  have e2 : (X691.lenU 0).1 = List.replicate 8 false := by decide +kernel
  rw [fragU_ge _ _ (by omega), h1, List.take_length, List.drop_length,
    fragU_lt _ _ (by rw [List.length_nil]; omega), List.length_nil, h, e1, e2]

/-- non-vacuity with fragments: 40000 octets (32K fragment + 7232 octets), followed by data -/
example : rOctets none none false
    (X691.octets none none false (List.replicate 40000 0xA5#8) ++ [true, false]) =
    ok (List.replicate 40000 0xA5#8, [true, false]) :=
  octets_roundtrip_partial none none false _ _ (by decide) optU64_none
    (by rw [List.length_replicate, I64MAXu_eq]; omega)
    (Or.inr (by rw [List.length_replicate]; decide))

example : ¬ LenDeviates (some 2) (some 5) ∧ StrAdm (some 2) (some 5) true 7 :=
  ⟨by decide, Or.inl rfl⟩
example : wOctets (some 2) (some 5) true [1#8, 2#8, 3#8] = ok ([false] ++ [false, true] ++
    bytesBits [1#8, 2#8, 3#8]) := by decide +kernel
example : wOctets (some 1) (some 70000) false [0xff#8] = ok (List.replicate 17 false ++
    List.replicate 8 true) := by decide +kernel
example : ∃ k, wOctets (some 2) (some 5) false [1#8] = err k := ⟨.sizeNotInRange, by decide +kernel⟩

/-! ### 16 BIT STRING -/

theorem bitstring_pattern_partial (lb ub : Option Nat) (ext : Bool) (s : Bits)
    (hd : ¬ LenDeviates lb ub) (hn : s.length ≤ I64MAXu) (h : StrAdm lb ub ext s.length) :
    wBitString lb ub ext s = ok (X691.bitString lb ub ext s) := wBitString_pattern lb ub ext s hd hn h

theorem bitstring_roundtrip_partial (lb ub : Option Nat) (ext : Bool) (s post : Bits)
    (hd : ¬ LenDeviates lb ub) (hub : OptU64 ub) (hn : s.length ≤ I64MAXu)
    (h : StrAdm lb ub ext s.length) :
    rBitString lb ub ext (X691.bitString lb ub ext s ++ post) = ok (s, post) :=
  rBitString_wBitString lb ub ext s _ post hub (wBitString_pattern lb ub ext s hd hn h)

theorem bitstring_rejects (lb ub : Option Nat) (s : Bits)
    (h : X691.inRoot lb ub s.length = false) : ∃ k, wBitString lb ub false s = err k :=
  ⟨_, wBitString_rejects lb ub s (not_inRoot_outOfRange lb ub _ h)⟩

theorem bitstring_read_total (lb ub : Option Nat) (ext : Bool) : ReadTotal (rBitString lb ub ext) :=
  readTotal_of_good (RT.rBitString_good lb ub ext)

theorem bitstring_selfconsistent (lb ub : Option Nat) (ext : Bool) (s bits post : Bits)
    (hub : OptU64 ub) (hw : wBitString lb ub ext s = ok bits) :
    rBitString lb ub ext (bits ++ post) = ok (s, post) :=
  rBitString_wBitString lb ub ext s bits post hub hw

theorem bitstring_fragments_pattern (s : Bits) : wBitFrag s = ok (X691.fragU id s) :=
  wBitFrag_eq s

def bitstring_pattern_full : Prop :=
  ∀ (lb ub : Option Nat) (ext : Bool) (s : Bits), OptU64 lb → OptU64 ub →
    s.length ≤ I64MAXu → StrAdm lb ub ext s.length →
    wBitString lb ub ext s = ok (X691.bitString lb ub ext s)

def bitstring_roundtrip_full : Prop :=
  ∀ (lb ub : Option Nat) (ext : Bool) (s post : Bits), OptU64 lb → OptU64 ub →
    s.length ≤ I64MAXu → StrAdm lb ub ext s.length →
    rBitString lb ub ext (X691.bitString lb ub ext s ++ post) = ok (s, post)

/-- X.691 for `BIT STRING (SIZE(0..65536))`, value `'1'B`: `00000001 1` -/
theorem x691_bitstring_witness : X691.bitString none (some 65536) false [true] =
    [false, false, false, false, false, false, false, true, true] := by
  unfold X691.bitString X691.sized
  rw [fragU_lt _ _ (by decide)]
  decide +kernel

theorem bitstring_pattern_full_false : ¬ bitstring_pattern_full := fun h => by
  have := h none (some 65536) false [true] optU64_none (optU64_some (by decide)) (by decide)
    (Or.inr (by decide))
  rw [x691_bitstring_witness] at this
  revert this; decide

theorem bitstring_roundtrip_full_false : ¬ bitstring_roundtrip_full := fun h => by
  have := h none (some 65536) false [true] [] optU64_none (optU64_some (by decide)) (by decide)
    (Or.inr (by decide))
  rw [x691_bitstring_witness] at this
  revert this; decide

/-- non-vacuity with fragments: 100000 bits (64K + 32K fragments + 1696 bits), extension form -/
example : rBitString (some 0) (some 10) true
    (X691.bitString (some 0) (some 10) true (List.replicate 100000 true) ++ [false]) =
    ok (List.replicate 100000 true, [false]) :=
  bitstring_roundtrip_partial (some 0) (some 10) true _ _ (by decide) (optU64_some (by decide))
    (by rw [List.length_replicate, I64MAXu_eq]; omega) (Or.inl rfl)

example : wBitString (some 3) (some 3) false [true, false, true] = ok [true, false, true] := by decide +kernel
example : wBitString none none false [true, false, true] = ok ([false, false, false, false, false,
    false, true, true] ++ [true, false, true]) := by decide +kernel
example : wBitString none (some 65536) false [true] = ok (List.replicate 16 false ++ [true, true]) := by
  decide +kernel
example : ∃ k, wBitString (some 3) (some 3) false [true] = err k := ⟨.sizeNotInRange, by decide +kernel⟩

end Asn1Verif.Props.C10
