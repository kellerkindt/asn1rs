import Asn1Verif.Uper.ScopeLemmasR
/-
  Refinement, reader side, SEQUENCE part: the scope of the real reader while it walks the components of one
  SEQUENCE is a function (`REnv.scope`) of the parameters of `Impl.decFields` (`rootLeft`, `optIdx`, `addIdx`,
  `SeqCtx`); one bit-field entry of the scope machine reads the presence bit `decFields` reads.
-/
namespace Asn1Verif.Uper
open Asn1Verif Outcome Per

namespace Scope

/-- what stays fixed while the components of one SEQUENCE are read -/
structure REnv where
  inp : Bits
  /-- `STD_OPTIONAL_FIELDS` -/
  stdOpt : Nat
  /-- position of the extension bit -/
  bitPos : Nat

def REnv.scope (e : REnv) (ctx : SeqCtx) (rl oi ai : Nat) : Scope :=
  if ctx.extBit then
    match ctx.addWin with
    | none =>
      .extensibleSequence e.bitPos (some (ctx.presPos + oi, ctx.presPos + e.stdOpt)) rl ctx.nLocal
    | some w => .allBitField (w.1 + min ai w.2) (min (w.1 + w.2) U64_MAX)
  else .optBitField (ctx.presPos + oi) (ctx.presPos + e.stdOpt)

def REnv.r (e : REnv) (ctx : SeqCtx) (rl oi ai pos : Nat) : R :=
  { pos := pos, len := e.inp.length, scope := some (e.scope ctx rl oi ai) }

/-- the invariant of the walk: `fields` are the components still to come, `rl` of them root -/
def REnv.Inv (e : REnv) (ctx : SeqCtx) (fields : Fields) (rl oi ai : Nat) : Prop :=
  oi + fields.optCount rl = e.stdOpt ∧
  (ctx.extBit = true → bitAt e.inp e.bitPos = ok true) ∧
  (ctx.extBit = true → rl ≤ fields.length) ∧
  match ctx.addWin with
  | none => ctx.extBit = true → ai = 0
  | some w => ctx.extBit = true ∧ rl = 0 ∧ w.1 + min ai w.2 ≤ e.inp.length

/-- the window of the addition bitmap: known, or read now (header of the extension part) -/
def extWin (ctx : SeqCtx) (inp : Bits) (pos : Nat) : Outcome ((Nat × Nat) × Nat) :=
  match ctx.addWin with
  | some w => ok (w, pos)
  | none => readExtHeader inp pos

/-- a component behind the root part when no extension part was sent -/
def noextContent (k : Kind) (t : Ty) (inp : Bits) (pos : Nat) : Outcome (Val × Nat) :=
  match k with
  | .m => dec t inp pos
  | k => ok (k.absent, pos)

/-- the type's `read_*` is `read_sequence` (the one that swallows the error of its bit-field entry) -/
def _root_.Asn1Verif.Uper.Ty.isSeq : Ty → Bool
  | .seq .. => true
  | _ => false

/-- one component of the generated `read_seq` (`T`, `Option<T>`, `DefaultValue<T, C>`) -/
def rstep (k : Kind) (readT : Bits → R → Outcome (Val × R)) (inp : Bits) (r : R) :
    Outcome (Val × R) :=
  match k with
  | .m => readT inp r
  | k => do
    let (p, r0) ← entryQ inp r true
    match p with
    | none => panic
    | some true => do
      let (x, r1) ← readOptBody readT inp r0
      ok (k.wrap x, r1)
    | some false => ok (k.absent, r0)

/-- outside of any scope: the callee reads like `g` -/
def PlainR {α : Type} (f : Bits → R → Outcome (α × R)) (g : RdP α) (inp : Bits) : Prop :=
  ∀ pos, pos ≤ inp.length →
    f inp ⟨pos, inp.length, none⟩ = g inp pos >>= fun y => ok (y.1, ⟨y.2, inp.length, none⟩)

/-- what the mutual induction supplies for the type of the component -/
def ReadOk (t : Ty) (inp : Bits) : Prop :=
  ∀ r : R, r.len = inp.length → r.pos ≤ inp.length →
    read t inp r = rcomp t.isSeq t.buffersOnRead (dec t) inp r

theorem plainR_of_readOk {t : Ty} {inp : Bits} (h : ReadOk t inp) : PlainR (read t) (dec t) inp := by
  intro pos hpos
  rw [h _ rfl hpos, rcomp_none]

variable {e : REnv} {ctx : SeqCtx} {k : Kind} {t : Ty} {rest fields fields' : Fields}
  {n rl oi ai pos : Nat} {isOpt : Bool} {w : Nat × Nat} {wp : (Nat × Nat) × Nat}

/-! ### the bit-field entry in the states of the walk -/

theorem rentry_root_m (e : REnv) (ctx : SeqCtx) (n oi ai pos : Nat)
    (hw : ctx.extBit = true → ctx.addWin = none) :
    ∃ q, readBitFieldEntry e.inp (e.r ctx (n + 1) oi ai pos) false = (ok q, e.r ctx n oi ai pos) := by
  unfold readBitFieldEntry REnv.r
  simp only [REnv.scope]
  cases hx : ctx.extBit with
  | false =>
    simp only [Bool.false_eq_true, if_false, readFromField]
    split
    · exact ⟨_, rfl⟩
    · exact ⟨_, rfl⟩
  | true =>
    simp only [hw hx, if_true, readFromField, Nat.add_one_ne_zero, if_false, Nat.add_sub_cancel,
      Bool.false_eq_true]
    exact ⟨_, rfl⟩

theorem rentry_root_o
    (hw : ctx.extBit = true → ctx.addWin = none) (hlt : oi < e.stdOpt) :
    readBitFieldEntry e.inp (e.r ctx (n + 1) oi ai pos) true =
      (some <$> bitAt e.inp (ctx.presPos + oi), e.r ctx n (oi + 1) ai pos) := by
  unfold readBitFieldEntry REnv.r
  simp only [REnv.scope]
  cases hx : ctx.extBit with
  | false =>
    have h1 : ¬ (ctx.presPos + oi ≥ ctx.presPos + e.stdOpt) := by omega
    simp only [Bool.false_eq_true, if_false, readFromField, h1, if_true, bitAtR_mk,
      Nat.add_assoc]
  | true =>
    simp only [hw hx, if_true, readFromField, Nat.add_one_ne_zero, if_false, Nat.add_sub_cancel,
      bitAtR_mk, Nat.add_assoc]

/-- no extension part was sent: every further component reads as absent -/
theorem rentry_noext
    (hx : ctx.extBit = false) (hfull : oi = e.stdOpt) :
    readBitFieldEntry e.inp (e.r ctx 0 oi ai pos) isOpt = (ok (some false), e.r ctx 0 oi (ai + 1) pos) := by
  unfold readBitFieldEntry REnv.r
  simp only [REnv.scope, hx, Bool.false_eq_true, if_false, readFromField, hfull, ge_iff_le,
    Nat.le_refl, if_true]

theorem decFields_cons_add_noext' (k : Kind) (t : Ty) (rest : Fields) (optIdx addIdx : Nat)
    (ctx : SeqCtx) (inp : Bits) (pos : Nat) (hx : ctx.extBit = false) :
    decFields (.cons k t rest) 0 optIdx addIdx ctx inp pos =
      (noextContent k t inp pos >>= fun vp =>
       decFields rest 0 optIdx (addIdx + 1) ctx inp vp.2 >>= fun r => ok (.cons vp.1 r.1, r.2)) := by
  rw [decFields_cons_add_noext _ _ _ _ _ _ _ _ hx]
  cases k <;> rfl

theorem extWin_le {ctx : SeqCtx} {inp : Bits} {pos : Nat} {wp : (Nat × Nat) × Nat}
    (h : extWin ctx inp pos = ok wp) (hpos : pos ≤ inp.length) : wp.2 ≤ inp.length := by
  unfold extWin at h
  cases hw : ctx.addWin with
  | some w => simp only [hw, ok.injEq] at h; rw [← h]; exact hpos
  | none =>
    simp only [hw] at h
    exact ((readExtHeader_good inp pos).bounds (a := wp.1) (p := wp.2) h hpos).2

/-! ### one component of the generated `read_seq` -/

theorem readFields_cons (k : Kind) (t : Ty) (rest : Fields) (inp : Bits) (r : R) :
    readFields (.cons k t rest) inp r =
      rstep k (read t) inp r >>= fun x =>
        readFields rest inp x.2 >>= fun y => ok (.cons x.1 y.1, y.2) := by
  cases k <;> simp only [readFields, rstep] <;> rfl

theorem readOptBody_eq {α : Type} {f : Bits → R → Outcome (α × R)} {g : RdP α} {inp : Bits}
    (hf : PlainR f g inp) (r0 : R) (hr : r0.Inside inp) :
    readOptBody f inp r0 = rbody true g inp r0 := by
  rw [← enter_leave (f := fun r1 => f inp { r1 with scope := none } >>= fun y =>
      ok (y.1, { y.2 with scope := r1.scope })) r0 hr]
  · unfold readOptBody
    refine bind_congr fun x _ => ?_
    rw [bind_assoc]
    rfl
  · intro r1 h1
    simp only [hf r1.pos h1.2, bind_assoc, bind_ok, h1.1]

theorem rbody_closed {α : Type} (wrap : Bool) (g : RdP α) (inp : Bits) (r0 : R) :
    rbody wrap g inp r0 =
      (if wrap && openTy r0.scope then readOpen g inp r0.pos else g inp r0.pos) >>= fun y =>
        ok (y.1, { r0 with pos := y.2 }) := by
  unfold rbody
  split
  · simp only [readOpen, subSlice, bind_assoc]
    rfl
  · rfl

theorem rcomp_of_entry {swallow wrap : Bool} {g : RdP Val} {inp : Bits} {r r0 : R} {q : Option Bool}
    (h : readBitFieldEntry inp r false = (ok q, r0)) : rcomp swallow wrap g inp r = rbody wrap g inp r0 := by
  unfold rcomp entryQ
  rw [h]
  cases swallow <;> rfl

theorem openTy_r :
    openTy (some (e.scope ctx rl oi ai)) = (ctx.extBit && ctx.addWin.isSome) := by
  unfold REnv.scope
  cases ctx.extBit <;> cases ctx.addWin <;> rfl

/-- the content behind the entry, in a state of the walk: an open type exactly in the extension part -/
theorem rbody_r {α : Type} (wrap : Bool) (g : RdP α) (p : Nat) :
    rbody wrap g e.inp (e.r ctx rl oi ai p) =
      (if wrap && (ctx.extBit && ctx.addWin.isSome) then readOpen g e.inp p else g e.inp p) >>= fun y =>
        ok (y.1, e.r ctx rl oi ai y.2) := by
  simp only [rbody_closed, REnv.r, openTy_r]

theorem rstep_root
    (hinv : e.Inv ctx (.cons k t rest) (n + 1) oi ai) (hpos : pos ≤ e.inp.length)
    (hT : ReadOk t e.inp) :
    rstep k (read t) e.inp (e.r ctx (n + 1) oi ai pos) =
      (if k.isOptional then bitAt e.inp (ctx.presPos + oi) else ok true) >>= fun present =>
        (if present then dec t e.inp pos >>= fun xp => ok (k.wrap xp.1, xp.2)
         else ok (k.absent, pos)) >>= fun vp =>
          ok (vp.1, e.r ctx n (if k.isOptional then oi + 1 else oi) ai vp.2) := by
  obtain ⟨hopt, _, _, hwin⟩ := hinv
  have hw : ctx.extBit = true → ctx.addWin = none := by
    intro _
    cases hh : ctx.addWin with
    | none => rfl
    | some w => simp [hh] at hwin
  -- behind the entry the scope is still in its root part: the content is read in place
  have hroot : (ctx.extBit && ctx.addWin.isSome) = false := by
    cases hx : ctx.extBit with
    | false => rfl
    | true => simp [hw hx]
  cases k with
  | m =>
    obtain ⟨q, hq⟩ := rentry_root_m e ctx n oi ai pos hw
    simp only [rstep, Kind.isOptional, Bool.false_eq_true, if_false, bind_ok, if_true, Kind.wrap,
      hT (e.r ctx (n + 1) oi ai pos) rfl hpos, rcomp_of_entry hq, rbody_r, hroot, Bool.and_false, bind_assoc]
  | o | d dv =>
    have hlt : oi < e.stdOpt := by
      simp only [Fields.optCount, Kind.isOptional, if_true] at hopt; omega
    simp only [rstep, entryQ, rentry_root_o hw hlt, Kind.isOptional, if_true]
    cases bitAt e.inp (ctx.presPos + oi) with
    | err k => rfl
    | panic => rfl
    | ok b =>
      cases b with
      | false => rfl
      | true =>
        simp only [map_ok, bind_ok, if_true, readOptBody_eq (plainR_of_readOk hT) (e.r ctx n (oi + 1) ai pos) ⟨rfl, hpos⟩,
          rbody_r, hroot, Bool.and_false, Bool.false_eq_true, if_false, bind_assoc]

theorem rstep_noext
    (hinv : e.Inv ctx (.cons k t rest) 0 oi ai) (hx : ctx.extBit = false) (hpos : pos ≤ e.inp.length)
    (hT : ReadOk t e.inp) :
    rstep k (read t) e.inp (e.r ctx 0 oi ai pos) =
      noextContent k t e.inp pos >>= fun vp => ok (vp.1, e.r ctx 0 oi (ai + 1) vp.2) := by
  obtain ⟨hopt, _, _⟩ := hinv
  have hfull : oi = e.stdOpt := by rw [optCount_zero] at hopt; omega
  cases k with
  | m =>
    simp only [rstep, noextContent]
    rw [hT _ rfl hpos, rcomp_of_entry (rentry_noext hx hfull)]
    simp only [rbody_r, hx, Bool.false_and, Bool.and_false, Bool.false_eq_true, if_false]
  | o | d dv =>
    simp only [rstep, noextContent, entryQ, rentry_noext hx hfull, bind_ok]

theorem readExtHeader_pos {inp : Bits} {pos : Nat} {wp : (Nat × Nat) × Nat}
    (h : readExtHeader inp pos = ok wp) : 0 < wp.1.2 := by
  unfold readExtHeader at h
  obtain ⟨x, _, h⟩ := bind_eq_ok.1 h
  by_cases hov : x.1 + 1 > U64_MAX
  · simp [hov] at h
  · simp only [hov, if_false, ok.injEq] at h; rw [← h]; simp

/-- the bit-field entry of an extension addition (extension part sent), as `decFields` reads it:
    the header of the extension part at the first addition, then the bit of the announced bitmap
    (absent beyond it) -/
theorem rentryQ_ext (hL : e.inp.length < U64_MAX)
    (hinv : e.Inv ctx fields 0 oi ai) (hx : ctx.extBit = true) :
    entryQ e.inp (e.r ctx 0 oi ai pos) isOpt =
      extWin ctx e.inp pos >>= fun wp =>
        (if ai < wp.1.2 then bitAt e.inp (wp.1.1 + ai) else ok false) >>= fun b =>
          ok (some b, e.r { ctx with addWin := some wp.1 } 0 oi (ai + 1) wp.2) := by
  obtain ⟨_, hbit, _, hwin⟩ := hinv
  unfold extWin entryQ readBitFieldEntry REnv.r
  cases hw : ctx.addWin with
  | some w =>
    simp only [hw] at hwin
    have hin := hwin.2.2
    simp only [REnv.scope, hx, hw, if_true, readFromField, readFromAll, bind_ok]
    by_cases hlt : ai < w.2
    · have h2 : min ai w.2 = ai := Nat.min_eq_left (Nat.le_of_lt hlt)
      have h3 : min (ai + 1) w.2 = ai + 1 := Nat.min_eq_left hlt
      have h1 : w.1 + ai < min (w.1 + w.2) U64_MAX := by rw [h2] at hin; omega
      simp only [h1, if_true, hlt, bitAtR_mk, h2, h3, Nat.add_assoc]
      cases bitAt e.inp (w.1 + ai) <;> rfl
    · have h1 : ¬ (w.1 + w.2 < min (w.1 + w.2) U64_MAX) := Nat.not_lt.2 (Nat.min_le_left _ _)
      have h2 : min ai w.2 = w.2 := Nat.min_eq_right (Nat.not_lt.1 hlt)
      have h3 : min (ai + 1) w.2 = w.2 := Nat.min_eq_right (Nat.le_succ_of_le (Nat.not_lt.1 hlt))
      simp only [h1, h2, h3, if_false, hlt, bind_ok]
  | none =>
    simp only [hw] at hwin
    have hai : ai = 0 := hwin hx
    subst hai
    simp only [REnv.scope, hx, hw, if_true, readFromField, bitAtR_mk, hbit hx, liftR_mk, readExtHeader,
      bind_assoc]
    cases hs : liftL1 rSmall e.inp pos with
    | err k => rfl
    | panic => rfl
    | ok x =>
      have hp := liftL1_le hs
      simp only [bind_ok]
      by_cases hov : x.1 + 1 > U64_MAX
      · simp only [hov, if_true, bind_err]
      · have h1 : x.2 < min (x.2 + (x.1 + 1)) U64_MAX := by omega
        simp only [hov, if_false, bind_ok, readFromAll, h1, if_true, bitAtR_mk, Nat.zero_lt_succ,
          Nat.add_zero]
        cases hb : bitAt e.inp x.2 with
        | err k => rfl
        | panic => rfl
        | ok b =>
          have hlt := bitAt_ok_lt hb
          have h3 : min (0 + 1) (x.1 + 1) = 1 := by omega
          simp only [map_ok, bind_ok, ok.injEq, Prod.mk.injEq, true_and, R.mk.injEq, h3, and_true]
          omega

theorem rstep_ext (hL : e.inp.length < U64_MAX)
    (hinv : e.Inv ctx (.cons k t rest) 0 oi ai)
    (hx : ctx.extBit = true) (hms : k.isOptional = false → t.isSeq = false)
    (hpos : pos ≤ e.inp.length) (hT : ReadOk t e.inp) :
    rstep k (read t) e.inp (e.r ctx 0 oi ai pos) =
      extWin ctx e.inp pos >>= fun wp =>
        (if ai < wp.1.2 then bitAt e.inp (wp.1.1 + ai) else ok false) >>= fun present =>
          (if present || !k.isOptional then
            (if k.isOptional || t.buffersOnRead then readOpen (dec t) e.inp wp.2
             else dec t e.inp wp.2) >>= fun xp => ok (k.wrap xp.1, xp.2)
           else ok (k.absent, wp.2)) >>= fun vp =>
            ok (vp.1, e.r { ctx with addWin := some wp.1 } 0 oi (ai + 1) vp.2) := by
  cases k with
  | m =>
    simp only [rstep, Kind.isOptional, Bool.not_false, Bool.or_true, if_true, Bool.false_or, Kind.wrap,
      hT (e.r ctx 0 oi ai pos) rfl hpos, hms rfl, rcomp, Bool.false_eq_true, if_false,
      rentryQ_ext hL hinv hx, bind_assoc, bind_ok, rbody_r, hx, Option.isSome_some, Bool.and_true]
  | o | d dv =>
    simp only [rstep, Kind.isOptional, Bool.not_true, Bool.or_false, Bool.true_or, if_true,
      rentryQ_ext hL hinv hx, bind_assoc, bind_ok]
    refine bind_congr fun wp hwp => bind_congr fun b _ => ?_
    cases b with
    | false => rfl
    | true =>
      simp only [if_true, bind_assoc, bind_ok, rbody_r,
        readOptBody_eq (plainR_of_readOk hT) (e.r { ctx with addWin := some wp.1 } 0 oi (ai + 1) wp.2)
          ⟨rfl, extWin_le hwp hpos⟩]
      simp only [hx, Option.isSome_some, Bool.and_true, if_true]

/-- behind the root part the invariant does not look at the components to come -/
theorem rinv_ext (hinv : e.Inv ctx fields 0 oi ai) (hx : ctx.extBit = true) {b : Bool}
    (hwp : extWin ctx e.inp pos = ok wp)
    (hb : (if ai < wp.1.2 then bitAt e.inp (wp.1.1 + ai) else ok false) = ok b) :
    e.Inv { ctx with addWin := some wp.1 } fields' 0 oi (ai + 1) := by
  obtain ⟨hopt, hbit, _, hwin⟩ := hinv
  unfold extWin at hwp
  refine ⟨by rw [optCount_zero] at hopt ⊢; exact hopt, hbit, fun _ => Nat.zero_le _, hx, rfl, ?_⟩
  show wp.1.1 + min (ai + 1) wp.1.2 ≤ e.inp.length
  by_cases hlt : ai < wp.1.2
  · simp only [hlt, if_true] at hb
    have := bitAt_ok_lt hb
    omega
  · cases hw : ctx.addWin with
    | none =>
      simp only [hw] at hwin hwp
      have := readExtHeader_pos hwp
      have := hwin hx
      omega
    | some w =>
      simp only [hw, ok.injEq] at hwin hwp
      rw [← hwp] at hlt ⊢
      have := hwin.2.2
      simp only at hlt ⊢
      omega

/-! ### `skip_unknown_extension_additions` -/

theorem skipUnknownAdditions_eq (inp : Bits) (r : R) :
    skipUnknownAdditions inp r =
      if skipMore r.scope = true then
        entryQ inp r true >>= fun x =>
          if x.1.getD false then
            liftL1 (rLen none none) (vis inp x.2.len) x.2.pos >>= fun y =>
              skipUnknownAdditions inp { x.2 with pos := min (y.2 + y.1 * 8) x.2.len }
          else skipUnknownAdditions inp x.2
      else ok r := by
  rw [skipUnknownAdditions]
  by_cases hm : skipMore r.scope = true
  · simp only [hm, dite_true, if_true, entryQ]
    cases hr : readBitFieldEntry inp r true with
    | mk res r1 =>
      cases res with
      | err k => rfl
      | panic => rfl
      | ok p =>
        simp only [bind_ok]
        split
        · cases liftL1 (rLen none none) (vis inp r1.len) r1.pos <;> rfl
        · rfl
  · simp only [hm, dite_false, if_false, Bool.false_eq_true]

theorem skipMore_r (hL : e.inp.length < U64_MAX)
    (hinv : e.Inv ctx .nil 0 oi ai) (hx : ctx.extBit = true) :
    skipMore (e.r ctx 0 oi ai pos).scope =
      match ctx.addWin with
      | none => true
      | some w => decide (ai < w.2) := by
  simp only [REnv.r, REnv.scope, hx, if_true]
  cases hw : ctx.addWin with
  | none => rfl
  | some w =>
    have := hinv.2.2.2
    simp only [hw] at this
    simp only [skipMore, decide_eq_decide]
    omega

/-- the end of the walk: `skip_unknown_extension_additions`, then the `debug_assert!` of
    `scope_pushed` — what `decFields` does at the end of the component list (extension part sent;
    `d` bounds the additions still to be looked at) -/
theorem tail_ext (hL : e.inp.length < U64_MAX) (orig : Option Scope) (d : Nat) :
    ∀ (ctx : SeqCtx) (oi ai pos : Nat), e.Inv ctx .nil 0 oi ai → ctx.extBit = true →
    (∀ wp, extWin ctx e.inp pos = ok wp → wp.1.2 - ai ≤ d) →
    (skipUnknownAdditions e.inp (e.r ctx 0 oi ai pos) >>= fun r5 => r5.popScope orig) =
      extWin ctx e.inp pos >>= fun wp =>
        skipUnknown wp.1.1 wp.1.2 ai e.inp wp.2 >>= fun y => ok ⟨y.2, e.inp.length, orig⟩ := by
  induction d using Nat.strongRecOn with
  | ind d ih =>
    intro ctx oi ai pos hinv hx hd
    have hmore := skipMore_r (pos := pos) hL hinv hx
    rw [skipUnknownAdditions_eq]
    by_cases hm : skipMore (e.r ctx 0 oi ai pos).scope = true
    · simp only [hm, if_true, rentryQ_ext hL hinv hx, bind_assoc, bind_ok]
      refine bind_congr fun wp hwp => ?_
      have hlt : ai < wp.1.2 := by
        unfold extWin at hwp
        cases hw : ctx.addWin with
        | none =>
          have h0 := hinv.2.2.2
          simp only [hw] at hwp h0
          have := readExtHeader_pos hwp
          have := h0 hx
          omega
        | some w =>
          simp only [hw, ok.injEq] at hwp
          subst hwp
          simpa [hw, hm] using hmore.symm
      rw [skipUnknown, dif_pos hlt]
      simp only [hlt, if_true]
      cases hb : bitAt e.inp (wp.1.1 + ai) with
      | err k => rfl
      | panic => rfl
      | ok b =>
        have ih' := fun p => ih (d - 1) (by have := hd wp hwp; omega)
          { ctx with addWin := some wp.1 } oi (ai + 1) p
          (rinv_ext (b := b) hinv hx hwp (by simp only [hlt, if_true, hb])) hx
          (by intro wp' h; cases h; have := hd wp hwp; show wp.1.2 - (ai + 1) ≤ d - 1; omega)
        simp only [extWin, bind_ok] at ih'
        cases b with
        | false =>
          simp only [bind_ok, Option.getD_some, Bool.false_eq_true, if_false]
          exact ih' wp.2
        | true =>
          simp only [bind_ok, Option.getD_some, if_true, REnv.r, vis_self, readOpen, subSlice]
          cases liftL1 (rLen none none) e.inp wp.2 with
          | err k => rfl
          | panic => rfl
          | ok y => exact ih' _
    · have hm' := hm
      rw [hmore] at hm'
      cases hw : ctx.addWin with
      | none => simp only [hw, not_true_eq_false] at hm'
      | some w =>
        have hge : w.2 ≤ ai := by simpa [hw] using hm'
        have hin := hinv.2.2.2
        simp only [hw] at hin
        have hex : (Scope.allBitField (w.1 + min ai w.2) (min (w.1 + w.2) U64_MAX)).exhausted = true := by
          simp only [exhausted, beq_iff_eq]
          omega
        rw [if_neg hm]
        simp only [bind_ok, extWin, hw, skipUnknown_done _ _ _ _ _ hge, REnv.r, REnv.scope, hx, if_true,
          R.popScope, hex]

theorem tail_nil (hL : e.inp.length < U64_MAX) (orig : Option Scope)
    (hx : ctx.extBit = true) (hinv : e.Inv ctx .nil rl oi ai) :
    (skipUnknownAdditions e.inp (e.r ctx rl oi ai pos) >>= fun r5 => r5.popScope orig) =
      decFields .nil rl oi ai ctx e.inp pos >>= fun y => ok ⟨y.2, e.inp.length, orig⟩ := by
  have hrl0 : rl = 0 := by have := hinv.2.2.1 hx; simpa [Fields.length] using this
  subst hrl0
  rw [tail_ext hL orig (match extWin ctx e.inp pos with | ok wp => wp.1.2 - ai | _ => 0) ctx oi
    ai pos hinv hx (fun wp h => by rw [h]; exact Nat.le_refl _)]
  simp only [decFields, hx, if_true, extWin, bind_assoc, bind_ok]
  rfl

end Scope
end Asn1Verif.Uper
