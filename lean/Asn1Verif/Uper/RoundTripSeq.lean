import Asn1Verif.Uper.RoundTripLeaf
import Asn1Verif.Uper.SeqReadLemmas
/-
  C01 — SEQUENCE / SET.

  Writer side (`FrameC`, read off `encFields_frame`): a successful run of `encFields` only appends to the
  four buffers of the accumulator, additions leave the root part alone, and the extension state machine
  moves `root → all | empty`, `all → all`, `empty → empty`.

  Reader side: the input holds, from the position behind the extension bit,
    rootPres ++ rootBody ++ [ small(n−1) ++ addPres ++ addBody ]      (`SeqLayout`)
  of the FINAL accumulator `fin` of the writer.  `decFields` is followed along the writer's walk: `StateInv`
  ties the reader's cursor / bitmap window / indices to the writer's intermediate accumulator, by state.
-/
namespace Asn1Verif.Uper
open Asn1Verif Outcome Per

def ExtState.isAll : ExtState → Bool
  | .all => true
  | _ => false

theorem isAll_iff {s : ExtState} : s.isAll = true ↔ s = .all := by
  cases s <;> simp [ExtState.isAll]

structure FrameC (fs : Fields) (rootLeft : Nat) (acc fin : SeqAcc) (rp rb ap ab : Bits) : Prop where
  rootPres : fin.rootPres = acc.rootPres ++ rp
  rootBody : fin.rootBody = acc.rootBody ++ rb
  addPres : fin.addPres = acc.addPres ++ ap
  addBody : fin.addBody = acc.addBody ++ ab
  rootDone : rootLeft = 0 → rp = [] ∧ rb = []
  optCount : rp.length = fs.optCount rootLeft
  stAll : acc.st = .all → fin.st = .all ∧ ap.length = fs.length - rootLeft
  stEmpty : acc.st = .empty → fin.st = .empty ∧ ap = [] ∧ ab = []
  stRoot : acc.st = .root → (fin.st = .all → ap.length = fs.length - rootLeft) ∧
    (fin.st ≠ .all → ap = [] ∧ ab = [])
  allRoot : fs.length ≤ rootLeft → fin.st = acc.st

theorem step_add_cases {acc acc1 : SeqAcc} {k : Kind} {t : Ty} {p : Bool}
    {content : Unit → Outcome Bits} (h : acc.step k t false p content = ok acc1) :
    (acc.st ≠ .empty ∧ ∃ body, (if p then addContent k t content else ok []) = ok body ∧
      acc1 = { acc with addPres := acc.addPres ++ [p], addBody := acc.addBody ++ body, st := .all }) ∨
    (acc.st ≠ .all ∧ p = false ∧ acc1 = { acc with st := .empty }) := by
  obtain ⟨body, hb, rfl, hr⟩ := step_add_ok h
  obtain ⟨rp, rb, ap, ab, st⟩ := acc
  -- states `root`, `all`, `empty`, each with the addition absent, then present
  cases st <;> cases p
  · cases hb
    exact Or.inr ⟨nofun, rfl, by simp [emitAdd, finalSt]⟩
  · exact Or.inl ⟨nofun, body, hb, rfl⟩
  · exact Or.inl ⟨nofun, body, hb, rfl⟩
  · exact Or.inl ⟨nofun, body, hb, rfl⟩
  · cases hb
    exact Or.inr ⟨nofun, rfl, by simp [emitAdd, finalSt]⟩
  · cases hr

theorem encFields_frameC (fs : Fields) (vs : Vals) (rootLeft : Nat) (acc fin : SeqAcc)
    (h : encFields fs vs rootLeft acc = ok fin) : ∃ rp rb ap ab, FrameC fs rootLeft acc fin rp rb ap ab := by
  obtain ⟨rbs, abs, hl, rfl, hok⟩ := encFields_frame fs vs rootLeft acc h
  obtain ⟨hrp, hap⟩ := hl.presence_lengths
  refine ⟨_, _, _, _, rfl, rfl, rfl, rfl, ?_, hrp, ?_, ?_, ?_, ?_⟩
  · rintro rfl
    rw [List.eq_nil_of_length_eq_zero (hl.lengths.2.1.trans (Nat.zero_min _))]
    exact ⟨rootPresence_zero _ _, rfl⟩
  · intro hs
    rw [hs]
    exact ⟨rfl, hap⟩
  · intro hs
    rw [hs] at hok ⊢
    exact ⟨rfl, rfl, hl.addBodies_nil (Bool.eq_false_iff.2 hok)⟩
  · intro hs
    rw [hs] at hok ⊢
    rcases (addsOk_root_cases _ hok).2 with ⟨_, h1, h2⟩ | ⟨h0, h1, h2⟩
    · exact ⟨fun _ => h2.symm ▸ hap, fun hn => absurd h1 hn⟩
    · refine ⟨fun ha => ?_, fun _ => ⟨h1, hl.addBodies_nil h0⟩⟩
      rcases h2 with h2 | h2 <;> rw [h2] at ha <;> cases ha
  · intro hle
    rw [additionPresence_of_le _ _ _ hle, finalSt_nil]

/-- what follows the root part -/
def extPart (fin : SeqAcc) : Bits :=
  if fin.st.isAll then X691.small (fin.addPres.length - 1) ++ (fin.addPres ++ fin.addBody) else []

structure SeqLayout (inp : Bits) (fin : SeqAcc) (P B : Nat) (post : Bits) : Prop where
  pres : ∃ X, At inp P fin.rootPres X
  body : At inp B fin.rootBody (extPart fin ++ post)

/-- position of the addition bitmap, of the first open type, of the end -/
def winPos (fin : SeqAcc) (B : Nat) : Nat :=
  B + fin.rootBody.length + (X691.small (fin.addPres.length - 1)).length
def addPos (fin : SeqAcc) (B : Nat) : Nat := winPos fin B + fin.addPres.length
def endPos (fin : SeqAcc) (B : Nat) : Nat := B + fin.rootBody.length + (extPart fin).length

theorem At.take {inp : Bits} {pos : Nat} {a post : Bits} (h : At inp pos [] (a ++ post)) :
    At inp pos a post := ⟨by simpa using h.1, h.2⟩

theorem layout_ext {inp : Bits} {fin : SeqAcc} {P B : Nat} {post : Bits} (L : SeqLayout inp fin P B post)
    (hall : fin.st = .all) :
    At inp (B + fin.rootBody.length) (X691.small (fin.addPres.length - 1))
        (fin.addPres ++ (fin.addBody ++ post)) ∧
      At inp (winPos fin B) fin.addPres (fin.addBody ++ post) ∧
      At inp (addPos fin B) fin.addBody post ∧
      endPos fin B = addPos fin B + fin.addBody.length := by
  have he : extPart fin = X691.small (fin.addPres.length - 1) ++ (fin.addPres ++ fin.addBody) := by
    simp [extPart, hall, ExtState.isAll]
  have h0 := L.body.skip
  rw [he] at h0
  simp only [List.append_assoc] at h0
  refine ⟨h0.take, h0.take.skip.take, h0.take.skip.take.skip.take, ?_⟩
  simp only [endPos, addPos, winPos, he, List.length_append]
  omega

theorem readExtHeader_at (inp : Bits) (pos n : Nat) (rest : Bits) (hn1 : 1 ≤ n) (hn : n ≤ U64_MAX)
    (hat : At inp pos (X691.small (n - 1)) rest) (hlen : n ≤ rest.length) :
    readExtHeader inp pos =
      ok ((pos + (X691.small (n - 1)).length, n), pos + (X691.small (n - 1)).length + n) := by
  have hb := hat.bound
  unfold readExtHeader
  rw [hat.lift _ _ (rSmall_rt (n - 1) rest (by omega))]
  simp only [Outcome.bind_ok]
  rw [show n - 1 + 1 = n by omega, if_neg (by omega), Nat.min_eq_left (by omega)]

theorem layout_header {inp : Bits} {fin : SeqAcc} {P B : Nat} {post : Bits}
    (L : SeqLayout inp fin P B post) (hall : fin.st = .all) (h1 : 1 ≤ fin.addPres.length)
    (hn : fin.addPres.length ≤ U64_MAX) :
    readExtHeader inp (B + fin.rootBody.length)
      = ok ((winPos fin B, fin.addPres.length), addPos fin B) := by
  rw [readExtHeader_at inp _ fin.addPres.length _ h1 hn (layout_ext L hall).1 (by simp)]
  rfl

theorem layout_noext {fin : SeqAcc} {B : Nat} (hall : fin.st ≠ .all) :
    endPos fin B = B + fin.rootBody.length := by
  have : fin.st.isAll = false := Bool.eq_false_iff.2 (mt isAll_iff.1 hall)
  simp [endPos, extPart, this]

def StateInv (acc fin : SeqAcc) (B rootLeft : Nat) (ctx : SeqCtx) (addIdx pos : Nat) : Prop :=
  match acc.st with
  | .all => rootLeft = 0 ∧ ctx.addWin = some (winPos fin B, fin.addPres.length) ∧
      addIdx = acc.addPres.length ∧ pos = addPos fin B + acc.addBody.length
  | .root => ctx.addWin = none ∧ pos = B + acc.rootBody.length ∧ acc.addPres = [] ∧
      acc.addBody = [] ∧ addIdx = 0
  | .empty => ctx.addWin = none ∧ pos = B + acc.rootBody.length ∧ rootLeft = 0

theorem StateInv.root_of_pos {acc fin : SeqAcc} {B n : Nat} {ctx : SeqCtx} {addIdx pos : Nat}
    (h : StateInv acc fin B (n + 1) ctx addIdx pos) :
    acc.st = .root ∧ ctx.addWin = none ∧ pos = B + acc.rootBody.length ∧ acc.addPres = [] ∧
      acc.addBody = [] ∧ addIdx = 0 := by
  unfold StateInv at h
  cases hst : acc.st <;> rw [hst] at h
  · exact ⟨rfl, h⟩
  · cases h.1
  · cases h.2.2

theorem StateInv.noext {acc fin : SeqAcc} {B rootLeft : Nat} {ctx : SeqCtx} {addIdx pos : Nat}
    (h : StateInv acc fin B rootLeft ctx addIdx pos) (hne : acc.st ≠ .all) :
    ctx.addWin = none ∧ pos = B + acc.rootBody.length := by
  unfold StateInv at h
  cases hst : acc.st <;> rw [hst] at h
  · exact ⟨h.1, h.2.1⟩
  · exact absurd hst hne
  · exact ⟨h.1, h.2.1⟩

/-- for a fixed final accumulator `fin` of the writer and a fixed input, the reader on the components `rfs`
    follows the writer on `wfs` from ANY intermediate state and returns `rvs`, ending behind the whole
    SEQUENCE.  (C01: `rfs = wfs`, `rvs = wvs`; C05: one list carries additions the other does not know.) -/
def Cont (wfs : Fields) (wvs : Vals) (rfs : Fields) (rvs : Vals) (rootLeft : Nat) (fin : SeqAcc)
    (inp : Bits) (P B : Nat) : Prop :=
  ∀ (acc : SeqAcc) (ctx : SeqCtx) (addIdx pos : Nat),
    encFields wfs wvs rootLeft acc = ok fin → ctx.presPos = P → ctx.extBit = fin.st.isAll →
    StateInv acc fin B rootLeft ctx addIdx pos →
    decFields rfs rootLeft acc.rootPres.length addIdx ctx inp pos = ok (rvs, endPos fin B)

def FieldsRT (fs : Fields) : Prop :=
  ∀ (vs : Vals) (rootLeft : Nat) (fin : SeqAcc) (inp : Bits) (P B : Nat) (post : Bits),
    fs.rtOk rootLeft = true → valOkFields fs vs rootLeft = true → fs.length ≤ U64_MAX →
    SeqLayout inp fin P B post → Cont fs vs fs vs rootLeft fin inp P B

theorem cont_nil (rootLeft : Nat) (fin : SeqAcc) (inp : Bits) (P B : Nat) (post : Bits)
    (L : SeqLayout inp fin P B post) (vs : Vals) : Cont .nil vs .nil vs rootLeft fin inp P B := by
  intro acc ctx addIdx pos henc _ hext hinv
  cases vs with
  | cons v vs => simp [encFields] at henc
  | nil =>
    simp only [encFields] at henc
    injection henc with henc; subst henc
    simp only [decFields]
    unfold StateInv at hinv
    cases hst : acc.st <;> simp only [hst] at hinv
    case all =>
      obtain ⟨_, hwin, hidx, hpos⟩ := hinv
      have hx : ctx.extBit = true := by rw [hext, hst]; rfl
      simp only [hx, if_true, hwin, Outcome.bind_ok, hidx, skipUnknown_done _ _ _ _ _ (Nat.le_refl _)]
      rw [hpos, (layout_ext L hst).2.2.2]
    all_goals
      have hx : ctx.extBit = false := by rw [hext, hst]; rfl
      simp only [hx, Bool.false_eq_true, if_false]
      rw [hinv.2.1, layout_noext (by rw [hst]; nofun)]

theorem fieldsRT_nil : FieldsRT .nil := by
  intro vs rootLeft fin inp P B post _ _ _ L
  exact cont_nil rootLeft fin inp P B post L vs

theorem view_present {k : Kind} {v x : Val} (h : fieldView k v = some (true, x)) : k.wrap x = v := by
  cases k with
  | m => simp only [fieldView, Option.some.injEq, Prod.mk.injEq, true_and] at h; subst h; rfl
  | d dv =>
    simp only [fieldView, Option.some.injEq, Prod.mk.injEq] at h
    obtain ⟨_, h⟩ := h; subst h; rfl
  | o =>
    cases v <;> simp only [fieldView, Option.some.injEq, Prod.mk.injEq, true_and, reduceCtorEq,
      Bool.false_eq_true, false_and] at h
    subst h; rfl

theorem view_absent {k : Kind} {v x : Val} (h : fieldView k v = some (false, x)) :
    k.absent = v ∧ k.isOptional = true := by
  cases k with
  | m => simp [fieldView] at h
  | d dv =>
    simp only [fieldView, Option.some.injEq, Prod.mk.injEq, Bool.not_eq_false'] at h
    exact ⟨((Val.beq_iff _ _).1 h.1).symm, rfl⟩
  | o =>
    cases v <;> simp only [fieldView, Option.some.injEq, Prod.mk.injEq, true_and, reduceCtorEq,
      Bool.true_eq_false, false_and] at h
    exact ⟨rfl, rfl⟩

theorem view_mandatory {k : Kind} {v x : Val} {p : Bool} (h : fieldView k v = some (p, x))
    (hk : k.isOptional = false) : p = true := by
  cases k with
  | m => simp only [fieldView, Option.some.injEq, Prod.mk.injEq] at h; exact h.1.symm
  | d dv => cases hk
  | o => cases hk

theorem root_content_rt (k : Kind) (t : Ty) (iht : RT (enc t) (dec t) (valOk t)) (x v : Val)
    (p : Bool) (body : Bits) (hv : fieldView k v = some (p, x)) (hvx : p = true → valOk t x = true)
    (hb : (if p = true then enc t x else ok []) = ok body)
    (inp : Bits) (pos : Nat) (post' : Bits) (hat : At inp pos body post') :
    (if p = true then (dec t inp pos >>= fun y => ok (k.wrap y.fst, y.snd)) else ok (k.absent, pos))
      = ok (v, pos + body.length) := by
  cases p with
  | true =>
    rw [if_pos rfl] at hb ⊢
    rw [iht x body (hvx rfl) hb inp pos post' hat]
    simp only [Outcome.bind_ok, view_present hv]
  | false =>
    injection hb with hb; subst hb
    rw [if_neg Bool.false_ne_true, (view_absent hv).1]
    rfl

theorem add_content_rt (k : Kind) (t : Ty) (iht : RT (enc t) (dec t) (valOk t)) (x v : Val)
    (p : Bool) (body : Bits) (hv : fieldView k v = some (p, x))
    (hcond : (k.isOptional || (t.buffersOnWrite == t.buffersOnRead)) = true)
    (hvx : p = true → valOk t x = true ∧
      (!(k.isOptional || t.buffersOnWrite) || openOkC (enc t x)) = true)
    (hb : (if p then addContent k t fun _ => enc t x else ok []) = ok body)
    (inp : Bits) (pos : Nat) (post' : Bits) (hat : At inp pos body post') :
    (if (p || !k.isOptional) = true then
        ((if (k.isOptional || t.buffersOnRead) = true then readOpen (dec t) inp pos
          else dec t inp pos) >>= fun y => ok (k.wrap y.fst, y.snd))
      else ok (k.absent, pos)) = ok (v, pos + body.length) := by
  cases p with
  | false =>
    injection hb with hb; subst hb
    have := view_absent hv
    simp [this.1, this.2]
  | true =>
    rw [if_pos rfl] at hb
    obtain ⟨c, hc, hb⟩ := bind_eq_ok.1 hb
    -- both sides take the same branch
    have hr : (k.isOptional || t.buffersOnRead) = (k.isOptional || t.buffersOnWrite) := by
      cases hk : k.isOptional
      · simp only [hk, Bool.false_or, beq_iff_eq] at hcond ⊢
        exact hcond.symm
      · rfl
    rw [Bool.true_or, if_pos rfl, hr]
    cases hw : (k.isOptional || t.buffersOnWrite) with
    | true =>
      rw [hw, if_pos rfl] at hb
      have hl : (openOctets c).length < 16384 := by
        simpa [hw, openOkC, hc] using (hvx rfl).2
      rw [if_pos rfl, readOpen_at (dec t) inp pos c post' body x hat hb hl
        (fun q post'' h => ⟨_, iht x c (hvx rfl).1 hc inp q post'' h⟩)]
      simp only [Outcome.bind_ok, view_present hv]
    | false =>
      rw [hw, if_neg Bool.false_ne_true] at hb
      injection hb with hb; subst hb
      rw [if_neg Bool.false_ne_true, iht x c (hvx rfl).1 hc inp pos post' hat]
      simp only [Outcome.bind_ok, view_present hv]

theorem cont_cons (k : Kind) (t : Ty) (wrest : Fields) (wvs : Vals) (rrest : Fields) (rvs : Vals)
    (iht : RT (enc t) (dec t) (valOk t)) (v : Val) (rootLeft : Nat) (fin : SeqAcc) (inp : Bits)
    (P B : Nat) (post : Bits) (L : SeqLayout inp fin P B post)
    (hcond : (decide (rootLeft > 0) || k.isOptional || (t.buffersOnWrite == t.buffersOnRead)) = true)
    (hvx : (match fieldView k v with
      | some (true, x) =>
        valOk t x &&
          (decide (rootLeft > 0) || !(k.isOptional || t.buffersOnWrite) || openOkC (enc t x))
      | _ => true) = true)
    (hlen : wrest.length + 1 ≤ U64_MAX)
    (ihr : Cont wrest wvs rrest rvs (rootLeft - 1) fin inp P B) :
    Cont (.cons k t wrest) (.cons v wvs) (.cons k t rrest) (.cons v rvs) rootLeft fin inp P B := by
  intro acc ctx addIdx pos henc hP hext hinv
  rw [encFields_cons_view] at henc
  cases hv : fieldView k v with
  | none => simp [hv] at henc
  | some px =>
    obtain ⟨p, x⟩ := px
    simp only [hv] at henc hvx
    obtain ⟨acc1, hs, henc'⟩ := bind_eq_ok.1 henc
    obtain ⟨rp, rb, ap, ab, F⟩ := encFields_frameC wrest wvs (rootLeft - 1) acc1 fin henc'
    have hvx' : p = true → valOk t x = true ∧
        (decide (rootLeft > 0) || !(k.isOptional || t.buffersOnWrite) || openOkC (enc t x)) = true := by
      intro hp; subst hp
      simpa only [Bool.and_eq_true] using hvx
    cases rootLeft with
    | succ n =>
      -- a root component; the writer is in state `root`
      simp only [Nat.zero_lt_succ, gt_iff_lt, decide_true] at hs
      obtain ⟨body, hb, rfl⟩ := step_root_ok hs
      obtain ⟨hst, hwin, hpos, hap, hab, hidx⟩ := hinv.root_of_pos
      have hpres : (if k.isOptional = true then bitAt inp (ctx.presPos + acc.rootPres.length)
          else ok true) = ok p := by
        cases hk : k.isOptional with
        | false => rw [view_mandatory hv hk]; rfl
        | true =>
          obtain ⟨X, hX⟩ := L.pres
          rw [if_pos rfl, hP]
          exact hX.bit _ _ (by rw [F.rootPres]; simp [hk])
      have hbody : At inp pos body (rb ++ (extPart fin ++ post)) := by
        have := L.body
        rw [F.rootBody] at this
        exact hpos ▸ this.left.right
      -- the components behind it, from the writer's next accumulator
      have hrest := ihr _ ctx addIdx (pos + body.length) henc' hP hext (by
        unfold StateInv
        simp only [hst]
        exact ⟨hwin, by simp only [List.length_append]; omega, hap, hab, hidx⟩)
      have eidx : (if k.isOptional = true then acc.rootPres.length + 1 else acc.rootPres.length)
          = (acc.rootPres ++ if k.isOptional = true then [p] else []).length := by
        cases k.isOptional <;> simp
      simp only [decFields, Nat.zero_lt_succ, gt_iff_lt, if_true, hpres, Outcome.bind_ok, eidx,
        root_content_rt k t iht x v p body hv (fun hp => (hvx' hp).1) hb inp pos _ hbody, hrest]
    | zero =>
      -- an extension addition
      simp only [Nat.lt_irrefl, gt_iff_lt, decide_false, Bool.false_or] at hs hcond hvx'
      simp only [Nat.zero_sub] at henc' ihr F
      rcases step_add_cases hs with ⟨hne, body, hb, rfl⟩ | ⟨hne, rfl, rfl⟩
      · -- recorded in the bitmap: the extension part is there
        obtain ⟨hall, hcnt⟩ := F.stAll rfl
        obtain ⟨_, hW, hA, _⟩ := layout_ext L hall
        have hx : ctx.extBit = true := by rw [hext, hall]; rfl
        -- the bitmap window is known from an earlier addition, or its header is read now
        have hhdr : addIdx = acc.addPres.length ∧
            ((ctx.addWin = some (winPos fin B, fin.addPres.length) ∧
                pos = addPos fin B + acc.addBody.length) ∨
              (ctx.addWin = none ∧ readExtHeader inp pos =
                ok ((winPos fin B, fin.addPres.length), addPos fin B + acc.addBody.length))) := by
          unfold StateInv at hinv
          cases hst : acc.st <;> simp only [hst] at hinv
          case empty => exact absurd hst hne
          case all => exact ⟨hinv.2.2.1, Or.inl ⟨hinv.2.1, hinv.2.2.2⟩⟩
          case root =>
            obtain ⟨hwin, hpos, hap, hab, hidx⟩ := hinv
            have hn : fin.addPres.length = wrest.length + 1 := by
              rw [F.addPres, List.length_append, hcnt, hap]; simp; omega
            have hrb : fin.rootBody = acc.rootBody := by
              rw [F.rootBody, (F.rootDone rfl).2]; simp
            refine ⟨by rw [hidx, hap]; rfl, Or.inr ⟨hwin, ?_⟩⟩
            rw [hpos, ← hrb, layout_header L hall (by omega) (by omega), hab]
            rfl
        obtain ⟨hidx, hhdr⟩ := hhdr
        have hlt : addIdx < fin.addPres.length := by
          rw [F.addPres, hidx]; simp only [List.length_append, List.length_cons]; omega
        have hbit : bitAt inp (winPos fin B + addIdx) = ok p :=
          hW.bit _ _ (by rw [F.addPres, hidx]; simp)
        have hcur : At inp (addPos fin B + acc.addBody.length) body (ab ++ post) :=
          (F.addBody ▸ hA).left.right
        have hcontent := add_content_rt k t iht x v p body hv hcond hvx' hb inp _ _ hcur
        have hrest := ihr _ ⟨ctx.presPos, true, some (winPos fin B, fin.addPres.length), ctx.nLocal⟩
          (addIdx + 1) (addPos fin B + acc.addBody.length + body.length) henc' hP
          (by rw [hall]; rfl)
          ⟨rfl, rfl, by simp [hidx], by simp only [List.length_append]; omega⟩
        rcases hhdr with ⟨h1, h2⟩ | ⟨h1, h2⟩ <;>
          simp only [decFields, Nat.lt_irrefl, if_false, hx, if_true, h1, h2, Outcome.bind_ok, hlt,
            hbit, hcontent, hrest]
      · -- absent and not recorded: no extension part is written
        have hx : ctx.extBit = false := by rw [hext, (F.stEmpty rfl).1]; rfl
        have hab := view_absent hv
        have hwp := hinv.noext hne
        have hrest := ihr _ ctx (addIdx + 1) pos henc' hP hext ⟨hwp.1, hwp.2, rfl⟩
        simp only [decFields, Nat.lt_irrefl, if_false, hx, Bool.false_eq_true]
        cases k with
        | m => cases hab.2
        | o => simp only [Outcome.bind_ok, hrest, hab.1]
        | d dv => simp only [Outcome.bind_ok, hrest, hab.1]

theorem fieldsRT_cons (k : Kind) (t : Ty) (rest : Fields)
    (iht : t.rtOk = true → RT (enc t) (dec t) (valOk t)) (ihr : FieldsRT rest) :
    FieldsRT (.cons k t rest) := by
  intro vs rootLeft fin inp P B post hrt hvo hlen L
  cases vs with
  | nil => intro acc ctx addIdx pos henc; simp [encFields] at henc
  | cons v vs =>
    simp only [Fields.rtOk, Bool.and_eq_true] at hrt
    simp only [valOkFields, Bool.and_eq_true] at hvo
    simp only [Fields.length] at hlen
    exact cont_cons k t rest vs rest vs (iht hrt.1.1) v rootLeft fin inp P B post L
      (by simpa [Bool.or_assoc] using hrt.1.2) hvo.1 hlen
      (ihr vs (rootLeft - 1) fin inp P B post hrt.2 hvo.2 (by omega) L)

end Asn1Verif.Uper
