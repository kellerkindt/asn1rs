import Asn1Verif.Proto.PackageLemmas
/-
  C18 ("for every module, the generated .proto file is valid proto3"), the part that is decided by
  proof: the `package` line and the file name.

  Model: Proto/Package.lean (`model_name`, `model_file_name`, `model_to_package` of
  generate/protobuf.rs as they are after ae3699b, fed with `make_name_nice` + `rust_module_name(_,
  false)` as `Converter::to_protobuf` does); tied to the code by the stream `proto-package`
  (ops `proto package`, `proto package-fn`).  Grammar: `FullIdent` = protoc's reading of
  `fullIdent = ident { "." ident }`, `ident = [A-Za-z_][A-Za-z0-9_]*`.

  Results
  * `package_valid`: for every name over `[A-Za-z0-9_-]` (a superset of X.680 12.2, and every such
    name without `--` is a single tokenizer token: `alphabet_is_one_token`) the package is empty
    exactly when `make_name_nice` leaves no letter or digit, otherwise it is a `fullIdent` whose
    components have the shape `[a-z_][a-z0-9]*`.
  * `package_line_valid` (the statement C18 needs: the line `package …;` is proto3) is FALSE: module
    `Module` (a legal X.680 module reference) is renamed to the empty string by `make_name_nice` and
    gets `package ;`.  `package_line_valid_iff` says exactly which names are affected, without any
    hypothesis; `package_line_valid_partial` is the positive half for X.680 names.
  * `package_valid_all_tokens` (the same over everything the tokenizer delivers as one text token)
    is FALSE as well: `A+B` gives `package a+b;`; the parser does not check module names.
  * object identifier branch: `oid_component_valid`, `oid_component_sharp`, `oid_package_valid`;
    the only invalid outcome over the alphabet is the empty identifier `{ }` (not X.680, accepted by
    `read_oid`): `oid_package_line_valid_false`.
  * `file_name_shape`; a `/` in a module name token goes into the file name
    (`file_name_shape_all_tokens_false`).
-/
namespace Asn1Verif.Props.C18Pkg
open Asn1Verif.Codegen.Names Asn1Verif.Proto.Package

/-! ### regression: the witnesses of the defect repaired in ae3699b, and friends -/

example :
    packageOfModule "ISO-8859".toList none = "iso._8859".toList ∧
    makeNameNice "Fleet-Module".toList = "Fleet-".toList ∧
    packageOfModule "Fleet-Module".toList none = "fleet".toList ∧
    packageOfModule "Rnd-Mod-2".toList none = "rnd.mod._2".toList ∧
    packageOfModule "CAM-PDU-Descriptions".toList none = "cam.pdu.descriptions".toList ∧
    packageOfModule "PKIX1Explicit88".toList none = "pkix1explicit88".toList ∧
    fileNameOfModule "ISO-8859".toList = "iso_8859.proto".toList ∧
    fileNameOfModule "Fleet-Module".toList = "fleet_.proto".toList ∧
    packageOfModule "Oid-Mod".toList (some [.nameAndNumberForm "iso".toList 1,
      .nameAndNumberForm "standard".toList 0, .numberForm 4711]) = "iso.standard._4711".toList ∧
    packageOfModule "Oid-Mod".toList (some [.nameAndNumberForm "joint-iso-itu-t".toList 2,
      .nameForm "x-509".toList, .nameAndNumberForm "2nd".toList 2]) =
      "joint_iso_itu_t.x_509._2nd".toList := by
  names_eval

/-- the function itself (as `to_rust_keep_names()` would feed it): capitals split components -/
example :
    modelToPackage "ISO-8859".toList none = "iso._8859".toList ∧
    modelToPackage "My_ModuleDefs-2x".toList none = "my.module.defs._2x".toList ∧
    modelFileName "My-ModuleDefs".toList = "my__module_defs.proto".toList := by
  names_eval

/-! ### the alphabet -/

/-- every non-empty text over `[A-Za-z0-9_-]` without `--` is delivered by the tokenizer as one
    `Token::Text`: the theorems below speak about names that can really reach the generator -/
theorem alphabet_is_one_token (n : Name) (h : NameAlphabet n = true) (hne : n ≠ [])
    (hc : noCommentStart n = true) : TokenText n = true := by
  have ht : n.all tokenChar = true :=
    List.all_eq_true.mpr fun c hcn => nameChar_tokenChar ((nameAlphabet_iff n).mp h c hcn)
  simp [TokenText, ht, hc, hne]

example : NameAlphabet "ISO-8859_x-Module".toList = true ∧ "ISO-8859_x-Module".toList ≠ [] ∧
    noCommentStart "ISO-8859_x-Module".toList = true := by
  names_eval

/-- X.680 names are over the alphabet -/
theorem asn_in_alphabet (n : Name) (h : AsnIdent n = true) : NameAlphabet n = true := by
  cases n with
  | nil => simp [AsnIdent] at h
  | cons c cs =>
    simp only [AsnIdent, Bool.and_eq_true, List.all_eq_true] at h
    rw [nameAlphabet_iff]
    intro d hd
    rcases List.mem_cons.mp hd with rfl | hd
    · exact alpha_nameChar d h.1.1
    · have := h.1.2 d hd
      simp only [nameChar, Bool.or_eq_true] at this ⊢
      exact .inl this

/-! ### `package_valid` -/

/-- `model_to_package(path, None)` on any argument over the alphabet (dots allowed), whatever
    produced it: empty exactly when the argument has no letter or digit; otherwise a proto3
    `fullIdent`, and each of its dot-separated components has the shape `[a-z_][a-z0-9]*` -/
theorem package_valid_fn (path : Name) (h : ∀ c ∈ path, pathChar c = true) :
    (modelToPackage path none = [] ↔ hasAlnum path = false) ∧
    (modelToPackage path none ≠ [] →
      FullIdent (modelToPackage path none) = true ∧
      ∀ w ∈ splitOn '.' (modelToPackage path none), PkgComponent w = true) := by
  obtain ⟨h1, h2⟩ := joinWith_idents (pathComponents path)
    (fun w hw => pkgComponent_ident (pathComponents_shape path h w hw))
  have hnil : modelToPackage path none = [] ↔ hasAlnum path = false := by
    rw [← only_seps_iff_no_alnum h, ← pathComponents_eq_nil_iff]; exact h1
  refine ⟨hnil, fun hne => ?_⟩
  obtain ⟨h3, h4⟩ := h2 (fun h0 => hne (h1.mpr h0))
  refine ⟨h3, ?_⟩
  unfold modelToPackage
  rw [h4]; exact pathComponents_shape path h

example : (∀ c ∈ "My_ModuleDefs-2x".toList, pathChar c = true) ∧
    modelToPackage "My_ModuleDefs-2x".toList none ≠ [] := by
  names_eval

/-- For every module name over `[A-Za-z0-9_-]`, the package computed without an object identifier
    is empty exactly when `make_name_nice` leaves no letter or digit of the name; otherwise it is a
    proto3 `fullIdent`, and each of its dot-separated components has the shape `[a-z_][a-z0-9]*`
    (so: non-empty, `[A-Za-z_][A-Za-z0-9_]*`). -/
theorem package_valid (n : Name) (h : NameAlphabet n = true) :
    (packageOfModule n none = [] ↔ hasAlnum (makeNameNice n) = false) ∧
    (packageOfModule n none ≠ [] →
      FullIdent (packageOfModule n none) = true ∧
      ∀ w ∈ splitOn '.' (packageOfModule n none), PkgComponent w = true ∧ ProtoIdent w = true) := by
  obtain ⟨hnil, hfull⟩ := package_valid_fn (pipelineName n)
    (fun c hc => lowIdc_pathChar (pipelineName_chars h c hc))
  rw [pipelineName_hasAlnum] at hnil
  exact ⟨hnil, fun hne => ⟨(hfull hne).1, fun w hw =>
    ⟨(hfull hne).2 w hw, pkgComponent_ident ((hfull hne).2 w hw)⟩⟩⟩

example : NameAlphabet "ISO-8859".toList = true ∧ packageOfModule "ISO-8859".toList none ≠ [] ∧
    splitOn '.' (packageOfModule "ISO-8859".toList none) = ["iso".toList, "_8859".toList] := by
  names_eval

/-! ### the `package` line as C18 needs it: a `fullIdent`, for every module -/

/-- FULL statement: every X.680 name, used as a module name, gets a `package` line that is
    proto3. -/
def package_line_valid : Prop :=
  ∀ n : Name, AsnIdent n = true → FullIdent (packageOfModule n none) = true

theorem module_Module_witness :
    AsnIdent "Module".toList = true ∧ makeNameNice "Module".toList = [] ∧
    packageOfModule "Module".toList none = [] ∧ FullIdent [] = false ∧
    fileNameOfModule "Module".toList = ".proto".toList := by
  names_eval

/-- FALSE for the current code: `Module DEFINITIONS ::= BEGIN … END` is given the name `""` by the
    parser (`make_name_nice`), the header line is `package ;`, the file is `.proto` -/
theorem package_line_valid_false : ¬ package_line_valid := by
  intro h
  obtain ⟨h1, _, h2, h3, _⟩ := module_Module_witness
  have := h _ h1
  rw [h2, h3] at this
  exact absurd this (by simp)

/-- EXACTLY which module names get a proto3 `package` line — no hypothesis on the name: what
    `make_name_nice` leaves of it is over `[A-Za-z0-9_.-]` and contains a letter or digit. -/
theorem package_line_valid_iff (n : Name) :
    FullIdent (packageOfModule n none) = true ↔
      (∀ c ∈ makeNameNice n, pathChar c = true) ∧ hasAlnum (makeNameNice n) = true := by
  unfold packageOfModule
  rw [package_fullIdent_iff, pipelineName_hasAlnum]
  unfold pipelineName
  rw [pathChar_moduleA_iff]

/-- over the whole alphabet the excluded names are those of which only `-` and `_` are left -/
theorem package_line_valid_alphabet (n : Name) (h : NameAlphabet n = true)
    (ha : hasAlnum (makeNameNice n) = true) : FullIdent (packageOfModule n none) = true := by
  rw [package_line_valid_iff]
  exact ⟨fun c hc => nameChar_pathChar
    ((nameAlphabet_iff _).mp (nameAlphabet_nice h) c hc), ha⟩

example : NameAlphabet "-_9-Module".toList = true ∧
    hasAlnum (makeNameNice "-_9-Module".toList) = true ∧
    packageOfModule "-_9-Module".toList none = "_9".toList := by
  names_eval

/-- for an X.680 name the excluded region is the single name `Module` -/
theorem asn_excluded_iff (n : Name) (h : AsnIdent n = true) :
    hasAlnum (makeNameNice n) = false ↔ n = "Module".toList := by
  constructor
  · intro ha
    have hnil : makeNameNice n = [] := by
      cases n with
      | nil => simp [AsnIdent] at h
      | cons c cs =>
        -- a non-empty prefix would contain the first letter
        rcases List.prefix_cons_iff.mp (makeNameNice_prefix (c :: cs)) with h0 | ⟨t, h0, _⟩
        · exact h0
        · simp only [AsnIdent, Bool.and_eq_true] at h
          simp [h0, hasAlnum, Char.isAlphanum, h.1.1] at ha
    rcases makeNameNice_eq_nil hnil with rfl | h1 | rfl | rfl
    · exact absurd h (by decide)
    · exact h1
    · exact absurd h (by names_eval)
    · exact absurd h (by names_eval)
  · rintro rfl; rw [module_Module_witness.2.1]; rfl

/-- PARTIAL form of `package_line_valid`: every X.680 name other than `Module` -/
theorem package_line_valid_partial (n : Name) (h : AsnIdent n = true)
    (hm : n ≠ "Module".toList) : FullIdent (packageOfModule n none) = true := by
  refine package_line_valid_alphabet n (asn_in_alphabet n h) ?_
  rw [← Bool.not_eq_false, asn_excluded_iff n h]
  exact hm

example : AsnIdent "My-Module".toList = true ∧ "My-Module".toList ≠ "Module".toList ∧
    packageOfModule "My-Module".toList none = "my".toList := by
  names_eval

/-! ### everything the tokenizer lets through -/

/-- FULL statement over every (ASCII) text the tokenizer delivers as one token: empty or a
    `fullIdent`. -/
def package_valid_all_tokens : Prop :=
  ∀ n : Name, TokenText n = true →
    packageOfModule n none = [] ∨ FullIdent (packageOfModule n none) = true

theorem token_plus_witness :
    TokenText "A+B".toList = true ∧ packageOfModule "A+B".toList none = "a+b".toList ∧
    FullIdent "a+b".toList = false := by
  names_eval

/-- FALSE: the parser takes any text token as the module name; `A+B` gives `package a+b;` -/
theorem package_valid_all_tokens_false : ¬ package_valid_all_tokens := by
  intro h
  obtain ⟨h1, h2, h3⟩ := token_plus_witness
  rcases h _ h1 with h4 | h4 <;> rw [h2] at h4
  · exact absurd h4 (by names_eval)
  · rw [h3] at h4; exact absurd h4 (by simp)

/-- PARTIAL form: the excluded region is "some character outside `[A-Za-z0-9_-]`"; by
    `package_line_valid_iff` the hypothesis is sharp (any such character other than `.`, which no
    token contains, that survives `make_name_nice` makes the package invalid). -/
theorem package_valid_all_tokens_partial (n : Name) (_ht : TokenText n = true)
    (h : NameAlphabet n = true) :
    packageOfModule n none = [] ∨ FullIdent (packageOfModule n none) = true := by
  by_cases he : packageOfModule n none = []
  · exact .inl he
  · exact .inr ((package_valid n h).2 he).1

example : TokenText "Ends-With-".toList = true ∧ NameAlphabet "Ends-With-".toList = true := by
  names_eval

/-! ### the object identifier branch -/

/-- every component — `NameForm` / `NameAndNumberForm` with a non-empty name over the alphabet,
    `NumberForm` with any number — is printed as `[a-z_][a-z0-9_]*`, hence as a proto3 `ident` -/
theorem oid_component_valid (c : OidComp) (h : OidCompOk c = true) :
    LowerIdent (oidCompPackage c) = true ∧ ProtoIdent (oidCompPackage c) = true :=
  ⟨oidCompPackage_shape h, lowerIdent_ident (oidCompPackage_shape h)⟩

example : OidCompOk (.nameAndNumberForm "2nd-Edition".toList 2) = true ∧
    oidCompPackage (.nameAndNumberForm "2nd-Edition".toList 2) = "_2nd_edition".toList := by
  names_eval

/-- exactly which name spellings give an invalid identifier — no hypothesis on the name: the empty
    one, and every one with a character outside `[A-Za-z0-9_-]` (both name forms alike) -/
theorem oid_component_sharp (name : Name) (k : Nat) :
    (ProtoIdent (oidCompPackage (.nameForm name)) = true ↔
      (name ≠ [] ∧ NameAlphabet name = true)) ∧
    oidCompPackage (.nameAndNumberForm name k) = oidCompPackage (.nameForm name) := by
  refine ⟨⟨fun h => ⟨?_, ?_⟩, fun h => ?_⟩, rfl⟩
  · rintro rfl; exact absurd h (by decide)
  · rw [nameAlphabet_iff]
    intro c hc
    by_cases h1 : c = '-'
    · rw [h1]; rfl
    have hs : c ∈ oidCompSpelling (.nameForm name) := by
      have : c ∈ replaceChar '-' '_' name := mem_replaceChar.mpr (.inr ⟨hc, h1⟩)
      simp only [oidCompSpelling]
      split
      · exact List.mem_cons_of_mem _ this
      · exact this
    -- the lowered character is printed, so it is an identifier character
    rw [← class_toLower alpha_nameChar]
    by_cases h2 : c.toLower = '_'
    · rw [h2]; rfl
    · exact identCont_nameChar
        (protoIdent_chars h _ ((mem_moduleA_go h2 false _ _ _ _ _).mpr ⟨c, hs, h1, rfl⟩))
  · exact (oid_component_valid _ (by simp [OidCompOk, h])).2

/-- a number is printed as `_<decimal digits>` -/
theorem oid_number_component (k : Nat) :
    oidCompPackage (.numberForm k) = '_' :: Nat.toDigits 10 k := by
  have hdig : ∀ d ∈ Nat.toDigits 10 k, d.isDigit = true := fun d hd =>
    Nat.isDigit_of_mem_toDigits (by decide) (by decide) hd
  -- digits: nothing to lower, no hyphen to replace
  have hlow : LowerHyphen (Nat.toDigits 10 k) = true :=
    List.all_eq_true.mpr fun d hd => by simp [lowerHyphenChar, hdig d hd]
  have hhyp : ∀ d ∈ Nat.toDigits 10 k, d ≠ '-' := fun d hd e => by
    rw [e] at hd; exact absurd (hdig _ hd) (by decide)
  rw [oidCompPackage, oidCompSpelling, moduleA, moduleA_go_sep false (.inr rfl),
    moduleA_go_lowerHyphen _ hlow, replHyphen_id _ hhyp]

/-- the package of a module with an object identifier: one component per identifier component,
    empty exactly for the empty identifier, otherwise a `fullIdent` -/
theorem oid_package_valid (path : Name) (oid : Oid) (h : ∀ c ∈ oid, OidCompOk c = true) :
    (modelToPackage path (some oid) = [] ↔ oid = []) ∧
    (oid ≠ [] →
      FullIdent (modelToPackage path (some oid)) = true ∧
      splitOn '.' (modelToPackage path (some oid)) = oid.map oidCompPackage) := by
  have := joinWith_idents (oid.map oidCompPackage) (fun w hw => by
    obtain ⟨c, hc, rfl⟩ := List.mem_map.mp hw
    exact (oid_component_valid c (h c hc)).2)
  rwa [ne_eq, List.map_eq_nil_iff] at this

example : (∀ c ∈ ([.nameAndNumberForm "iso".toList 1, .numberForm 4711] : Oid), OidCompOk c = true) :=
  by names_eval

/-- FULL statement for this branch: a proto3 `package` line for every object identifier over the
    alphabet. -/
def oid_package_line_valid : Prop :=
  ∀ (path : Name) (oid : Oid), (∀ c ∈ oid, OidCompOk c = true) →
    FullIdent (modelToPackage path (some oid)) = true

/-- FALSE, but only for the empty identifier `X { } DEFINITIONS …` (`read_oid` returns
    `Some(ObjectIdentifier(vec![]))`; X.680 does not allow it): the module name is ignored and the
    line is `package ;` -/
theorem oid_package_line_valid_false : ¬ oid_package_line_valid := by
  intro h
  exact absurd (h "X".toList [] (by simp)) (by decide +kernel)

/-- PARTIAL form: every non-empty identifier -/
theorem oid_package_line_valid_partial (path : Name) (oid : Oid)
    (h : ∀ c ∈ oid, OidCompOk c = true) (hne : oid ≠ []) :
    FullIdent (modelToPackage path (some oid)) = true :=
  ((oid_package_valid path oid h).2 hne).1

/-! ### the file name -/

/-- the file of a module whose name is over the alphabet: `<stem>.proto`, no `/`, the stem over
    `[a-z0-9_]` and equal to the stem of the generated `.rs` file (C09's `emitModule`) -/
theorem file_name_shape (n : Name) (h : NameAlphabet n = true) :
    ".proto".toList <:+ fileNameOfModule n ∧ '/' ∉ fileNameOfModule n ∧
    fileNameOfModule n = emitModule n ++ ".proto".toList ∧
    ∀ d ∈ emitModule n, lowIdc d = true := by
  refine ⟨proto_suffix _, fun hs => ?_, fileNameOfModule_eq n, ?_⟩
  · have := pipelineName_chars h _ ((slash_mem_modelFileName (pipelineName n)).mp hs)
    exact absurd this (by decide)
  · rw [emitModule_eq]; exact pipelineName_chars h

example : NameAlphabet "CAM-PDU-Descriptions".toList = true ∧
    fileNameOfModule "CAM-PDU-Descriptions".toList = "cam_pdu_descriptions.proto".toList := by
  names_eval

/-- the functions on any argument: `.proto` at the end; a `/` comes out iff one goes in -/
theorem file_name_shape_fn (path : Name) :
    ".proto".toList <:+ modelFileName path ∧ ('/' ∈ modelFileName path ↔ '/' ∈ path) :=
  ⟨proto_suffix _, slash_mem_modelFileName path⟩

/-- … and in the pipeline -/
theorem file_name_slash_iff (n : Name) :
    '/' ∈ fileNameOfModule n ↔ '/' ∈ makeNameNice n := by
  unfold fileNameOfModule
  rw [slash_mem_modelFileName]
  exact slash_mem_moduleA _

/-- FULL statement over every token -/
def file_name_shape_all_tokens : Prop :=
  ∀ n : Name, TokenText n = true → '/' ∉ fileNameOfModule n

theorem token_slash_witness :
    TokenText "/tmp/x".toList = true ∧ fileNameOfModule "/tmp/x".toList = "/tmp/x.proto".toList := by
  names_eval

/-- FALSE: `/` is a text character of the tokenizer (only `/*` is special); module `A/B` is written
    to `a/b.proto`, module `/tmp/x` to `/tmp/x.proto` (`.` is a separator, so `..` cannot occur) -/
theorem file_name_shape_all_tokens_false : ¬ file_name_shape_all_tokens := by
  intro h
  obtain ⟨h1, h2⟩ := token_slash_witness
  exact h _ h1 (by rw [h2]; names_eval)

/-! ### the grammar of the specification text -/

/-- The proto3 specification's `ident` starts with a letter; the code repairs a leading digit by
    a leading underscore, which protoc's tokenizer accepts as a letter.  Under the letter-only
    reading the repaired packages are not `fullIdent`s: the theorems above are about protoc's
    language (`FullIdent`), which is what `./check C18` validates files against. -/
theorem strict_reading_differs :
    FullIdent (packageOfModule "ISO-8859".toList none) = true ∧
    StrictFullIdent (packageOfModule "ISO-8859".toList none) = false ∧
    StrictFullIdent (packageOfModule "CAM-PDU-Descriptions".toList none) = true := by
  names_eval

end Asn1Verif.Props.C18Pkg
