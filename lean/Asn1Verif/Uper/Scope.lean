import Asn1Verif.Uper.Impl
/-
  L2 — FAITHFUL mirror of the state machine of `src/rw/uper.rs`: `Scope`, `UperWriter`
  (`write_bit_field_entry`, `with_buffer`, `scope_pushed`, `scope_stashed`, every `write_*`) and
  `UperReader` (`read_bit_field_entry`, `with_buffer`, `read_whole_sub_slice`,
  `skip_unknown_extension_additions`, every `read_*`), together with the dispatch of
  `src/descriptor/*` and the generated `write_seq`/`read_seq`/`write_content`/`read_content` bodies.

  `Uper/Impl.lean` is compositional (it computes the bits from type and value); this file keeps the
  mutable state the real code keeps: the writer patches presence bits into positions it reserved
  earlier, the reader reads presence bits by position while the cursor is elsewhere, both count the
  component calls in `Scope`.  `Props/Scope.lean` proves that the two agree.

  What is mirrored literally
    * `Scope` with its four variants and `exhausted`, `encode_as_open_type_field`,
      `write_into_field`, `read_from_field` (as coded after the fix commits: window of the addition
      bitmap = announced count, `checked_add(1)`, `saturating_add`);
    * the generated constants are used where the code uses them: `stdOpt` = `C::STD_OPTIONAL_FIELDS`,
      `fieldCount` = `C::FIELD_COUNT`, `extAfter` = `C::EXTENDED_AFTER_FIELD` — never recomputed from
      the component list;
    * `scope_pushed` with its `debug_assert!(exhausted)` (dev profile ⇒ `panic`), `scope_stashed`,
      `with_buffer` on both sides, `open_type_content` (empty content = one zero octet);
    * `let _ = self.read_bit_field_entry(false);` in `read_sequence` swallows the error (the state
      changes made before the error stay), every other `read_*` propagates it with `?`;
    * `read_whole_sub_slice` does not narrow the window, on success it moves the cursor to the
      announced end (clamped by `set_pos`);
    * `read_opt` / `read_default`: `unwrap()` on `None` ⇒ `panic`.

  Modelling choices (each one is a place where the Rust state is richer than the model state)
    (W1) writer state: `bits` = the bits of `BitBuffer` up to `write_position`.  A patch
         `with_write_position_at(p, |b| b.write_bit(x))` with `p < bits.length` is `bits.set p x`.
         For `p ≥ bits.length` the real code first checks `debug_assert!(p <= 8 * buffer.len())`
         (`buffer.len() = ⌈bits.length / 8⌉` as long as (W1) has not happened before) — model:
         `panic` beyond that — and otherwise writes the bit into the padding (or into a fresh octet)
         behind the written length, where it is not part of `bits`: the model leaves `bits` as it is
         (from then on `bits` need not determine `content()` any more: the byte buffer holds a bit
         the model does not show).  To be able to SAY that this never happens, the writer carries a
         mode `strict` (a parameter of the model, not state of the code: constant during a run,
         inherited by sub-writers): with `strict = true` every patch at `p ≥ bits.length` is a
         `panic`.  `strict = false` is the behaviour of the code.
         `Props.Scope.no_patch_beyond_written`: for consistent descriptors both modes give the same
         result and never panic.
         The bits are stored last bit first (`W.rbits`: appending costs the length of what is
         appended); everything speaks about them through `W.bits`, `W.len`, `W.append`, `W.patch`.
    (W2) a failing writer returns `err`/`panic` without a state (the error is propagated by `?` up to
         the caller of `write`; nothing reads the half-written buffer).
    (W3) `usize`/`u64` additions on positions and counts (`range.start += 1`, `extension_after + 1`,
         `write_pos + STD_OPTIONAL_FIELDS`) are not checked for overflow: they count bits of a buffer
         in memory resp. components of a Rust struct.  The subtractions `FIELD_COUNT -
         (extension_after + 1)` and `number_of_ext_fields as u64 - 1` are checked (`uSub` ⇒ `panic`).
    (R1) reader state: `pos`, `len` of `Bits` over the fixed input; only the first `len` bits are
         visible (`vis`).  `len` never changes (`read_whole_sub_slice` restores what it never
         changed).  `pos ≤ len` is an invariant of `Bits` the model does not re-establish
         (`with_read_position_at` restores `pos`, not `min pos len`).
    (R2) `read_bit_field_entry` returns its result AND the state, because `read_sequence` goes on
         after an error.  The only state an error can leave behind that is not determined by the
         L1 result is the cursor after a failed `read_normally_small_length`: every primitive read
         of `Bits` checks the remaining length before it advances, so the cursor stands behind the
         last successful primitive read (`rSmallErrAdv`).  Reachable only for a MANDATORY extension
         addition of type SEQUENCE/SET (the converter wraps every addition in `Option`); checked
         against the crate with a hand-written descriptor (`Props.Scope.Counterexample`).
    (R3) the loop of `skip_unknown_extension_additions` is a well-founded recursion on
         (`ExtensibleSequence` still to be opened, bits left in the bitmap window).
    (S)  closures are first-order: `with_buffer(f)` is `enter` / `f` / `leave`, `scope_pushed(s, f)` is
         "set the scope" / `f` / `popScope`, `scope_stashed(f)` is "scope := none" / `f` / "scope back";
         the bodies `writeSeqBody`, `writeOptBody`, `readSeqCore`, `readSeqBody`, `readOptBody` take the
         generated `write_seq` / `read_seq` / `T::write_value` / `T::read_value` as a function.
    (L)  the CONTENT of the leaf types (BOOLEAN, NULL, INTEGER, ENUMERATED, the strings, OCTET/BIT
         STRING: extension bit, length, characters — code that does not touch the scope) is taken
         from `Impl.enc` / `Impl.dec` on that leaf type; new here is everything around it
         (`write_bit_field_entry`, `with_buffer`) and all constructed types.
-/
namespace Asn1Verif.Uper
open Asn1Verif Outcome Per

/-- `enum Scope` of `src/rw/uper.rs` (ranges as `start`, `stop`; the `name` is not modelled) -/
inductive Scope where
  | optBitField (start stop : Nat)
  | allBitField (start stop : Nat)
  | extensibleSequence (bitPos : Nat) (optBitField : Option (Nat × Nat))
      (callsUntilExtBitfield numberOfExtFields : Nat)
  | extensibleSequenceEmpty
  deriving DecidableEq, Repr

namespace Scope

/-- `Scope::exhausted` -/
def exhausted : Scope → Bool
  | .optBitField start stop => start == stop
  | .allBitField start stop => start == stop
  | .extensibleSequence _ obf _ _ =>
    match obf with
    | some (start, stop) => start == stop
    | none => true
  | .extensibleSequenceEmpty => true

/-- `Scope::encode_as_open_type_field` -/
def encodeAsOpenTypeField : Scope → Bool
  | .allBitField _ _ => true
  | .extensibleSequenceEmpty => true
  | _ => false

/-! ### writer -/

/-- `UperWriter`: the written bits, the scope, and the mode of (W1).  The bits are STORED last
    bit first (`rbits`), so that appending — what the writer does all the time — costs the length
    of what is appended (the compiled driver runs this model on lists of 16K+ elements); the model
    speaks about them through `W.bits` (first bit first), `W.len`, `W.append`, `W.patch`, `W.of`. -/
structure W where
  rbits : Bits
  scope : Option Scope
  strict : Bool := false
  deriving DecidableEq, Repr

/-- the written bits, first bit first (`BitBuffer` up to `write_position`) -/
def W.bits (w : W) : Bits := w.rbits.reverse

/-- `write_position` -/
def W.len (w : W) : Nat := w.rbits.length

/-- the writer that holds `bits` -/
def W.of (bits : Bits) (scope : Option Scope) (strict : Bool) : W :=
  { rbits := bits.reverse, scope := scope, strict := strict }

/-- `UperWriter::with_capacity(512)` / `default()` -/
def W.fresh (strict : Bool := false) : W := { rbits := [], scope := none, strict := strict }

/-- any L1 write: appends -/
def W.append (w : W) (b : Bits) : W := { w with rbits := b.reverse ++ w.rbits }

/-- `self.bits.with_write_position_at(p, |b| b.write_bit(bit))`, see (W1) -/
def W.patch (w : W) (p : Nat) (bit : Bool) : Outcome W :=
  if p < w.len then ok { w with rbits := w.rbits.set (w.len - 1 - p) bit }
  else if w.strict then panic
  else if p ≤ 8 * ((w.len + 7) / 8) then ok w
  else panic

/-- `Scope::write_into_field`; the result carries the new scope -/
def writeIntoField (s : Scope) (w : W) (isOpt isPresent : Bool) : Outcome W :=
  match s with
  | .optBitField start stop =>
    if isOpt then do
      let w1 ← w.patch start isPresent
      ok { w1 with scope := some (.optBitField (start + 1) stop) }
    else ok w
  | .allBitField start stop => do
    let w1 ← w.patch start isPresent
    ok { w1 with scope := some (.allBitField (start + 1) stop) }
  | .extensibleSequence bitPos obf calls nExt =>
    if calls = 0 then do
      let w1 ← w.patch bitPos isPresent
      if isPresent then do
        let n ← uSub nExt 1                          -- `*number_of_ext_fields as u64 - 1`
        let sm ← wSmall n
        let w2 := w1.append sm
        let pos := w2.len
        let w3 := w2.append (List.replicate nExt true)
        -- `pos + 1 .. buffer.write_position`
        ok { w3 with scope := some (.allBitField (pos + 1) w3.len) }
      else ok { w1 with scope := some .extensibleSequenceEmpty }
    else
      let calls' := calls - 1                        -- saturating_sub
      match obf with
      | some (start, stop) =>
        if isOpt then do
          let w1 ← w.patch start isPresent
          ok { w1 with scope := some (.extensibleSequence bitPos (some (start + 1, stop)) calls' nExt) }
        else ok { w with scope := some (.extensibleSequence bitPos obf calls' nExt) }
      | none => ok { w with scope := some (.extensibleSequence bitPos none calls' nExt) }
  | .extensibleSequenceEmpty =>
    if isPresent then err .extensionInconsistent else ok w

/-- `UperWriter::write_bit_field_entry` -/
def writeBitFieldEntry (w : W) (isOpt isPresent : Bool) : Outcome W :=
  match w.scope with
  | some s => writeIntoField s w isOpt isPresent
  | none => if isOpt then ok (w.append [isPresent]) else ok w

/-- the test of `with_buffer` -/
def openTy (scope : Option Scope) : Bool :=
  match scope with
  | some s => s.encodeAsOpenTypeField
  | none => false

/-- `with_buffer`, first half: the writer the closure runs on -/
def W.enter (w : W) : W := if openTy w.scope then W.fresh w.strict else w

/-- `with_buffer`, second half: `outer` is the writer `with_buffer` was called on, `inner` the one
    the closure has left behind.  Open type: `write_octetstring(None, None, false,
    writer.open_type_content())` (= `Impl.openType` of the bits of the sub-writer). -/
def W.leave (outer inner : W) : Outcome W :=
  if openTy outer.scope then do
    let o ← openType inner.bits
    ok (outer.append o)
  else ok inner

/-- `scope_pushed`, the part after the closure has succeeded: `debug_assert!(exhausted)` on the
    scope the closure has left, then the original scope is back -/
def W.popScope (w : W) (original : Option Scope) : Outcome W :=
  match w.scope with
  | some s => if s.exhausted then ok { w with scope := original } else panic
  | none => panic                                    -- `scope.clone().unwrap()`

/-- the common shape of the `write_*` of the leaf types: `write_bit_field_entry(false, true)?`, then
    the content inside `with_buffer`; see (L) -/
def writeLeaf (content : Outcome Bits) (w : W) : Outcome W := do
  let w1 ← writeBitFieldEntry w false true
  let c ← content
  w1.leave (w1.enter.append c)

/-- the loop of `write_sequence_of` -/
def writeListWith (f : Val → W → Outcome W) : Vals → W → Outcome W
  | .nil, w => ok w
  | .cons v vs, w => do
    let w1 ← f v w
    writeListWith f vs w1

/-- `write_sequence` behind the bit-field entry: `with_buffer(|w| { extension bit; presence bits;
    w.scope_pushed(scope, f) })`; `f` is the generated `write_seq` of the value -/
def writeSeqBody (stdOpt fieldCount : Nat) (extAfter : Option Nat) (f : W → Outcome W) (w1 : W) :
    Outcome W := do
  let wi := w1.enter
  -- the extension bit, patched by the first addition
  let bitPos := wi.len
  let wi1 := match extAfter with
    | some _ => wi.append [false]
    | none => wi
  -- one zero bit per OPTIONAL/DEFAULT root component, patched by `write_opt`/`write_default`
  let writePos := wi1.len
  let wi2 := wi1.append (List.replicate stdOpt false)
  let sc ← (match extAfter with
    | some ea => do
      let n ← uSub fieldCount (ea + 1)
      ok (Scope.extensibleSequence bitPos (some (writePos, writePos + stdOpt)) (ea + 1) n)
    | none => ok (Scope.optBitField writePos (writePos + stdOpt)) : Outcome Scope)
  -- scope_pushed
  let wf ← f { wi2 with scope := some sc }
  let wi3 ← wf.popScope wi2.scope
  w1.leave wi3

/-- `write_opt` / `write_default` of a present value behind the bit-field entry:
    `with_buffer(|w| w.scope_stashed(|w| T::write_value(w, value)))` -/
def writeOptBody (f : W → Outcome W) (w1 : W) : Outcome W := do
  let wi := w1.enter
  let wi1 ← f { wi with scope := none }
  w1.leave { wi1 with scope := wi.scope }

mutual
/-- `T::write_value(writer, value)` for the descriptor `T` of the type -/
def write : Ty → Val → W → Outcome W
  | .bool, v, w => writeLeaf (enc .bool v) w
  | .null, v, w => writeLeaf (enc .null v) w
  | .int min max ext width signed, v, w => writeLeaf (enc (.int min max ext width signed) v) w
  | .enum std total ext, v, w => writeLeaf (enc (.enum std total ext) v) w
  | .str cs min max ext, v, w => writeLeaf (enc (.str cs min max ext) v) w
  | .oct min max ext, v, w => writeLeaf (enc (.oct min max ext) v) w
  | .bits min max ext, v, w => writeLeaf (enc (.bits min max ext) v) w
  | .seqOf min max ext elem, v, w => do
    -- `write_sequence_of`: no `with_buffer`
    let w1 ← writeBitFieldEntry w false true
    match v with
    | .list vs => do
      let hdr ← wExtLen ext min max I64MAXu vs.length
      -- scope_stashed (twice)
      let w2 ← writeListWith (write elem) vs { w1.append hdr with scope := none }
      ok { w2 with scope := w1.scope }
    | _ => err .illTyped
  | .seq stdOpt fieldCount extAfter fields, v, w => do
    -- `write_sequence` (= `write_set`)
    let w1 ← writeBitFieldEntry w false true
    match v with
    | .seq vs => writeSeqBody stdOpt fieldCount extAfter (writeFields fields vs) w1
    | _ => err .illTyped
  | .choice std _ ext alts, v, w => do
    -- `write_choice`: no `with_buffer`, scope stashed
    let w1 ← writeBitFieldEntry w false true
    match v with
    | .choice i x => do
      let idx ← wIndex std ext i
      let ws : W := { w1.append idx with scope := none }
      if i ≥ std then do
        let wc ← writeAlt alts i x (W.fresh w1.strict)
        let o ← openType wc.bits
        ok { ws.append o with scope := w1.scope }
      else do
        let w2 ← writeAlt alts i x ws
        ok { w2 with scope := w1.scope }
    | _ => err .illTyped

/-- `choice.write_content(writer)`: the generated `match self { Self::Ai(c) => Ti::write_value(writer, c) }` -/
def writeAlt : Fields → Nat → Val → W → Outcome W
  | .nil, _, _, _ => err .illTyped
  | .cons _ t _, 0, v, w => write t v w
  | .cons _ _ rest, i + 1, v, w => writeAlt rest i v w

/-- the generated `write_seq`: one `AsnDef…::write_value(writer, &self.field)?` per component, where
    the descriptor is `T`, `Option<T>` (`write_opt`) or `DefaultValue<T, C>` (`write_default`) -/
def writeFields : Fields → Vals → W → Outcome W
  | .nil, vs, w =>
    match vs with
    | .nil => ok w
    | _ => err .illTyped
  | .cons k t rest, vs, w =>
    match vs with
    | .nil => err .illTyped
    | .cons v vs =>
      let stepped : Outcome W :=
        match k, v with
        | .m, v => write t v w
        | .o, .none => writeBitFieldEntry w true false
        | .o, .some x => do
          -- `write_opt`
          let w1 ← writeBitFieldEntry w true true
          writeOptBody (write t x) w1
        | .o, _ => err .illTyped
        | .d dv, v =>
          -- `write_default`: `C::DEFAULT_VALUE.ne(value)`
          let present := !(v == dv)
          if present then do
            let w1 ← writeBitFieldEntry w true true
            writeOptBody (write t v) w1
          else writeBitFieldEntry w true false
      match stepped with
      | .ok w' => writeFields rest vs w'
      | .err e => err e
      | .panic => panic
end

/-- a whole message: `UperWriter::default()`, `write`, `bit_len()`/`byte_content()` -/
def encode (t : Ty) (v : Val) : Outcome W := write t v (W.fresh false)

/-! ### reader -/

/-- `UperReader<Bits>`: cursor, visible length, scope; the input is a parameter of every function -/
structure R where
  pos : Nat
  len : Nat
  scope : Option Scope
  deriving DecidableEq, Repr

/-- the bits `Bits` lets through: the first `len` of the slice -/
def vis (inp : Bits) (len : Nat) : Bits := if inp.length ≤ len then inp else inp.take len

/-- runs an L1 reader at the cursor (like `Impl.liftL1`, on the visible bits) -/
def liftR {α : Type} (rd : Per.Rd α) (inp : Bits) (r : R) : Outcome (α × R) :=
  match liftL1 rd (vis inp r.len) r.pos with
  | .ok (a, p) => ok (a, { r with pos := p })
  | .err k => err k
  | .panic => panic

/-- `bits.with_read_position_at(p, |b| b.read_bit())`: `set_pos` clamps, `read_bit` checks `pos < len` -/
def bitAtR (inp : Bits) (r : R) (p : Nat) : Outcome Bool := bitAt (vis inp r.len) p

/-- bits consumed by a failing `read_length_determinant(None, None)`, see (R2) -/
def rLenUncErrAdv : Bits → Nat
  | [] => 0
  | false :: _ => 1
  | [true] => 1
  | true :: _ :: _ => 2

/-- bits consumed by a failing `read_normally_small_length`, see (R2) -/
def rSmallErrAdv : Bits → Nat
  | [] => 0
  | false :: _ => 1
  | true :: rest =>
    match rLen none none rest with
    | .ok (_, rest') => 1 + (rest.length - rest'.length)   -- `length > 8` or the octets are missing
    | _ => 1 + rLenUncErrAdv rest

/-- the `AllBitField` arm of `read_from_field` -/
def readFromAll (start stop : Nat) (inp : Bits) (r : R) : Outcome (Option Bool) × R :=
  if start < stop then
    (some <$> bitAtR inp r start, { r with scope := some (.allBitField (start + 1) stop) })
  else (ok (some false), { r with scope := some (.allBitField start stop) })

/-- `Scope::read_from_field`: the result and the state it leaves (also when the result is an error) -/
def readFromField (s : Scope) (inp : Bits) (r : R) (isOpt : Bool) : Outcome (Option Bool) × R :=
  match s with
  | .optBitField start stop =>
    if start ≥ stop then (ok (some false), r)
    else if isOpt then
      (some <$> bitAtR inp r start, { r with scope := some (.optBitField (start + 1) stop) })
    else (ok none, r)
  | .allBitField start stop => readFromAll start stop inp r
  | .extensibleSequence bitPos obf calls nExt =>
    if calls = 0 then
      match bitAtR inp r bitPos with
      | .ok true =>
        match liftR rSmall inp r with
        | .ok (n, r1) =>
          -- `(n as usize).checked_add(1)`
          if n + 1 > U64_MAX then (err .valueNotInRange, r1)
          else
            -- `bits.pos() .. bits.pos().saturating_add(n + 1)`, `set_pos` clamps
            let stop := min (r1.pos + (n + 1)) U64_MAX
            readFromAll r1.pos stop inp { r1 with pos := min stop r1.len }
        | .err k => (err k, { r with pos := r.pos + rSmallErrAdv ((vis inp r.len).drop r.pos) })
        | .panic => (panic, r)
      | .ok false => (ok (some false), { r with scope := some .extensibleSequenceEmpty })
      | .err k => (err k, r)
      | .panic => (panic, r)
    else
      let calls' := calls - 1                        -- saturating_sub
      match obf with
      | some (start, stop) =>
        if isOpt then
          (some <$> bitAtR inp r start,
            { r with scope := some (.extensibleSequence bitPos (some (start + 1, stop)) calls' nExt) })
        else (ok none, { r with scope := some (.extensibleSequence bitPos obf calls' nExt) })
      | none => (ok none, { r with scope := some (.extensibleSequence bitPos none calls' nExt) })
  | .extensibleSequenceEmpty => (ok (some false), r)

/-- `UperReader::read_bit_field_entry` -/
def readBitFieldEntry (inp : Bits) (r : R) (isOpt : Bool) : Outcome (Option Bool) × R :=
  match r.scope with
  | some s => readFromField s inp r isOpt
  | none =>
    if isOpt then
      match liftR rdBit inp r with
      | .ok (b, r1) => (ok (some b), r1)
      | .err k => (err k, r)
      | .panic => (panic, r)
    else (ok none, r)

/-- `self.read_bit_field_entry(is_opt)?` -/
def entryQ (inp : Bits) (r : R) (isOpt : Bool) : Outcome (Option Bool × R) :=
  match readBitFieldEntry inp r isOpt with
  | (.ok p, r1) => ok (p, r1)
  | (.err k, _) => err k
  | (.panic, _) => panic

/-- `with_buffer`, first half: in the extension part the length determinant of the open type is read
    and the end of the sub-slice computed (`read_whole_sub_slice`: the window stays as it is) -/
def R.enter (inp : Bits) (r : R) : Outcome (R × Option Nat) :=
  if openTy r.scope then do
    let (n, r1) ← liftR (rLen none none) inp r
    ok (r1, some (r1.pos + n * 8))
  else ok (r, none)

/-- `with_buffer`, second half (the closure has succeeded): `set_pos(end)` -/
def R.leave (r : R) (e : Option Nat) : R :=
  match e with
  | some endPos => { r with pos := min endPos r.len }
  | none => r

/-- `scope_pushed`, the part after the closure has succeeded -/
def R.popScope (r : R) (original : Option Scope) : Outcome R :=
  match r.scope with
  | some s => if s.exhausted then ok { r with scope := original } else panic
  | none => panic

/-- the common shape of the `read_*` of the leaf types, see (L) -/
def readLeaf (content : RdP Val) (inp : Bits) (r : R) : Outcome (Val × R) := do
  let (_, r0) ← entryQ inp r false
  let (r1, e) ← r0.enter inp
  let (v, p) ← content (vis inp r1.len) r1.pos
  ok (v, R.leave { r1 with pos := p } e)

/-- does `skip_unknown_extension_additions` go round once more? -/
def skipMore : Option Scope → Bool
  | some (.allBitField start stop) => decide (start < stop)
  | some (.extensibleSequence _ _ calls _) => calls == 0
  | _ => false

/-- termination measure of the skip loop: the bits left in the bitmap window; an
    `ExtensibleSequence` that still has to read its header counts more than any window -/
def skipMeasure : Option Scope → Nat
  | some (.allBitField start stop) => stop - start
  | some (.extensibleSequence _ _ _ _) => U64_MAX + 2
  | _ => 0

theorem readFromAll_measure {start stop : Nat} {inp : Bits} {r : R} (h : start < stop) :
    skipMeasure (readFromAll start stop inp r).2.scope < stop - start := by
  simp only [readFromAll, if_pos h, skipMeasure]
  omega

theorem readBitFieldEntry_measure {inp : Bits} {r : R} {isOpt : Bool} {p : Option Bool}
    (hm : skipMore r.scope = true) (hr : (readBitFieldEntry inp r isOpt).1 = ok p) :
    skipMeasure (readBitFieldEntry inp r isOpt).2.scope < skipMeasure r.scope := by
  unfold readBitFieldEntry at hr ⊢
  cases hs : r.scope with
  | none => simp [hs, skipMore] at hm
  | some s =>
    simp only [hs] at hr ⊢
    cases s with
    | optBitField a b => simp [hs, skipMore] at hm
    | extensibleSequenceEmpty => simp [hs, skipMore] at hm
    | allBitField a b =>
      have hab : a < b := by simpa [hs, skipMore] using hm
      exact readFromAll_measure hab
    | extensibleSequence bp obf calls nExt =>
      have hc : calls = 0 := by simpa [hs, skipMore] using hm
      subst hc
      simp only [readFromField, if_true] at hr ⊢
      cases hb : bitAtR inp r bp with
      | panic => simp [hb] at hr
      | err k => simp [hb] at hr
      | ok b =>
        cases b with
        | false => simp [skipMeasure]
        | true =>
          simp only [hb] at hr ⊢
          cases hn : liftR rSmall inp r with
          | panic => simp [hn] at hr
          | err k => simp [hn] at hr
          | ok x =>
            obtain ⟨n, r1⟩ := x
            simp only [hn] at hr ⊢
            by_cases hov : n + 1 > U64_MAX
            · simp [hov] at hr
            · simp only [if_neg hov]
              by_cases hlt : r1.pos < min (r1.pos + (n + 1)) U64_MAX
              · have := readFromAll_measure (inp := inp)
                  (r := { r1 with pos := min (min (r1.pos + (n + 1)) U64_MAX) r1.len }) hlt
                simp only [skipMeasure] at this ⊢
                omega
              · simp only [readFromAll, if_neg hlt, skipMeasure]
                omega

/-- `skip_unknown_extension_additions` -/
def skipUnknownAdditions (inp : Bits) (r : R) : Outcome R :=
  if hm : skipMore r.scope = true then
    match hr : (readBitFieldEntry inp r true).1 with
    | .ok p =>
      let r1 := (readBitFieldEntry inp r true).2
      if p.getD false then
        -- `read_length_determinant(None, None)?` + `read_whole_sub_slice(length, |_| Ok(()))?`
        match liftL1 (rLen none none) (vis inp r1.len) r1.pos with
        | .ok (n, p1) => skipUnknownAdditions inp { r1 with pos := min (p1 + n * 8) r1.len }
        | .err k => err k
        | .panic => panic
      else skipUnknownAdditions inp r1
    | .err k => err k
    | .panic => panic
  else ok r
termination_by skipMeasure r.scope
decreasing_by
  · exact readBitFieldEntry_measure hm hr
  · exact readBitFieldEntry_measure hm hr

/-- `n` elements of a SEQUENCE OF -/
def readListWith (f : Bits → R → Outcome (Val × R)) : Nat → Bits → R → Outcome (Vals × R)
  | 0, _, r => ok (.nil, r)
  | n + 1, inp, r => do
    let (v, r1) ← f inp r
    let (vs, r2) ← readListWith f n inp r1
    ok (.cons v vs, r2)

/-- the closure `read_sequence` hands to `with_buffer`: extension bit, presence bits,
    `r.scope_pushed(scope, f [+ skip_unknown_extension_additions])`; `f` is the generated `read_seq` -/
def readSeqCore {α : Type} (stdOpt fieldCount : Nat) (extAfter : Option Nat)
    (f : Bits → R → Outcome (α × R)) (inp : Bits) (r1 : R) : Outcome (α × R) := do
  let bitPos := r1.pos
  let (extension, r2) ← (match extAfter with
    | some ea => do
      let (b, r2) ← liftR rdBit inp r1
      ok (if b then some ea else none, r2)
    | none => ok (none, r1) : Outcome (Option Nat × R))
  if r2.len - r2.pos < stdOpt then err .endOfStream       -- `remaining()` saturates
  else
    let range := (r2.pos, r2.pos + stdOpt)
    let r3 := { r2 with pos := min range.2 r2.len }       -- `set_pos(range.end)`
    match extension with
    | some ea => do
      let n ← uSub fieldCount (ea + 1)
      let sc := Scope.extensibleSequence bitPos (some range) (ea + 1) n
      let (vs, r4) ← f inp { r3 with scope := some sc }
      let r5 ← skipUnknownAdditions inp r4
      let r6 ← r5.popScope r3.scope
      ok (vs, r6)
    | none => do
      let (vs, r4) ← f inp { r3 with scope := some (.optBitField range.1 range.2) }
      let r6 ← r4.popScope r3.scope
      ok (vs, r6)

/-- `read_sequence` behind the bit-field entry: `with_buffer(closure)` -/
def readSeqBody {α : Type} (stdOpt fieldCount : Nat) (extAfter : Option Nat)
    (f : Bits → R → Outcome (α × R)) (inp : Bits) (r0 : R) : Outcome (α × R) := do
  let (r1, e) ← r0.enter inp
  let (vs, r6) ← readSeqCore stdOpt fieldCount extAfter f inp r1
  ok (vs, r6.leave e)

/-- `read_opt` / `read_default` of a present value behind the bit-field entry:
    `with_buffer(|w| w.scope_stashed(T::read_value))` -/
def readOptBody {α : Type} (f : Bits → R → Outcome (α × R)) (inp : Bits) (r0 : R) :
    Outcome (α × R) := do
  let (r1, e) ← r0.enter inp
  let (x, r2) ← f inp { r1 with scope := none }
  ok (x, R.leave { r2 with scope := r1.scope } e)

mutual
/-- `T::read_value(reader)` for the descriptor `T` of the type -/
def read : Ty → Bits → R → Outcome (Val × R)
  | .bool, inp, r => readLeaf (dec .bool) inp r
  | .null, inp, r => readLeaf (dec .null) inp r
  | .int min max ext width signed, inp, r => readLeaf (dec (.int min max ext width signed)) inp r
  | .enum std total ext, inp, r => readLeaf (dec (.enum std total ext)) inp r
  | .str cs min max ext, inp, r => readLeaf (dec (.str cs min max ext)) inp r
  | .oct min max ext, inp, r => readLeaf (dec (.oct min max ext)) inp r
  | .bits min max ext, inp, r => readLeaf (dec (.bits min max ext)) inp r
  | .seqOf min max ext elem, inp, r => do
    -- `read_sequence_of` (with `with_buffer`, unlike the writer)
    let (_, r0) ← entryQ inp r false
    let (r1, e) ← r0.enter inp
    let (isExt, r2) ← (if ext then liftR rdBit inp r1 else ok (false, r1))
    let (len, r3) ← (if isExt then liftR (rLen none none) inp r2 else liftR (rLen min max) inp r2)
    if len > 0 then do
      -- scope_stashed
      let (vs, r4) ← readListWith (read elem) len inp { r3 with scope := none }
      ok (.list vs, R.leave { r4 with scope := r3.scope } e)
    else ok (.list .nil, r3.leave e)
  | .seq stdOpt fieldCount extAfter fields, inp, r => do
    -- `read_sequence` (= `read_set`): `let _ = self.read_bit_field_entry(false);`
    let r0 := (readBitFieldEntry inp r false).2
    let (vs, r1) ← readSeqBody stdOpt fieldCount extAfter (readFields fields) inp r0
    ok (.seq vs, r1)
  | .choice std _ ext alts, inp, r => do
    -- `read_choice`: no `with_buffer`, scope stashed
    let (_, r0) ← entryQ inp r false
    let (index, r1) ← liftR (rIndex std ext) inp { r0 with scope := none }
    if index ≥ std then do
      let (len, r2) ← liftR (rLen none none) inp r1
      -- `read_whole_sub_slice(length, |r| Ok((index, C::read_content(index, r)?)))`
      let (c, r3) ← readAlt alts index inp r2
      let r4 := { r3 with pos := min (r2.pos + len * 8) r3.len }
      match c with
      | some x => ok (.choice index x, { r4 with scope := r0.scope })
      | none => err .invalidChoiceIndex
    else do
      let (c, r3) ← readAlt alts index inp r1
      match c with
      | some x => ok (.choice index x, { r3 with scope := r0.scope })
      | none => err .invalidChoiceIndex

/-- `C::read_content(index, reader)`: the generated `match index { i => Ok(Some(Self::Ai(Ti::read_value(reader)?))), _ => Ok(None) }` -/
def readAlt : Fields → Nat → Bits → R → Outcome (Option Val × R)
  | .nil, _, _, r => ok (none, r)
  | .cons _ t _, 0, inp, r => do
    let (x, r1) ← read t inp r
    ok (some x, r1)
  | .cons _ _ rest, i + 1, inp, r => readAlt rest i inp r

/-- the generated `read_seq`: one `AsnDef…::read_value(reader)?` per component (`T`, `Option<T>`
    = `read_opt`, `DefaultValue<T, C>` = `read_default`) -/
def readFields : Fields → Bits → R → Outcome (Vals × R)
  | .nil, _, r => ok (.nil, r)
  | .cons k t rest, inp, r => do
    let (v, r1) ← (match k with
      | .m => read t inp r
      | k => do
        -- `read_opt` / `read_default`: `self.read_bit_field_entry(true)?.unwrap()`
        let (p, r0) ← entryQ inp r true
        match p with
        | none => panic
        | some true => do
          let (x, r1) ← readOptBody (read t) inp r0
          ok (k.wrap x, r1)
        | some false => ok (k.absent, r0) : Outcome (Val × R))
    let (vs, r2) ← readFields rest inp r1
    ok (.cons v vs, r2)
end

/-- a whole message from cursor `pos`: `UperReader::from((bytes, bit_len))`, `read` -/
def decode (t : Ty) (inp : Bits) (pos : Nat) : Outcome (Val × R) :=
  read t inp { pos := pos, len := inp.length, scope := none }

end Scope
end Asn1Verif.Uper
