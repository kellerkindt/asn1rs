import Asn1Verif.Uper.RoundTripDefs
/-
  C01 — round trip of every node but SEQUENCE / SET, as `RT (enc t) (dec t) (valOk t)`: what `enc t` wrote
  is read back by `dec t` wherever it stands in an input.  The leaves hold in the deviation classes of C02
  as well; SEQUENCE OF and CHOICE follow from the statement for their children.
-/
namespace Asn1Verif.Uper
open Asn1Verif Outcome Per

theorem rt_bool : RT (enc .bool) (dec .bool) (valOk .bool) := by
  intro v bits _ h inp pos post hat
  unfold enc at h
  split at h <;> cases h
  unfold dec
  rw [hat.lift rdBit _ (rdBit_cons _ _)]
  rfl

theorem rt_null : RT (enc .null) (dec .null) (valOk .null) := by
  intro v bits _ h inp pos post _
  unfold enc at h
  split at h <;> cases h
  unfold dec
  rfl

theorem ext_bit_at (ext u dflt : Bool) (inp : Bits) (pos : Nat) (rest post : Bits)
    (hat : At inp pos ((if ext then [u] else []) ++ rest) post) :
    (if ext = true then liftL1 rdBit inp pos else ok (dflt, pos)) =
        ok (if ext then u else dflt, pos + (if ext then [u] else []).length) ∧
      At inp (pos + (if ext then [u] else []).length) rest post := by
  cases ext with
  | false => exact ⟨rfl, hat.right⟩
  | true => exact ⟨hat.left.lift rdBit _ (rdBit_cons _ _), hat.right⟩

theorem rt_int (min max : Option Int) (ext : Bool) (w : Nat) (s : Bool)
    (ht : (Ty.int min max ext w s).rtOk = true) :
    RT (enc (.int min max ext w s)) (dec (.int min max ext w s)) (valOk (.int min max ext w s)) := by
  intro v bits hv h inp pos post hat
  unfold enc at h
  split at h
  rotate_left
  · cases h
  rename_i i
  unfold Ty.rtOk at ht
  simp only [Bool.and_eq_true, decide_eq_true_eq] at ht
  unfold valOk at hv
  simp only [Bool.and_eq_true, decide_eq_true_eq] at hv
  obtain ⟨⟨hv1, hv2⟩, hcast⟩ := hv
  unfold dec
  generalize hu : (if ext = true then decide (i < min.getD 0 ∨ i > max.getD I64_MAX)
      else min.isNone && max.isNone) = u at h
  -- without an extension bit the reader computes the same flag
  have hflag : (if ext = true then u else min.isNone && max.isNone) = u := by
    rw [← hu]; cases ext <;> rfl
  cases u with
  | true =>
    simp only [if_true, wUnconstrained_ok i hv1 hv2, Outcome.bind_ok] at h
    injection h with h; subst h
    obtain ⟨e1, hat'⟩ := ext_bit_at ext true (min.isNone && max.isNone) inp pos _ post hat
    rw [e1, hflag]
    simp only [Outcome.bind_ok, if_true]
    rw [hat'.lift _ _ (rUnconstrained_rt i post hv1 hv2)]
    simp only [Outcome.bind_ok, hcast, List.length_append, Nat.add_assoc]
  | false =>
    simp only [Bool.false_eq_true, if_false] at h
    obtain ⟨b, hb, h⟩ := bind_eq_ok.1 h
    injection h with h; subst h
    have hin : ¬ (i < min.getD 0 ∨ max.getD I64_MAX < i) := fun c => by
      rw [wConstrained_err _ _ _ c] at hb; cases hb
    rw [wConstrained_ok _ _ _ (by omega) (by omega)] at hb
    injection hb with hb; subst hb
    obtain ⟨e1, hat'⟩ := ext_bit_at ext false (min.isNone && max.isNone) inp pos _ post hat
    rw [e1, hflag]
    simp only [Outcome.bind_ok, Bool.false_eq_true, if_false]
    rw [hat'.lift _ _ (rConstrained_rt _ _ i post (by omega) (by omega) ht.1 ht.2)]
    simp only [Outcome.bind_ok, hcast, List.length_append, Nat.add_assoc]

theorem index_reads {std : Nat} {ext : Bool} {i : Nat} {bits : Bits} (hs : std ≤ U64_MAX)
    (hi : i ≤ U64_MAX) (h : wIndex std ext i = ok bits) :
    ReadsBack (liftL1 (rIndex std ext)) bits i := by
  obtain ⟨rfl, hadm⟩ := wIndex_index h hi
  exact fun _ _ post hat => hat.lift _ _ (rIndex_rt std ext i post hadm hs hi)

theorem rt_enum (std total : Nat) (ext : Bool) (ht : (Ty.enum std total ext).rtOk = true) :
    RT (enc (.enum std total ext)) (dec (.enum std total ext)) (valOk (.enum std total ext)) := by
  intro v bits hv h inp pos post hat
  unfold enc at h
  split at h
  rotate_left
  · cases h
  rename_i i
  unfold Ty.rtOk at ht
  simp only [decide_eq_true_eq] at ht
  unfold valOk at hv
  simp only [Bool.and_eq_true, decide_eq_true_eq] at hv
  unfold dec
  rw [index_reads ht hv.2 h inp pos post hat]
  simp only [Outcome.bind_ok, hv.1, if_true]

theorem optU64_spec {o : Option Nat} (h : optU64 o = true) : ∀ u, o = some u → u ≤ U64_MAX := by
  intro u hu; subst hu; simpa [optU64] using h

theorem rt_oct (min max : Option Nat) (ext : Bool) (ht : (Ty.oct min max ext).rtOk = true) :
    RT (enc (.oct min max ext)) (dec (.oct min max ext)) (valOk (.oct min max ext)) := by
  intro v bits _hv h inp pos post hat
  unfold enc at h
  split at h
  rotate_left
  · cases h
  rename_i s
  unfold dec
  rw [hat.lift _ _ (rOctets_wOctets min max ext s bits post (optU64_spec ht) h)]
  rfl

theorem rt_bits (min max : Option Nat) (ext : Bool) (ht : (Ty.bits min max ext).rtOk = true) :
    RT (enc (.bits min max ext)) (dec (.bits min max ext)) (valOk (.bits min max ext)) := by
  intro v bits _hv h inp pos post hat
  unfold enc at h
  split at h
  rotate_left
  · cases h
  rename_i s
  unfold dec
  rw [hat.lift _ _ (rBitString_wBitString min max ext s bits post (optU64_spec ht) h)]
  rfl

/-- fewer than 16K items, any bounds (the deviating ones included) -/
theorem extLen_rt (ext : Bool) (min max : Option Nat) (upperLimit n : Nat) (hdr : Bits)
    (hw : wExtLen ext min max upperLimit n = ok hdr) (hn : n < 16384)
    (inp : Bits) (pos : Nat) (rest post : Bits) (hat : At inp pos (hdr ++ rest) post) :
    ∃ (isExt : Bool) (p0 : Nat),
      (if ext = true then liftL1 rdBit inp pos else ok (false, pos)) = ok (isExt, p0) ∧
      (if isExt = true then liftL1 (rLen none none) inp p0 else liftL1 (rLen min max) inp p0)
        = ok (n, pos + hdr.length) ∧
      At inp (pos + hdr.length) rest post := by
  -- the header: the optional extension bit `u`, then a length determinant that the reader
  -- selected by `u` takes back
  obtain ⟨u, b, rfl, hu, hr⟩ : ∃ (u : Bool) (b : Bits), hdr = (if ext then [u] else []) ++ b ∧
      (if ext then u else false) = u ∧
      ∀ tail, (if u then rLen none none else rLen min max) (b ++ tail) = ok (n, tail) := by
    unfold wExtLen at hw
    by_cases hoor : n < min.getD 0 ∨ n > max.getD upperLimit
    · simp only [hoor, decide_true, if_true] at hw
      cases ext with
      | false => simp at hw
      | true =>
        simp only [Bool.not_true, Bool.false_eq_true, if_false, wLen_unc, Outcome.bind_ok] at hw
        injection hw with hw
        exact ⟨true, _, hw.symm, rfl, fun tail => by rw [if_pos rfl, rLen_unc, lenU_snd_lt hn]; rfl⟩
    · simp only [hoor, decide_false, Bool.false_eq_true, if_false] at hw
      obtain ⟨⟨b, f⟩, hwl, hw⟩ := bind_eq_ok.1 hw
      injection hw with hw
      have hf : f = none := by
        by_cases hs : (min.isSome || max.isSome) = true
        · exact wLen_bounded_none min max n b f hs hwl
        · have hl : min = none := by cases min <;> simp_all
          have hu : max = none := by cases max <;> simp_all
          subst hl; subst hu
          rw [wLen_unc] at hwl
          injection hwl with hwl
          exact (congrArg Prod.snd hwl).symm.trans (lenU_snd_lt hn)
      subst hf
      have hub : n ≤ max.getD I64MAXu := by
        cases max with
        | none => simp only [Option.getD_none]; rw [I64MAXu_eq]; omega
        | some u => simp only [Option.getD_some] at hoor ⊢; omega
      exact ⟨false, b, hw.symm, by cases ext <;> rfl, fun tail =>
        rLen_wLen min max n b tail hwl (by omega) hub (by rw [U64_MAX_eq]; omega)⟩
  obtain ⟨e1, hat'⟩ := ext_bit_at ext u false inp pos (b ++ rest) post
    (by rw [← List.append_assoc]; exact hat)
  rw [hu] at e1
  have h2 := hat'.left.lift _ n (hr (rest ++ post))
  rw [List.length_append, ← Nat.add_assoc]
  exact ⟨u, _, e1, by rw [← h2]; cases u <;> rfl, hat'.right⟩

/-! ### character strings: UTF8String through the OCTET STRING codec, the restricted ones through
    fixed-width character fields (valid for the alphabet ⇒ below 128 ⇒ the UTF-8 bytes are the characters) -/

theorem flatten_length_const (w : Nat) : ∀ (xs : List Bits), (∀ x ∈ xs, x.length = w) →
    xs.flatten.length = xs.length * w
  | [], _ => by simp
  | x :: r, h => by
    simp only [List.flatten_cons, List.length_append, List.length_cons]
    rw [flatten_length_const w r (fun y hy => h y (List.mem_cons_of_mem _ hy)),
      h x List.mem_cons_self, Nat.add_mul]
    omega

theorem chunks_map {β : Type} (w : Nat) (f : Bits → β) : ∀ (xs : List Bits),
    (∀ x ∈ xs, x.length = w) →
    (List.range xs.length).map (fun i => f ((xs.flatten.drop (i * w)).take w)) = xs.map f
  | [], _ => rfl
  | x :: r, h => by
    have hx : x.length = w := h x List.mem_cons_self
    have ih := chunks_map w f r (fun y hy => h y (List.mem_cons_of_mem _ hy))
    simp only [List.length_cons, List.range_succ_eq_map, List.map_cons, List.map_map,
      List.flatten_cons, Nat.zero_mul, List.drop_zero]
    congr 1
    · rw [List.take_left' hx]
    · rw [← ih]
      apply List.map_congr_left
      intro i _
      simp only [Function.comp]
      have : (i + 1) * w = x.length + i * w := by rw [hx, Nat.add_mul]; omega
      rw [this, List.drop_append, List.drop_of_length_le (by omega), Nat.add_sub_cancel_left,
        List.nil_append]

/-- each character `c` is written as `e c`, `w` bits wide; `g` maps the field back -/
theorem str_fields_rt (w : Nat) (hw : 0 < w) (g : Nat → Nat) (e : Nat → Bits) (bytes : List Byte)
    (chars : List Nat) (hu : utf8Decode bytes = some chars)
    (he : ∀ c ∈ chars, ((e c).length = w ∧ g (bitsToNat (e c)) = c) ∧ c < 128)
    (inp : Bits) (p1 : Nat) (post : Bits) (hat : At inp p1 (chars.map e).flatten post) :
    (if (inp.length - p1) / w < chars.length then err ErrKind.endOfStream
      else ok (Val.str (List.map (BitVec.ofNat 8) (List.map
        (fun i => g (bitsToNat (List.take w (List.drop (i * w)
          (List.take (chars.length * w) (List.drop p1 inp))))))
        (List.range chars.length))), p1 + chars.length * w))
      = ok (Val.str bytes, p1 + (chars.map e).flatten.length) := by
  have hwidth : ∀ x ∈ chars.map e, x.length = w := by
    intro x hx
    obtain ⟨c, hc, rfl⟩ := List.mem_map.1 hx
    exact (he c hc).1.1
  have hlen : (chars.map e).flatten.length = chars.length * w := by
    rw [flatten_length_const w _ hwidth, List.length_map]
  have hb := hat.bound
  have hfields := chunks_map w (fun b => g (bitsToNat b)) (chars.map e) hwidth
  rw [List.length_map, List.map_map] at hfields
  rw [if_neg (by rw [Nat.not_lt, Nat.le_div_iff_mul_le hw]; omega), hat.1, List.take_left' hlen,
    hfields, hlen, ← utf8_ascii bytes chars hu (fun c hc => (he c hc).2)]
  congr 4
  conv => rhs; rw [← List.map_id chars]
  exact List.map_congr_left fun c hc => (he c hc).1.2

def charVal : Charset → Nat → Nat
  | .numeric, n => if n = 0 then 32 else 32 + 15 + n
  | _, n => n

theorem charBits_rt (cs : Charset) (hcs : cs ≠ .utf8) (c : Nat) (h : cs.isValid c = true) :
    ((charBits cs c).length = charWidth cs ∧ charVal cs (bitsToNat (charBits cs c)) = c) ∧
      c < 128 := by
  cases cs <;>
    simp only [Charset.isValid, Bool.or_eq_true, decide_eq_true_eq, Bool.and_eq_true] at h
  case utf8 => exact absurd rfl hcs
  case numeric =>
    rcases h with rfl | h
    · exact ⟨⟨rfl, by decide⟩, by omega⟩
    · have e : (if c - 32 = 0 then 0 else c - 32 - 15) = c - 47 := by split <;> omega
      have hb : bitsToNat (charBits .numeric c) = c - 47 := by
        simp only [charBits, e]
        exact bitsToNat_natBits_of_lt (show c - 47 < 2 ^ 4 by omega)
      refine ⟨⟨natBits_length _ _, ?_⟩, by omega⟩
      simp only [charVal, hb]
      split <;> omega
  all_goals
    have hc : c < 2 ^ 7 := by omega
    exact ⟨⟨natBits_length _ _, bitsToNat_natBits_of_lt hc⟩, hc⟩

theorem all_valid_of_any {cs : Charset} {chars : List Nat}
    (h : (chars.any fun c => !cs.isValid c) = false) : ∀ c ∈ chars, cs.isValid c = true := by
  intro c hc
  rw [List.any_eq_false] at h
  simpa using h c hc

theorem rt_str (cs : Charset) (min max : Option Nat) (ext : Bool) :
    RT (enc (.str cs min max ext)) (dec (.str cs min max ext)) (valOk (.str cs min max ext)) := by
  intro v bits hv h inp pos post hat
  unfold enc at h
  split at h
  rotate_left
  · cases h
  rename_i bytes
  unfold valOk at hv
  cases hu : utf8Decode bytes with
  | none => simp [hu] at h
  | some chars =>
    simp only [hu] at hv h
    cases cs <;> simp only at h
    case utf8 =>
      unfold dec
      split at h
      · cases h
      · rw [hat.lift _ _ (rOctets_wOctets none none false bytes bits post (by intro u hu; cases hu) h)]
        simp only [Outcome.bind_ok, hu]
    -- the restricted strings: the header (`extLen_rt`), then the character fields
    all_goals
      split at h
      · cases h
      rename_i hany
      obtain ⟨hdr, hh, h⟩ := bind_eq_ok.1 h
      injection h with h; subst h
      obtain ⟨isExt, p0, e1, e2, hat'⟩ := extLen_rt ext min max U64_MAX chars.length hdr hh
        (by simpa using hv) inp pos _ post hat
      unfold dec
      rw [e1]
      simp only [Outcome.bind_ok]
      rw [e2]
      simp only [Outcome.bind_ok]
      exact (str_fields_rt (charWidth _) (by decide) (charVal _) (charBits _) bytes chars hu
        (fun c hc => charBits_rt _ (by decide) c
          (all_valid_of_any (Bool.eq_false_iff.2 hany) c hc)) inp _ post hat').trans
        (by rw [List.length_append, Nat.add_assoc])

theorem rt_list (f : Val → Outcome Bits) (r : RdP Val) (p : Val → Bool) (ih : RT f r p) :
    ∀ (vs : Vals) (body : Bits), allVals p vs = true → encListWith f vs = ok body →
      ReadsBack (decListWith r vs.length) body vs
  | .nil, body, _, h, inp, pos, post, _ => by
    simp only [encListWith] at h
    injection h with h; subst h
    simp [Vals.length, decListWith]
  | .cons v vs, body, hp, h, inp, pos, post, hat => by
    simp only [allVals, Bool.and_eq_true] at hp
    simp only [encListWith] at h
    obtain ⟨a, ha, h⟩ := bind_eq_ok.1 h
    obtain ⟨b, hb, h⟩ := bind_eq_ok.1 h
    injection h with h; subst h
    simp only [Vals.length, decListWith]
    rw [ih v a hp.1 ha inp pos _ hat.left]
    simp only [Outcome.bind_ok]
    rw [rt_list f r p ih vs b hp.2 hb inp _ post hat.right]
    simp only [Outcome.bind_ok, List.length_append, Nat.add_assoc]

theorem rt_seqOf (min max : Option Nat) (ext : Bool) (elem : Ty)
    (ih : RT (enc elem) (dec elem) (valOk elem)) :
    RT (enc (.seqOf min max ext elem)) (dec (.seqOf min max ext elem))
      (valOk (.seqOf min max ext elem)) := by
  intro v bits hv h inp pos post hat
  unfold enc at h
  split at h
  rotate_left
  · cases h
  rename_i vs
  unfold valOk at hv
  simp only [Bool.and_eq_true, decide_eq_true_eq] at hv
  obtain ⟨hdr, hh, h⟩ := bind_eq_ok.1 h
  obtain ⟨body, hb, h⟩ := bind_eq_ok.1 h
  injection h with h; subst h
  obtain ⟨isExt, p0, e1, e2, hat'⟩ := extLen_rt ext min max I64MAXu vs.length hdr hh hv.1 inp pos _ post hat
  unfold dec
  rw [e1]
  simp only [Outcome.bind_ok]
  rw [e2]
  simp only [Outcome.bind_ok]
  rw [rt_list (enc elem) (dec elem) (valOk elem) ih vs body hv.2 hb inp _ post hat']
  simp only [Outcome.bind_ok, List.length_append, Nat.add_assoc]

theorem rt_choice (std total : Nat) (ext : Bool) (alts : Fields) (ht : std ≤ U64_MAX)
    (ih : ∀ i, RT (encAlt alts i) (decAlt alts i) (valOkAlt alts i)) :
    RT (enc (.choice std total ext alts)) (dec (.choice std total ext alts))
      (valOk (.choice std total ext alts)) := by
  intro v bits hv h inp pos post hat
  unfold enc at h
  split at h
  rotate_left
  · cases h
  rename_i i x
  unfold valOk at hv
  simp only [Bool.and_eq_true, Bool.or_eq_true, decide_eq_true_eq] at hv
  obtain ⟨⟨⟨hit, hi64⟩, hva⟩, hopen⟩ := hv
  obtain ⟨idx, hi, h⟩ := bind_eq_ok.1 h
  obtain ⟨content, hcn, h⟩ := bind_eq_ok.1 h
  unfold dec
  by_cases c : i < std
  · have : ¬ i ≥ std := by omega
    simp only [this, if_false] at h
    injection h with h; subst h
    rw [index_reads ht hi64 hi inp pos _ hat.left]
    simp only [Outcome.bind_ok, this, if_false]
    rw [ih i x content hva hcn inp _ post hat.right]
    simp only [Outcome.bind_ok, List.length_append, Nat.add_assoc]
  · have hge : i ≥ std := by omega
    have hnt : ¬ i ≥ total := by omega
    simp only [hge, if_true] at h
    obtain ⟨o, ho, h⟩ := bind_eq_ok.1 h
    injection h with h; subst h
    have hl : (openOctets content).length < 16384 := by
      simpa [c, openOkC, hcn] using hopen
    rw [index_reads ht hi64 hi inp pos _ hat.left]
    simp only [Outcome.bind_ok, hge, if_true]
    obtain ⟨n, p1, h1, h2⟩ := open_at (decAlt alts i) inp _ content post o x hat.right ho hl
      (fun pos' post' hat' => ⟨_, ih i x content hva hcn inp pos' post' hat'⟩)
    rw [h1]
    simp only [Outcome.bind_ok, hnt, if_false]
    rw [h2]
    simp only [Outcome.bind_ok, List.length_append, Nat.add_assoc]

end Asn1Verif.Uper
