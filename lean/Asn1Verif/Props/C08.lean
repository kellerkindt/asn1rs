import Asn1Verif.Codegen.AttrLemmas
/-
  C08 — generated Rust code carries the whole model (codegen is invertible).

  Proved here: the attribute language of a component (`#[asn(<type>, tag(..), const(..))]`), the
  part of the generated text that carries types, constraints, tags, defaults and constants.
  `fieldToks` mirrors what `RustCodeGenerator` prints, `parseField` what the attribute macro builds
  from it (Codegen/Attr.lean).  `attr_roundtrip`: on the fragment `FieldOk`, parsing the printed
  attribute gives back the type (up to the mangled spelling of ENUMERATED items in defaults), the
  tag and the constants.  The full statement is FALSE for the current code; every excluded region
  is a concrete counterexample below (and a finding class of tools/checks/c08.py).
  The constants of the macro expansion (`consts_match`) are in Props/C08Consts.lean.

  Not covered by theorems (exercised on the real code by the stream op `attr reparse` only): the
  definition header (`sequence`/`choice`/.., `extensible_after`), `Model<Rust>` <-> `asn::Type`
  (`into_asn`, `convert_asn_to_rust`).
-/
namespace Asn1Verif.Props.C08
open Asn1Verif.Codegen.Names Asn1Verif.Codegen.Attr

/-- what the macro holds for the component after reading a faithful copy of what the generator
    had: type (item names in defaults mangled, as printed), tag, constants pushed into the
    integer by `into_asn`; `rustTy` is the component's Rust type as written in the struct -/
def readBack (rustTy : Name) (f : FieldIn) : Role :=
  intoAsn rustTy { primary := norm f.ty, tag := f.tag, consts := f.consts }

/-- FULL statement: every component attribute the generator can print is read back. -/
def attr_roundtrip_full : Prop :=
  ∀ (f : FieldIn) (rustTy : Name), parseField rustTy (fieldToks f) = some (readBack rustTy f)

/-- PARTIAL form: the fragment `FieldOk` = all types built from boolean, null, integers that are
    unconstrained or have two bounds, restricted strings / octet strings / bit strings with any
    size constraint, `optional`, `default` with a boolean / string / integer / item literal,
    `sequence_of` / `set_of` with any size constraint, tagged `complex` references — arbitrarily
    nested — with any tag and any list of named numbers; all numbers within the ranges of the
    Rust types the parser uses (`i64`, `usize`).  Structural induction (`parseTy_typeToks`). -/
theorem attr_roundtrip (f : FieldIn) (rustTy : Name) (h : FieldOk f) :
    parseField rustTy (fieldToks f) = some (readBack rustTy f) := by
  unfold parseField readBack
  rw [parseAttr_fieldToks f h]
  rfl

/-- the type alone, in any context that does not continue with a parenthesis -/
theorem type_roundtrip (t : AType) (h : Frag t) (rest : List Tok) (hr : NoLp rest) :
    parseTy ((typeToks t).length + 1) (typeToks t ++ rest) = some (norm t, rest) :=
  parseTy_typeToks t h _ rest (Nat.le_refl _) hr

/-! ### what `readBack` keeps and what it loses -/

/-- named numbers survive on an integer component … -/
theorem consts_carried (mn mx : Option Int) (ext : Bool) (tag : Option Tag) (cs : List (Name × Int))
    (rustTy : Name) :
    readBack rustTy ⟨.integer mn mx ext [], tag, cs⟩ = ⟨.integer mn mx ext cs, tag⟩ := rfl

/-- … also an optional one … -/
theorem consts_carried_optional (mn mx : Option Int) (ext : Bool) (tag : Option Tag)
    (cs : List (Name × Int)) (rustTy : Name) :
    readBack rustTy ⟨.optional (.integer mn mx ext []), tag, cs⟩
      = ⟨.optional (.integer mn mx ext cs), tag⟩ := rfl

/-- … and are dropped, whatever they are, when the integer has a DEFAULT (`into_asn` looks through
    `Optional` only) -/
theorem consts_lost_under_default (t : AType) (v : Lit) (tag : Option Tag) (cs : List (Name × Int))
    (rustTy : Name) :
    readBack rustTy ⟨.default t v, tag, cs⟩ = ⟨.default (norm t) (normLit v), tag⟩ := rfl

/-- a reference at the top of the attribute takes its name from the Rust type of the field and,
    if it has none, the component's tag -/
theorem complex_top (n rustTy : Name) (t : Option Tag) (tag : Option Tag) :
    readBack rustTy ⟨.complex n t, tag, []⟩ = ⟨.complex rustTy (t.or tag), tag⟩ := rfl

/-! ### the full statement is false: one counterexample per excluded region -/

/-- `integer(min..5,...)` (INTEGER (MIN..5,...)) comes back as `0..5` -/
theorem int_min_unbounded_not_fixed :
    parseField [] (fieldToks ⟨.integer none (some 5) true [], none, []⟩)
      = some ⟨.integer (some 0) (some 5) true [], none⟩ := by decide +kernel

/-- … and as `i64::MIN..-5` when the upper bound is not positive -/
theorem int_min_unbounded_negative :
    parseField [] (fieldToks ⟨.integer none (some (-5)) true [], none, []⟩)
      = some ⟨.integer (some I64_MIN) (some (-5)) true [], none⟩ := by decide +kernel

/-- `integer(5..max,...)` comes back as `5..i64::MAX` -/
theorem int_max_unbounded_not_fixed :
    parseField [] (fieldToks ⟨.integer (some 5) none true [], none, []⟩)
      = some ⟨.integer (some 5) (some I64_MAX) true [], none⟩ := by decide +kernel

/-- `default(octet_string, [0xab, ])` is rejected -/
theorem octet_default_rejected :
    parseField [] (fieldToks ⟨.default (.octetString .any) (.octets [0xab]), none, []⟩) = none := by
  decide +kernel

/-- `complex(Foo)` (no tag could be resolved) is rejected -/
theorem complex_untagged_rejected :
    parseField "Foo".toList (fieldToks ⟨.complex "Foo".toList none, none, []⟩) = none := by
  decide +kernel

/-- `size(3..3)` comes back as `size(3)` (not reachable: `reconsider_constraints` normalises) -/
theorem size_equal_bounds_normalised :
    parseField [] (fieldToks ⟨.octetString (.range 3 3 false), none, []⟩)
      = some ⟨.octetString (.fix 3 false), none⟩ := by decide +kernel

theorem attr_roundtrip_full_false : ¬ attr_roundtrip_full := by
  intro h
  have h1 := h ⟨.integer none (some 5) true [], none, []⟩ []
  rw [int_min_unbounded_not_fixed] at h1
  exact absurd h1 (by decide)

/-! ### non-vacuity: concrete members of the fragment -/

example : FieldOk ⟨.sequenceOf (.optional (.integer (some (-5)) (some 10) true [])) (.range 1 4 true),
    some (.application 3), []⟩ := by
  refine ⟨⟨⟨rfl, Or.inr ⟨-5, 10, rfl, rfl, ?_, ?_⟩⟩, ?_⟩, ?_, ?_⟩
  · unfold InI64; decide
  · unfold InI64; decide
  · exact ⟨by decide, by decide, by decide⟩
  · intro t ht; cases ht; show (3 : Nat) ≤ USIZE_MAX; decide
  · intro c hc; simp at hc

example : parseField [] (fieldToks ⟨.sequenceOf (.optional (.integer (some (-5)) (some 10) true []))
      (.range 1 4 true), some (.application 3), []⟩)
    = some ⟨.sequenceOf (.optional (.integer (some (-5)) (some 10) true [])) (.range 1 4 true),
      some (.application 3)⟩ := by decide +kernel

example : parseField "u8".toList (fieldToks ⟨.integer (some 0) (some 7) false [], some (.contextSpecific 2),
      [("ONE".toList, 1), ("NEG".toList, -2)]⟩)
    = some ⟨.integer (some 0) (some 7) false [("ONE".toList, 1), ("NEG".toList, -2)],
      some (.contextSpecific 2)⟩ := by decide +kernel

example : parseField [] (fieldToks ⟨.default (.complex "Foo".toList (some (.universal 10)))
      (.enumVariant "foo-bar".toList "def-g".toList), none, []⟩)
    = some ⟨.default (.complex "Foo".toList (some (.universal 10)))
      (.enumVariant "FooBar".toList "DefG".toList), none⟩ := by decide +kernel

end Asn1Verif.Props.C08
