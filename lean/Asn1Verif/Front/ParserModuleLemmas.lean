import Asn1Verif.Front.ParserRoundTripNested
/- parse ∘ print at module level: object identifiers, IMPORTS, definitions, value references. -/
namespace Asn1Verif.Front.Syn
open Except

def printOidBody (cs : Oid) : List Token := cs.flatMap printOidComponent ++ [.sep '}']

theorem printOidBody_cons (c : OidComponent) (cs : Oid) :
    printOidBody (c :: cs) = printOidComponent c ++ printOidBody cs := by
  simp [printOidBody]

theorem nextIsSep_paren_oidBody (cs : Oid) (rest : List Token) :
    nextIsSep '(' (printOidBody cs ++ rest) = none := by
  cases cs with
  | nil => rfl
  | cons c tl =>
    rw [printOidBody_cons]
    cases c <;> rfl

theorem oidLoop_component (c : OidComponent) (hw : oidComponentWf c = true) (f : Nat)
    (ts : List Token) (hts : nextIsSep '(' ts = none) :
    oidLoop (f + 1) (printOidComponent c ++ ts) = (oidLoop f ts >>= fun r => .ok (c :: r.1, r.2)) := by
  cases c with
  | nameForm n =>
    simp only [oidComponentWf, Bool.not_eq_true'] at hw
    rw [printOidComponent, List.cons_append, List.nil_append, oidLoop]
    simp only [tok, hw, hts]
  | numberForm k =>
    rw [printOidComponent, List.cons_append, List.nil_append, tNat, oidLoop]
    simp only [tok, toString_nat_all_isDigit k, parseU64_toString k (of_decide_eq_true hw)]
  | nameAndNumberForm n k =>
    simp only [oidComponentWf, Bool.and_eq_true, Bool.not_eq_true'] at hw
    rw [printOidComponent, List.cons_append, tNat, oidLoop]
    simp only [tok, hw.1, parseU64_toString k (of_decide_eq_true hw.2)]

theorem oidLoop_print (cs : Oid) (hw : cs.all oidComponentWf = true) :
    ∀ (fuel : Nat) (rest : List Token), (printOidBody cs).length ≤ fuel →
      oidLoop fuel (printOidBody cs ++ rest) = .ok (cs, rest) := by
  induction cs with
  | nil =>
    intro fuel rest hf
    obtain ⟨f, rfl⟩ : ∃ f, fuel = f + 1 := ⟨fuel - 1, Nat.eq_add_of_sub_eq hf rfl⟩
    rfl
  | cons c tl ih =>
    intro fuel rest hf
    simp only [List.all_cons, Bool.and_eq_true] at hw
    have hc : 1 ≤ (printOidComponent c).length := by cases c <;> simp [printOidComponent]
    rw [printOidBody_cons, List.length_append] at hf
    obtain ⟨f, rfl⟩ : ∃ f, fuel = f + 1 := ⟨fuel - 1, by omega⟩
    rw [printOidBody_cons, List.append_assoc,
      oidLoop_component c hw.1 f _ (nextIsSep_paren_oidBody tl rest), ih hw.2 f rest (by omega)]
    rfl

/-- `parse_print_OID` -/
theorem maybeReadOid_print (o : Option Oid) (hw : oidWf o = true) (fuel : Nat) (rest : List Token)
    (hf : (printOid o).length < fuel + 1) (hrest : nextIsSep '{' rest = none) :
    maybeReadOid fuel (printOid o ++ rest) = .ok (o, rest) := by
  cases o with
  | none => simp only [printOid, List.nil_append, maybeReadOid, hrest]
  | some cs =>
    have := oidLoop_print cs hw fuel rest (by
      simp only [printOid, List.length_cons] at hf
      exact Nat.le_of_lt_succ (Nat.lt_of_succ_lt hf))
    rw [printOidBody, List.append_assoc, List.singleton_append] at this
    simp only [tok, printOid, maybeReadOid, this]

theorem length_printOid_pos (o : Option Oid) : (printOid o).length = 0 ∨ 2 ≤ (printOid o).length := by
  cases o with
  | none => left; rfl
  | some cs => right; simp [printOid]

theorem importsLoop_comma (f : Nat) (what : List String) (s : String) (ts : List Token) :
    importsLoop (f + 1) what (.text s :: .sep ',' :: ts) = importsLoop f (what ++ [s]) ts := rfl

theorem importsLoop_from (f : Nat) (what : List String) (s frm : String) (ts : List Token) :
    importsLoop (f + 1) what (.text s :: .text "FROM" :: .text frm :: ts) =
      (maybeReadOid f ts >>= fun r => importsLoop f [] r.2 >>= fun q =>
        .ok (⟨what ++ [s], frm, r.1⟩ :: q.1, q.2)) := by
  rw [importsLoop]
  simp only [tok]

theorem importsLoop_import (syms : List String) (hne : syms ≠ []) (frm : String) (oid : Option Oid)
    (hoid : oidWf oid = true) :
    ∀ (what : List String) (f : Nat) (more : List Token), (printOid oid).length < f + 1 →
      nextIsSep '{' more = none →
      importsLoop (f + syms.length) what
          (printSymbols syms ++ .text "FROM" :: .text frm :: (printOid oid ++ more)) =
        (importsLoop f [] more >>= fun r => .ok (⟨what ++ syms, frm, oid⟩ :: r.1, r.2)) := by
  induction syms with
  | nil => exact absurd rfl hne
  | cons s tl ih =>
    intro what f more hf hmore
    cases tl with
    | nil =>
      exact (importsLoop_from f what s frm _).trans
        (by rw [maybeReadOid_print oid hoid f more hf hmore]; rfl)
    | cons s2 tl2 =>
      have ih' := ih (List.cons_ne_nil _ _) (what ++ [s]) f more hf hmore
      rw [List.append_assoc] at ih'
      exact (importsLoop_comma _ what s _).trans ih'

theorem length_printSymbols (syms : List String) : syms.length ≤ (printSymbols syms).length := by
  induction syms with
  | nil => exact Nat.le_refl 0
  | cons s tl ih =>
    cases tl with
    | nil => exact Nat.le_refl 1
    | cons s2 tl2 => simp only [printSymbols, List.length_cons] at ih ⊢; omega

def printImportsBody (is : List Import) : List Token := is.flatMap printImport ++ [.sep ';']

theorem printImportsBody_cons (i : Import) (is : List Import) :
    printImportsBody (i :: is) =
      printSymbols i.what ++
        .text "FROM" :: .text i.«from» :: (printOid i.fromOid ++ printImportsBody is) := by
  simp only [printImportsBody, printImport, List.flatMap_cons, List.append_assoc, List.cons_append]

theorem nextIsSep_brace_importsBody (is : List Import) (hw : is.all importWf = true)
    (rest : List Token) : nextIsSep '{' (printImportsBody is ++ rest) = none := by
  cases is with
  | nil => rfl
  | cons i tl =>
    simp only [List.all_cons, Bool.and_eq_true, importWf, Bool.not_eq_true',
      List.isEmpty_eq_false_iff] at hw
    rw [printImportsBody_cons]
    cases hwhat : i.what with
    | nil => exact absurd hwhat hw.1.1
    | cons s tl2 => cases tl2 <;> rfl

/-- `parse_print_Imports` -/
theorem importsLoop_print (is : List Import) (hw : is.all importWf = true) :
    ∀ (fuel : Nat) (rest : List Token), (printImportsBody is).length < fuel + 1 →
      importsLoop fuel [] (printImportsBody is ++ rest) = .ok (is, rest) := by
  induction is with
  | nil =>
    intro fuel rest hf
    obtain ⟨f, rfl⟩ : ∃ f, fuel = f + 1 := ⟨fuel - 1, Nat.eq_add_of_sub_eq (Nat.le_of_lt_succ hf) rfl⟩
    rfl
  | cons i tl ih =>
    intro fuel rest hf
    simp only [List.all_cons, Bool.and_eq_true, importWf, Bool.not_eq_true',
      List.isEmpty_eq_false_iff] at hw
    have hsym := length_printSymbols i.what
    rw [printImportsBody_cons] at hf ⊢
    simp only [List.length_append, List.length_cons] at hf
    obtain ⟨f, rfl⟩ : ∃ f, fuel = f + i.what.length := ⟨fuel - i.what.length, by omega⟩
    simp only [List.append_assoc, List.cons_append]
    rw [importsLoop_import i.what hw.1.1 i.«from» i.fromOid hw.1.2 [] f (printImportsBody tl ++ rest)
      (by omega) (nextIsSep_brace_importsBody tl hw.2 rest), ih hw.2 f rest (by omega)]
    rfl

theorem readDefinition_print (d : UDefinition) (fuel : Nat) (rest : List Token)
    (hw : definitionWf d = true) (hnw : tyNoWiden d.ty = true)
    (hr : RestOk rest) (hf : (tyTail d.ty).length < fuel) :
    readDefinition fuel d.name
        (.sep ':' :: .sep ':' :: .sep '=' :: (printTag d.tag ++ (printTy d.ty ++ rest))) =
      .ok (⟨d.name, d.tag, canonTy d.ty⟩, rest) := by
  simp only [definitionWf, Bool.and_eq_true] at hw
  simp only [tok, readDefinition, printTy, nextWithOptTag_print d.tag hw.1.2 (tyHead d.ty),
    parseRoleGiven_print d.ty fuel rest hw.2 hnw hr hf]

theorem readValueReference_print (v : UValueReference) (fuel : Nat) (rest : List Token)
    (hw : valueReferenceWf v = true) (hnw : tyNoWiden v.ty = true)
    (hf : (tyTail v.ty).length < fuel) :
    readValueReference fuel v.name
        (printTy v.ty ++ (.sep ':' :: .sep ':' :: .sep '=' :: (printLit v.value ++ rest))) =
      .ok (⟨v.name, canonTy v.ty, v.value⟩, rest) := by
  simp only [valueReferenceWf, Bool.and_eq_true] at hw
  simp only [tok, readValueReference, parseRole, printTy,
    parseRoleGiven_print v.ty fuel _ hw.1.2 hnw (RestOk.sep ':' _ (by decide) (by decide)) hf,
    readLiteral_print v.value hw.2 rest]

end Asn1Verif.Front.Syn
