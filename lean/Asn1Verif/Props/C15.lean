import Asn1Verif.Codegen.IntTypeLemmas
/-
  C15 — The Rust type chosen for an INTEGER can hold every permitted value.

  Model: `Codegen/IntType.lean` (`choose start stop ext` = parser widening + the two cascades of
  asn1rs-model/src/rust.rs; `IntTy.fnMin/fnMax` = the generated `*_min()/*_max()`;
  `IntTy.constMin/constMax` = `MIN/MIN_T`, `MAX/MAX_T` of the `numbers::Constraint` impl;
  `IntTy.intoAsn` = the range inside `#[asn(integer(..))]`).  Lemmas: `Codegen/IntTypeLemmas.lean`.

  Reading of the property (all quantifiers unbounded over the i64 bounds the parser can read):

  * a constraint is `(min, max)` with `none` = `MIN`/`MAX`; it is `Valid` when the bounds are
    `i64` and `min ≤ max`;
  * `Permits min max v` — `v` satisfies the constraint;
  * "(within 64 bits)", "right signedness": `Window min v` — the 64-bit window of the signedness
    the constraint needs: signed `[-2^63, 2^63-1]` iff it permits a negative value (lower bound
    `MIN` or `< 0`), else unsigned `[0, 2^64-1]`;
  * "narrowest such standard integer type": no standard type (`i8 … u64`, either signedness!) with
    fewer bits holds every permitted value of the window;
  * the code's signedness policy: unsigned iff `min.unwrap_or_default() ≥ 0`.

  Where the current code violates the property the full statement is a `def … : Prop`, refuted on
  a concrete witness, next to the `_partial` theorem with the excluded region as hypothesis:
    - lower bound `MIN` (`min = none`): `unwrap_or_default()` makes it 0 → unsigned type
      (`INTEGER (MIN..100)` → `u8`; `INTEGER (MIN..-5)` → `u64` with `v_max() = 2^64-5`);
    - no constraint at all → `u64`.
-/
namespace Asn1Verif.Props.C15
open Asn1Verif Asn1Verif.Consts Asn1Verif.Codegen.IntType

/-! ### vocabulary -/

/-- well-formed constraint: `i64` bounds, lower ≤ upper -/
def Valid : Option Int → Option Int → Prop
  | some a, some b => InI64 a ∧ InI64 b ∧ a ≤ b
  | some a, none => InI64 a
  | none, some b => InI64 b
  | none, none => True

def LowerOk : Option Int → Int → Prop
  | none, _ => True
  | some a, v => a ≤ v

def UpperOk : Option Int → Int → Prop
  | none, _ => True
  | some b, v => v ≤ b

/-- `v` satisfies `(min..max)` -/
def Permits (min max : Option Int) (v : Int) : Prop := LowerOk min v ∧ UpperOk max v

/-- the constraint permits a negative value -/
def NegPermitted : Option Int → Prop
  | none => True
  | some a => a < 0

/-- 64-bit window of the signedness the constraint needs -/
def Window : Option Int → Int → Prop
  | none, v => RustInt.i64.holds v
  | some a, v => (a < 0 → RustInt.i64.holds v) ∧ (0 ≤ a → RustInt.u64.holds v)

instance : (min max : Option Int) → Decidable (Valid min max)
  | some a, some b => inferInstanceAs (Decidable (InI64 a ∧ InI64 b ∧ a ≤ b))
  | some a, none => inferInstanceAs (Decidable (InI64 a))
  | none, some b => inferInstanceAs (Decidable (InI64 b))
  | none, none => inferInstanceAs (Decidable True)

instance : (min : Option Int) → (v : Int) → Decidable (LowerOk min v)
  | none, _ => inferInstanceAs (Decidable True)
  | some a, v => inferInstanceAs (Decidable (a ≤ v))

instance : (max : Option Int) → (v : Int) → Decidable (UpperOk max v)
  | none, _ => inferInstanceAs (Decidable True)
  | some b, v => inferInstanceAs (Decidable (v ≤ b))

instance (min max : Option Int) (v : Int) : Decidable (Permits min max v) :=
  inferInstanceAs (Decidable (LowerOk min v ∧ UpperOk max v))

instance : (min : Option Int) → Decidable (NegPermitted min)
  | none => inferInstanceAs (Decidable True)
  | some a => inferInstanceAs (Decidable (a < 0))

instance : (min : Option Int) → (v : Int) → Decidable (Window min v)
  | none, v => inferInstanceAs (Decidable (RustInt.i64.holds v))
  | some a, v =>
    inferInstanceAs (Decidable ((a < 0 → RustInt.i64.holds v) ∧ (0 ≤ a → RustInt.u64.holds v)))

/-! ### 1. the chosen type holds every permitted value -/

/-- full statement (false for the current code, see `holds_fails`) -/
def Holds : Prop :=
  ∀ (min max : Option Int) (ext : Bool) (v : Int),
    Valid min max → Permits min max v → Window min v → (choose min max ext).kind.holds v

/-- holds whenever the lower bound is a number (any upper bound incl. `MAX`, extensible or not) -/
theorem holds_partial (min max : Option Int) (ext : Bool) (v : Int)
    (hv : Valid min max) (hmin : min ≠ none) (hp : Permits min max v) (hw : Window min v) :
    (choose min max ext).kind.holds v := by
  rw [choose_eq_cascade]
  cases min with
  | none => exact absurd rfl hmin
  | some a =>
    cases max with
    | none =>
      rw [cascade_kind_open a ext hv]
      split
      · exact hw.1 ‹_›
      · exact hw.2 (Int.not_lt.mp ‹_›)
    | some b =>
      obtain ⟨_, h1, h2⟩ := cascade_kind_spec a b ext hv.1 hv.2.1 hv.2.2
      exact RustInt.holds_between h1 h2 hp.1 hp.2

set_option linter.unusedVariables false in
/-- … and for `(MIN..b, ...)` with negative `b` (the extensible cascade falls through to `i64`) -/
theorem holds_ext_min_negative_max (b v : Int) (hb : InI64 b) (hneg : b < 0)
    (hp : Permits none (some b) v) (hw : Window none v) :
    (choose none (some b) true).kind.holds v := by
  rw [choose_eq_cascade, cascade_true, extCascade_kind, if_neg (fun h => absurd h.2 (Int.not_le.mpr hneg))]
  exact hw

/-- `INTEGER (MIN..100)` becomes `u8`: `-1` is permitted and not representable -/
theorem holds_fails : ¬ Holds := by
  intro h
  have := h none (some 100) false (-1) (by decide) (by decide) (by decide)
  revert this; decide

/-- unconstrained `INTEGER` becomes `u64` -/
theorem holds_fails_unconstrained :
    Valid none none ∧ Permits none none (-1) ∧ Window none (-1) ∧
    (choose none none false) = .u64 none none false ∧ ¬ (choose none none false).kind.holds (-1) := by
  decide

/-- exactly where it fails: the chosen type holds every permitted value of the window iff the lower
    bound is a number or the range is `(MIN..negative, ...)` -/
theorem holds_iff (min max : Option Int) (ext : Bool) (hv : Valid min max) :
    (∀ v, Permits min max v → Window min v → (choose min max ext).kind.holds v) ↔
      (min ≠ none ∨ (ext = true ∧ ∃ b, max = some b ∧ b < 0)) := by
  constructor
  · intro h
    cases min with
    | some a => exact Or.inl (by simp)
    | none =>
      refine Or.inr ?_
      cases max with
      | none =>
        exfalso
        have := h (-1) (by simp [Permits, LowerOk, UpperOk]) (by decide)
        revert this; cases ext <;> decide
      | some b =>
        -- the chosen type is unsigned, and `b` or `-1` is a permitted negative value
        rw [choose_eq_cascade] at h
        by_cases hb : b < 0
        · cases ext with
          | true => exact ⟨rfl, b, rfl, hb⟩
          | false =>
            have := h b ⟨trivial, Int.le_refl b⟩ (RustInt.i64_holds hv)
            exact absurd this (RustInt.not_holds_neg (mt (fixedCascade_signed _ _).mp (by decide)) hb)
        · have := h (-1) ⟨trivial, by show (-1 : Int) ≤ b; omega⟩ (by decide)
          rw [cascade_kind_getD] at this
          have hu := (cascade_kind_spec 0 b ext inI64_zero hv (Int.not_lt.mp hb)).1
          exact absurd this (RustInt.not_holds_neg (mt hu.mp (by decide)) (by decide))
  · rintro (hmin | ⟨he, b, hb, hneg⟩)
    · exact fun v hp hw => holds_partial min max ext v hv hmin hp hw
    · subst he hb
      cases min with
      | some a => exact fun v hp hw => holds_partial _ _ _ v hv (by simp) hp hw
      | none => exact fun v hp hw => holds_ext_min_negative_max b v hv hneg hp hw

/-! ### 2. signedness policy -/

/-- full statement: signed iff a negative value is permitted (false, `MIN..`) -/
def RightSignedness : Prop :=
  ∀ (min max : Option Int) (ext : Bool), Valid min max →
    ((choose min max ext).kind.signed = true ↔ NegPermitted min)

theorem signedness_partial (min max : Option Int) (ext : Bool) (hv : Valid min max)
    (hmin : min ≠ none) :
    ((choose min max ext).kind.signed = true ↔ NegPermitted min) := by
  rw [choose_eq_cascade]
  cases min with
  | none => exact absurd rfl hmin
  | some a =>
    cases max with
    | none => rw [cascade_kind_open a ext hv]; split <;> simp [RustInt.signed, NegPermitted, *]
    | some b => exact (cascade_kind_spec a b ext hv.1 hv.2.1 hv.2.2).1

theorem signedness_fails : ¬ RightSignedness := by
  intro h
  have := h none (some 100) false (by decide)
  revert this; decide

/-- the policy of the code, stated for every constraint (no exclusion): not extensible ⇒ unsigned
    iff `min.unwrap_or_default() ≥ 0` -/
theorem signedness_policy_fixed (min max : Option Int) (hv : Valid min max) :
    ((choose min max false).kind.signed = false ↔ min.getD 0 ≥ 0) := by
  have _ := hv -- not needed: the policy does not depend on the bounds being valid
  rw [choose_eq_cascade, cascade_false, ← Bool.not_eq_true, fixedCascade_signed]
  exact Int.not_lt

/-! ### 3. narrowest -/

/-- Not extensible: no standard integer type with fewer bits — of either signedness — can hold
    every permitted value of the window.  Full statement, true for every valid constraint (for
    `MIN..` the chosen type is too *narrow*, which is `holds_fails`, never too wide). -/
theorem narrowest (min max : Option Int) (t' : RustInt) (hv : Valid min max)
    (h : ∀ v, Permits min max v → Window min v → t'.holds v) :
    (choose min max false).kind.bits ≤ t'.bits := by
  rw [choose_eq_cascade, cascade_false]
  have hwin : ∀ a x, InI64 x → a ≤ x → Window (some a) x := fun a x hx hax =>
    ⟨fun _ => RustInt.i64_holds hx, fun h0 => RustInt.u64_holds (Int.le_trans h0 hax) hx⟩
  cases min with
  | none =>
    -- `i64::MIN` is permitted: only a 64-bit type holds it, and nothing is wider
    have h1 : t'.holds I64_MIN := by
      refine h _ ⟨trivial, ?_⟩ (RustInt.i64_holds (by decide))
      cases max with
      | none => trivial
      | some b => exact hv.1
    rw [RustInt.bits_of_holds_extreme h1 (Or.inl rfl)]
    exact (RustInt.bounds_of_bits_lt _).2.1
  | some a =>
    cases max with
    | some b =>
      exact (fixed_kind_spec a b hv.1 hv.2.1 hv.2.2).2.2.2 t'
        (h a ⟨Int.le_refl a, hv.2.2⟩ (hwin a a hv.1 (Int.le_refl a))) (h b ⟨hv.2.2, Int.le_refl b⟩ (hwin a b hv.2.1 hv.2.2))
    | none =>
      -- `i64::MAX` is permitted
      have h2 : t'.holds I64_MAX := h _ ⟨hv.2, trivial⟩ (hwin a _ inI64_max hv.2)
      rw [RustInt.bits_of_holds_extreme h2 (Or.inr rfl)]
      exact (RustInt.bounds_of_bits_lt _).2.1

/-- the same for two declared bounds, as a refutation: a standard type with fewer bits than the
    chosen one — signed or unsigned — misses `a` or `b`; e.g. `[-1, 200]` gets `i16` because
    `i8` does not hold 200 and `u8` does not hold -1 -/
theorem narrower_cannot_hold (a b : Int) (t' : RustInt) (hv : Valid (some a) (some b))
    (hb : t'.bits < (choose (some a) (some b) false).kind.bits) :
    ¬ (t'.holds a ∧ t'.holds b) := by
  intro ⟨h1, h2⟩
  exact absurd hb (Nat.not_lt.mpr
    (narrowest (some a) (some b) t' hv fun v hp _ => RustInt.holds_between h1 h2 hp.1 hp.2))

/-! ### 4. extensible ranges map to 64-bit types -/

/-- every extensible range — any bounds whatsoever — becomes `i64` or `u64` and stays extensible -/
theorem extensible_is_64bit (min max : Option Int) :
    (choose min max true).kind.bits = 64 ∧ (choose min max true).ext = true := by
  rw [choose_eq_cascade]
  refine ⟨?_, extCascade_ext min max⟩
  rw [cascade_true, extCascade_kind]
  split <;> rfl

/-- a range that is not extensible never becomes extensible -/
theorem fixed_stays_fixed (min max : Option Int) : (choose min max false).ext = false := by
  rw [choose_eq_cascade]
  exact fixedCascade_ext min max

/-- out-of-root values: with a numeric lower bound the 64-bit type holds the *whole* window of the
    root's signedness, not only the root range.  (For `min ≥ 0` that window is unsigned: a negative
    extension value is not representable in the `u64` the code chooses.) -/
theorem extensible_holds_window_partial (min max : Option Int) (v : Int) (hv : Valid min max)
    (hmin : min ≠ none) (hw : Window min v) : (choose min max true).kind.holds v := by
  rw [choose_eq_cascade]
  cases min with
  | none => exact absurd rfl hmin
  | some a =>
    have hk : (cascade (some a) max true).kind = if a < 0 then .i64 else .u64 := by
      cases max with
      | none => exact cascade_kind_open a true hv
      | some b => exact ext_kind_spec a b hv.2.2
    rw [hk]
    split
    · exact hw.1 ‹_›
    · exact hw.2 (Int.not_lt.mp ‹_›)

/-! ### 5. constants, accessors, attribute -/

/-- full statement for `MIN/MIN_T`, `MAX/MAX_T`: a declared bound has its constant, except where
    the front end deliberately widens `(0..MAX)`, `(0..i64::MAX)`, `(MIN..i64::MAX)` to "no constraint" -/
def ConstantsDeclared : Prop :=
  ∀ (min max : Option Int) (ext : Bool), Valid min max →
    (∀ a, min = some a → (choose min max ext).constMin = some a ∨
        (a = 0 ∧ (max = none ∨ max = some I64_MAX) ∧ (choose min max ext).constMin = none)) ∧
    (∀ b, max = some b → (choose min max ext).constMax = some b ∨
        (b = I64_MAX ∧ (min = none ∨ min = some 0) ∧ (choose min max ext).constMax = none))

theorem constants_partial (min max : Option Int) (ext : Bool) (hv : Valid min max)
    (hex : ¬ (min = none ∧ ext = false ∧ ∃ b, max = some b ∧ b < 0)) :
    (∀ a, min = some a → (choose min max ext).constMin = some a ∨
        (a = 0 ∧ (max = none ∨ max = some I64_MAX) ∧ (choose min max ext).constMin = none)) ∧
    (∀ b, max = some b → (choose min max ext).constMax = some b ∨
        (b = I64_MAX ∧ (min = none ∨ min = some 0) ∧ (choose min max ext).constMax = none)) := by
  rw [choose_eq_cascade]
  have ⟨hmin, hmax, hle⟩ : OptInI64 min ∧ OptInI64 max ∧ (ext = false → min.getD 0 ≤ max.getD I64_MAX) := by
    cases min <;> cases max
    · exact ⟨trivial, trivial, fun _ => by decide⟩
    · exact ⟨trivial, hv, fun he => Int.not_lt.mp fun hb => hex ⟨rfl, he, _, rfl, hb⟩⟩
    · exact ⟨hv, trivial, fun _ => hv.2⟩
    · exact ⟨hv.1, hv.2.1, fun _ => hv.2.2⟩
  rcases cascade_stored min max ext hmin hmax hle with ⟨h1, h2, h3⟩ | ⟨h1, h2⟩
  · exact ⟨fun a h => Or.inr ⟨(h ▸ h1).elim nofun (fun h0 => Option.some.inj h0), h2, h3 ▸ rfl⟩,
      fun b h => Or.inr ⟨(h ▸ h2).elim nofun (fun h0 => Option.some.inj h0), h1, h3 ▸ rfl⟩⟩
  · exact ⟨fun a h => Or.inl (h1 a h), fun b h => Or.inl (h2 b h)⟩

theorem constants_fails : ¬ ConstantsDeclared := by
  intro h
  have := (h none (some (-5)) false (by decide)).2 (-5) rfl
  revert this; decide

/-- full statement: `*_min()` / `*_max()` return the declared bounds (false: `MIN..negative`) -/
def AccessorsDeclared : Prop :=
  ∀ (min max : Option Int) (ext : Bool), Valid min max →
    (∀ a, min = some a → (choose min max ext).fnMin = a) ∧
    (∀ b, max = some b → (choose min max ext).fnMax = b)

/-- excluded: `(MIN..b)` with `b < 0`, not extensible -/
theorem accessors_partial (min max : Option Int) (ext : Bool) (hv : Valid min max)
    (hex : ¬ (min = none ∧ ext = false ∧ ∃ b, max = some b ∧ b < 0)) :
    (∀ a, min = some a → (choose min max ext).fnMin = a) ∧
    (∀ b, max = some b → (choose min max ext).fnMax = b) := by
  -- a declared bound is its constant, or the widened `0` / `i64::MAX` that an absent constant is read as
  have h := constants_partial min max ext hv hex
  refine ⟨fun a ha => ?_, fun b hb => ?_⟩
  · rw [IntTy.fnMin_eq]
    rcases h.1 a ha with h1 | ⟨rfl, -, h1⟩ <;> rw [h1] <;> rfl
  · rw [IntTy.fnMax_eq]
    rcases h.2 b hb with h1 | ⟨rfl, -, h1⟩ <;> rw [h1] <;> rfl

/-- `INTEGER (MIN..-5)`: `v_max()` returns `18446744073709551611` -/
theorem accessors_fails : ¬ AccessorsDeclared := by
  intro h
  have := (h none (some (-5)) false (by decide)).2 (-5) rfl
  revert this; decide

/-- whatever the accessors return is a value of the generated type (the generated `const fn`
    compiles) — every valid constraint, no exclusion -/
theorem accessors_in_type (min max : Option Int) (ext : Bool) (hv : Valid min max) :
    (choose min max ext).kind.holds (choose min max ext).fnMin ∧
    (choose min max ext).kind.holds (choose min max ext).fnMax := by
  rw [choose_eq_cascade]
  have ⟨hmin, hmax⟩ : OptInI64 min ∧ OptInI64 max := by
    cases min <;> cases max
    · exact ⟨trivial, trivial⟩
    · exact ⟨trivial, hv⟩
    · exact ⟨hv, trivial⟩
    · exact ⟨hv.1, hv.2.1⟩
  exact cascade_accessors_in_type min max ext hmin hmax

/-- both bounds declared (and not the widened `(0..i64::MAX)`): the stored range, both accessors, all
    four constants and the range inside `#[asn(integer(..))]` are exactly the declared bounds -/
theorem declared_bounds_everywhere (a b : Int) (ext : Bool) (hv : Valid (some a) (some b))
    (hw : ¬ (a = 0 ∧ b = I64_MAX)) :
    let t := choose (some a) (some b) ext
    t.fnMin = a ∧ t.fnMax = b ∧ t.constMin = some a ∧ t.constMax = some b ∧
    t.intoAsn = (some a, some b, ext) := by
  intro t
  rw [show t = cascade (some a) (some b) ext from choose_eq_cascade _ _ _]
  have hs := cascade_stored_closed a b ext hv.1 hv.2.1 hv.2.2 hw
  have hi := IntTy.intoAsn_of_stored hs hv.1 hv.2.1
  rw [cascade_ext] at hi
  exact ⟨by rw [IntTy.fnMin_eq, IntTy.constMin, hs]; rfl, by rw [IntTy.fnMax_eq, IntTy.constMax, hs]; rfl,
    congrArg Prod.fst hs, congrArg Prod.snd hs, hi⟩

/-! ### non-vacuity: concrete instances satisfying the hypotheses, and the worked examples -/

example : Valid (some (-1)) (some 200) ∧ (some (-1) : Option Int) ≠ none ∧
    Permits (some (-1)) (some 200) 200 ∧ Window (some (-1)) 200 := by decide +kernel
example : (choose (some (-1)) (some 200) false) = .i16 (-1) 200 false := by decide +kernel
example : (choose (some 0) (some 255) false) = .u8 0 255 false := by decide +kernel
example : (choose (some 0) (some 256) false) = .u16 0 256 false := by decide +kernel
example : (choose (some (-128)) (some 127) false) = .i8 (-128) 127 false := by decide +kernel
example : (choose (some (-129)) (some 0) false) = .i16 (-129) 0 false := by decide +kernel
example : (choose (some 5) none false) = .u64 (some 5) (some 9223372036854775807) false := by decide +kernel
example : (choose (some (-5)) none false) = .i64 (-5) 9223372036854775807 false := by decide +kernel
example : (choose (some 0) (some 100) true) = .u64 (some 0) (some 100) true := by decide +kernel
example : (choose (some (-3)) (some 100) true) = .i64 (-3) 100 true := by decide +kernel
example : (choose none (some (-5)) true) = .i64 (-9223372036854775808) (-5) true := by decide +kernel
-- the deviations
example : (choose none (some 100) false) = .u8 0 100 false := by decide +kernel
example : (choose none (some 100) true) = .u64 none (some 100) true := by decide +kernel
example : (choose none (some (-5)) false) = .u64 (some 0) (some 18446744073709551611) false := by decide +kernel
example : (choose none none false) = .u64 none none false := by decide +kernel
example : (choose (some 0) none false) = .u64 none none false := by decide +kernel
-- hypotheses of `narrowest`, `narrower_cannot_hold`, `holds_ext_min_negative_max`,
-- `accessors_partial`, `declared_bounds_everywhere`
example : ∀ v, Permits (some 0) (some 100) v → Window (some 0) v → RustInt.i8.holds v := by
  intro v hp hw; simp only [Permits, LowerOk, UpperOk, Window, RustInt.holds, RustInt.lo, RustInt.hi] at *; omega
example : Valid (some (-1)) (some 200) ∧
    RustInt.i8.bits < (choose (some (-1)) (some 200) false).kind.bits ∧
    RustInt.u8.bits < (choose (some (-1)) (some 200) false).kind.bits := by decide +kernel
example : InI64 (-5) ∧ (-5 : Int) < 0 ∧ Permits none (some (-5)) (-7) ∧ Window none (-7) := by decide +kernel
example : ¬ ((some 3 : Option Int) = none ∧ false = false ∧ ∃ b, (some 9 : Option Int) = some b ∧ b < 0) := by
  simp
example : Valid (some 3) (some 9) ∧ ¬ ((3 : Int) = 0 ∧ (9 : Int) = I64_MAX) := by decide +kernel

end Asn1Verif.Props.C15
