import Asn1Verif.Front.Parser
/-
  Totality of the parser model.  The Rust parser is a recursive descent over a
  `Peekable<IntoIter<Token>>` without a recursion budget; the mirror (`Front/Parser.lean`) gives every
  `loop { … }` / recursive call one unit of `fuel`, `tokens.length + 1` at the top, and running out is
  the pseudo error `FErr.fuel`.  The `Total*` files prove that the budget is never exhausted and never
  observed, for ARBITRARY token lists: every `f fuel ts` that takes a budget satisfies

      ts.length < fuel   (loops)   resp.   ts.length ≤ fuel   (wrappers that consume a token first)
      ⊢  Post₂ (f (fuel + 1) ts) (f fuel ts) (fun (_, rest) => rest.length ≤ ts.length)

  The length part makes the induction go through: each iteration consumes a token (through the
  primitives, whose posts are exact) before it recurses, so the remaining input stays strictly below
  the remaining budget.  A proof walks through the `do` block of its function once: `bind`/`bind₂` with
  the post of the call at the head, `ite` at an `if`, `pure`/`ok`/`error` at a leaf.
-/
namespace Asn1Verif.Front.Syn
open Except

/-- `r` is not the pseudo error `fuel`; a successful result satisfies `P` -/
def Post {α : Type} (r : FR α) (P : α → Prop) : Prop :=
  match r with
  | .ok a => P a
  | .error e => e ≠ .fuel

namespace Post
variable {α β : Type}

theorem ok {P : α → Prop} {a : α} (h : P a) : Post (.ok a : FR α) P := h
theorem pure {P : α → Prop} {a : α} (h : P a) : Post (Pure.pure a : FR α) P := h
theorem error {P : α → Prop} {e : FErr} (h : e ≠ .fuel := by decide) : Post (.error e : FR α) P := h

theorem bind {x : FR α} {f : α → FR β} {P : α → Prop} {Q : β → Prop}
    (hx : Post x P) (hf : ∀ a, P a → Post (f a) Q) : Post (x >>= f) Q := by
  cases x with
  | ok a => exact hf a hx
  | error e => exact hx

theorem bind₂ {γ : Type} {x : FR (α × γ)} {f : α × γ → FR β} {P : α × γ → Prop} {Q : β → Prop}
    (hx : Post x P) (hf : ∀ a c, P (a, c) → Post (f (a, c)) Q) : Post (x >>= f) Q :=
  hx.bind fun r => hf r.1 r.2

theorem ite {c : Prop} [Decidable c] {x y : FR α} {P : α → Prop}
    (ht : Post x P) (he : Post y P) : Post (if c then x else y) P := by
  split <;> assumption

theorem mono {r : FR α} {P Q : α → Prop} (h : Post r P) (hpq : ∀ a, P a → Q a) : Post r Q := by
  cases r with
  | ok a => exact hpq a h
  | error e => exact h

theorem ne_fuel {r : FR α} {P : α → Prop} (h : Post r P) : r ≠ .error .fuel := by
  intro hr; subst hr; exact h rfl

theorem of_ok {r : FR α} {P : α → Prop} {a : α} (h : Post r P) (hr : r = .ok a) : P a := by
  subst hr; exact h

theorem iff {r : FR α} {P : α → Prop} :
    Post r P ↔ r ≠ .error .fuel ∧ ∀ a, r = .ok a → P a := by
  constructor
  · intro h; exact ⟨h.ne_fuel, fun a hr => h.of_ok hr⟩
  · intro ⟨h1, h2⟩
    cases r with
    | ok a => exact h2 a rfl
    | error e => intro he; subst he; exact h1 rfl

end Post

/-- Stated of the runs of one function on the budgets `fuel + 1` and `fuel`: the extra unit is not
    needed, hence not observable. -/
def Post₂ {α : Type} (x y : FR α) (P : α → Prop) : Prop := x = y ∧ Post y P

theorem Post.same {α : Type} {x : FR α} {P : α → Prop} (h : Post x P) : Post₂ x x P := ⟨rfl, h⟩

namespace Post₂
variable {α β γ : Type}

theorem ok {P : α → Prop} {a : α} (h : P a) : Post₂ (.ok a : FR α) (.ok a) P := ⟨rfl, h⟩
theorem pure {P : α → Prop} {a : α} (h : P a) : Post₂ (Pure.pure a : FR α) (Pure.pure a) P :=
  ⟨rfl, h⟩
theorem error {P : α → Prop} {e : FErr} (h : e ≠ .fuel := by decide) :
    Post₂ (.error e : FR α) (.error e) P :=
  ⟨rfl, h⟩

theorem bind {x y : FR α} {f g : α → FR β} {P : α → Prop} {Q : β → Prop}
    (hx : Post₂ x y P) (hf : ∀ a, P a → Post₂ (f a) (g a) Q) : Post₂ (x >>= f) (y >>= g) Q := by
  obtain ⟨rfl, hx⟩ := hx
  cases x with
  | ok a => exact hf a hx
  | error e => exact ⟨rfl, hx⟩

theorem bind₂ {x y : FR (α × γ)} {f g : α × γ → FR β} {P : α × γ → Prop} {Q : β → Prop}
    (hx : Post₂ x y P) (hf : ∀ a c, P (a, c) → Post₂ (f (a, c)) (g (a, c)) Q) :
    Post₂ (x >>= f) (y >>= g) Q :=
  hx.bind fun r => hf r.1 r.2

theorem mono {x y : FR α} {P Q : α → Prop} (h : Post₂ x y P) (hpq : ∀ a, P a → Q a) :
    Post₂ x y Q :=
  ⟨h.1, h.2.mono hpq⟩

theorem post {x y : FR α} {P : α → Prop} (h : Post₂ x y P) : Post y P := h.2

theorem ite {c : Prop} [Decidable c] {x x' y y' : FR α} {P : α → Prop}
    (ht : Post₂ x y P) (he : Post₂ x' y' P) :
    Post₂ (if c then x else x') (if c then y else y') P := by
  split <;> assumption

end Post₂

theorem nextOrErr_post (ts : List Token) :
    Post (nextOrErr ts) (fun (_, r) => r.length + 1 = ts.length) := by
  cases ts with
  | nil => exact .error
  | cons t r => exact Post.ok rfl

theorem peekOrErr_post (ts : List Token) : Post (peekOrErr ts) (fun _ => True) := by
  cases ts with
  | nil => exact .error
  | cons t r => exact Post.ok trivial

theorem nextTextOrErr_post (ts : List Token) :
    Post (nextTextOrErr ts) (fun (_, r) => r.length + 1 = ts.length) := by
  cases ts with
  | nil => exact .error
  | cons t r =>
    cases t with
    | text s => exact Post.ok rfl
    | sep c => exact Post.error

theorem nextTextEqIC_post (kw : String) (ts : List Token) :
    Post (nextTextEqIC kw ts) (fun r => r.length + 1 = ts.length) := by
  cases ts with
  | nil => exact .error
  | cons t r => exact .ite (.ok rfl) .error

theorem nextSepEq_post (c : Char) (ts : List Token) :
    Post (nextSepEq c ts) (fun r => r.length + 1 = ts.length) := by
  cases ts with
  | nil => exact .error
  | cons t r => exact .ite (.ok rfl) .error

/-- records what a successful call consumed -/
@[elab_as_elim]
theorem nextIsSep_cases (c : Char) (ts : List Token) {motive : Option (List Token) → Prop}
    (some : ∀ r : List Token, r.length + 1 = ts.length → motive (some r)) (none : motive none) :
    motive (nextIsSep c ts) := by
  cases ts with
  | nil => exact none
  | cons t ts =>
    show motive (if t.eqSep c then .some ts else .none)
    split
    · exact some ts rfl
    · exact none

@[elab_as_elim]
theorem nextIsTextEqIC_cases (kw : String) (ts : List Token)
    {motive : Option (List Token) → Prop}
    (some : ∀ r : List Token, r.length + 1 = ts.length → motive (some r)) (none : motive none) :
    motive (nextIsTextEqIC kw ts) := by
  cases ts with
  | nil => exact none
  | cons t ts =>
    show motive (if t.eqTextIC kw then .some ts else .none)
    split
    · exact some ts rfl
    · exact none

theorem dots_post (n : Nat) (ts : List Token) :
    Post (dots n ts) (fun r => r.length + n = ts.length) := by
  induction n generalizing ts with
  | zero => exact Post.ok rfl
  | succ n ih =>
    unfold dots
    exact (nextSepEq_post '.' ts).bind fun ts1 h1 => (ih ts1).mono fun r hr => by omega

theorem loopCtrl_post (t : Token) : Post (loopCtrl t) (fun _ => True) :=
  .ite (.ok trivial) (.ite (.ok trivial) .error)

end Asn1Verif.Front.Syn
