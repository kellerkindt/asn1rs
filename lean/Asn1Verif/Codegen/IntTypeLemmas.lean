import Asn1Verif.Codegen.IntType
/-
  What the two cascades of `Codegen/IntType.lean` compute, for bounds the parser can deliver (`i64`).
  The thresholds stay symbolic (`Consts.U8_MAX` …); `omega` gets their values as hypotheses
  (`consts_facts`), so a changed constant in /repo changes what is provable.
-/
namespace Asn1Verif.Codegen.IntType
open Asn1Verif Asn1Verif.Consts

theorem consts_facts :
    I64_MAX = 9223372036854775807 ∧ I64_MIN = -9223372036854775808 ∧
    U8_MAX = 255 ∧ U16_MAX = 65535 ∧ U32_MAX = 4294967295 ∧
    I8_MAX = 127 ∧ I16_MAX = 32767 ∧ I32_MAX = 2147483647 := by decide

/-! ### casts -/

/-- `(min + 1).abs()` cannot overflow where the code evaluates it (`min < 0`, `min : i64`) -/
theorem abs_arg_in_i64 (mn : Int) (h : InI64 mn) (hneg : mn < 0) :
    InI64 (mn + 1) ∧ mn + 1 ≠ I64_MIN ∧ InI64 (iabs (mn + 1)) := by
  have hc := consts_facts
  simp only [InI64, iabs] at *
  omega

theorem asU_id (bits : Nat) (x : Int) (h0 : 0 ≤ x) (h1 : x < 2 ^ bits) : asU bits x = x := by
  unfold asU; exact Int.emod_eq_of_lt h0 h1

theorem asU_range (bits : Nat) (x : Int) : 0 ≤ asU bits x ∧ asU bits x < 2 ^ bits := by
  unfold asU
  have hp : (0 : Int) < 2 ^ bits := Int.pow_pos (by decide)
  exact ⟨Int.emod_nonneg _ (Int.ne_of_gt hp), Int.emod_lt_of_pos _ hp⟩

theorem asI_id (bits : Nat) (x : Int) (h0 : -(2 ^ bits) ≤ 2 * x) (h1 : 2 * x < 2 ^ bits) :
    asI bits x = x := by
  have hp : (0 : Int) < 2 ^ bits := Int.pow_pos (by decide)
  unfold asI
  by_cases hx : 0 ≤ x
  · rw [Int.emod_eq_of_lt hx (by omega), if_pos h1]
  · have h : x % 2 ^ bits = x + 2 ^ bits := by
      rw [← Int.add_mul_emod_self_left x (2 ^ bits) 1, Int.mul_one]
      exact Int.emod_eq_of_lt (by omega) (by omega)
    rw [h, if_neg (by omega)]
    omega

theorem asI_range (bits : Nat) (x : Int) :
    -(2 ^ bits) ≤ 2 * asI bits x ∧ 2 * asI bits x < 2 ^ bits := by
  unfold asI
  have hp : (0 : Int) < 2 ^ bits := Int.pow_pos (by decide)
  have h0 := Int.emod_nonneg x (Int.ne_of_gt hp)
  have h1 := Int.emod_lt_of_pos x hp
  split <;> omega

theorem asU64_eq (x : Int) (hx : InI64 x) :
    (0 ≤ x ∧ asU 64 x = x) ∨ (x < 0 ∧ asU 64 x = x + 2 ^ 64) := by
  have := consts_facts
  simp only [InI64, asU] at *
  omega

theorem asU64_max : asU 64 I64_MAX = I64_MAX := by decide

theorem asU64_le (x c : Int) (hx : InI64 x) (hc : c ≤ I64_MAX) : asU 64 x ≤ c ↔ 0 ≤ x ∧ x ≤ c := by
  have := consts_facts
  have := asU64_eq x hx
  simp only [InI64] at hx
  omega

/-- `(min + 1).abs().max(max) ≤ c` for a negative `min` -/
theorem amp_le (a b c : Int) (ha : a < 0) : Max.max (iabs (a + 1)) b ≤ c ↔ -c - 1 ≤ a ∧ b ≤ c := by
  simp only [iabs]
  omega

/-! ### the standard types -/

namespace RustInt

theorem holds_between {t : RustInt} {x y v : Int} (hx : t.holds x) (hy : t.holds y)
    (h1 : x ≤ v) (h2 : v ≤ y) : t.holds v :=
  ⟨Int.le_trans hx.1 h1, Int.le_trans h2 hy.2⟩

theorem i64_holds {x : Int} (h : InI64 x) : i64.holds x := by
  have := consts_facts
  simp only [InI64, holds, lo, hi] at *
  omega

theorem u64_holds {x : Int} (h0 : 0 ≤ x) (h : InI64 x) : u64.holds x := by
  have := consts_facts
  simp only [InI64, holds, lo, hi] at *
  omega

theorem bounds_of_bits_lt (t : RustInt) :
    8 ≤ t.bits ∧ t.bits ≤ 64 ∧
    (t.bits < 16 → -(2 ^ 7) ≤ t.lo ∧ t.hi < 2 ^ 8 ∧ (t.lo < 0 → t.hi < 2 ^ 7)) ∧
    (t.bits < 32 → -(2 ^ 15) ≤ t.lo ∧ t.hi < 2 ^ 16 ∧ (t.lo < 0 → t.hi < 2 ^ 15)) ∧
    (t.bits < 64 → -(2 ^ 31) ≤ t.lo ∧ t.hi < 2 ^ 32 ∧ (t.lo < 0 → t.hi < 2 ^ 31)) := by
  cases t <;> decide

theorem bits_of_holds_extreme {t : RustInt} {x : Int} (h : t.holds x) (hx : x = I64_MIN ∨ x = I64_MAX) :
    t.bits = 64 := by
  have := consts_facts
  have := t.bounds_of_bits_lt
  simp only [holds] at h
  omega

theorem not_holds_neg {t : RustInt} {v : Int} (hs : ¬ t.signed = true) (hv : v < 0) : ¬ t.holds v := by
  cases t <;> first | exact absurd rfl hs | exact fun h => absurd h.1 (Int.not_le.mpr hv)

theorem eq_of_bits64 {t : RustInt} (h : t.bits = 64) : t = if t.signed = true then .i64 else .u64 := by
  cases t <;> first | rfl | exact absurd h (by decide)

end RustInt

/-! ### both cascades: absent bounds -/

theorem cascade_false (min max : Option Int) : cascade min max false = fixedCascade min max := rfl

theorem cascade_true (min max : Option Int) : cascade min max true = extCascade min max := rfl

theorem cascade_first (min max : Option Int) (ext : Bool) (h : firstArm min max = true) :
    cascade min max ext = .u64 none none ext := by
  cases ext <;> exact if_pos h

theorem firstArm_iff (min max : Option Int) :
    firstArm min max = true ↔ min.getD 0 = 0 ∧ max.getD I64_MAX = I64_MAX := by
  cases min <;> cases max <;> simp [firstArm]

/-- the parser's widening (`(0..MAX)`, `(MIN..i64::MAX)` → no constraint) is repeated by the first
    arm of both cascades -/
theorem choose_eq_cascade (s e : Option Int) (ext : Bool) : choose s e ext = cascade s e ext := by
  unfold choose parseRange
  split
  · split
    · rw [cascade_first (some _) none ext (by subst_vars; rfl)]; cases ext <;> rfl
    · rfl
  · split
    · rw [cascade_first none (some _) ext (by subst_vars; decide)]; cases ext <;> rfl
    · rfl
  · rfl

theorem fixedCascade_getD (min max : Option Int) :
    fixedCascade min max = fixedCascade (some (min.getD 0)) (some (max.getD I64_MAX)) := by
  cases min <;> cases max <;> simp [fixedCascade, firstArm]

theorem fixedCascade_ext (min max : Option Int) : (fixedCascade min max).ext = false := by
  simp only [fixedCascade, apply_ite IntTy.ext]
  simp only [IntTy.ext, ite_self]

theorem fixedCascade_signed (min max : Option Int) :
    (fixedCascade min max).kind.signed = true ↔ min.getD 0 < 0 := by
  simp only [fixedCascade, apply_ite IntTy.kind, apply_ite RustInt.signed]
  simp only [IntTy.kind, RustInt.signed, ite_self, firstArm_iff, ge_iff_le]
  split
  · exact iff_of_false Bool.false_ne_true (by have := ‹_ ∧ _›.1; omega)
  · split
    · exact iff_of_false Bool.false_ne_true (Int.not_lt.mpr ‹_›)
    · exact iff_of_true rfl (Int.not_le.mp ‹_›)

/-! ### the extensible cascade -/

theorem extCascade_kind (min max : Option Int) :
    (extCascade min max).kind = if 0 ≤ min.getD 0 ∧ 0 ≤ max.getD 0 then .u64 else .i64 := by
  unfold extCascade
  split
  · obtain ⟨h1, h2⟩ := (firstArm_iff min max).mp ‹_›
    have := consts_facts
    rw [if_pos]; · rfl
    cases max <;> simp only [Option.getD] at * <;> omega
  · simp only [ge_iff_le]; split <;> rfl

theorem extCascade_ext (min max : Option Int) : (extCascade min max).ext = true := by
  unfold extCascade
  split
  · rfl
  · split <;> rfl

theorem extCascade_eq (min max : Option Int) (hmin : OptInI64 min) (hmax : OptInI64 max) :
    extCascade min max =
      if min.getD 0 = 0 ∧ max.getD I64_MAX = I64_MAX then .u64 none none true
      else if 0 ≤ min.getD 0 ∧ 0 ≤ max.getD 0 then .u64 min max true
      else .i64 (min.getD I64_MIN) (max.getD I64_MAX) true := by
  have hc := consts_facts
  have h : ∀ x : Option Int, OptInI64 x → 0 ≤ x.getD 0 → x.map (asU 64) = x := by
    intro x hx h0
    cases x with
    | none => rfl
    | some x => simp only [OptInI64, InI64, Option.getD] at *; rw [Option.map, asU_id 64 x h0 (by omega)]
  simp only [extCascade, firstArm_iff, ge_iff_le]
  split
  · rfl
  · split
    · rw [h min hmin (by omega), h max hmax (by omega)]
    · rfl

/-! ### the not extensible cascade -/

theorem fixedCascade_eq (a b : Int) (hb : InI64 b) : fixedCascade (some a) (some b) =
    if a = 0 ∧ b = I64_MAX then .u64 none none false
    else if 0 ≤ a then
      if 0 ≤ b ∧ b ≤ U8_MAX then .u8 (asU 8 a) (asU 8 b) false
      else if 0 ≤ b ∧ b ≤ U16_MAX then .u16 (asU 16 a) (asU 16 b) false
      else if 0 ≤ b ∧ b ≤ U32_MAX then .u32 (asU 32 a) (asU 32 b) false
      else .u64 (some (asU 64 a)) (some (asU 64 b)) false
    else
      if -I8_MAX - 1 ≤ a ∧ b ≤ I8_MAX then .i8 (asI 8 a) (asI 8 b) false
      else if -I16_MAX - 1 ≤ a ∧ b ≤ I16_MAX then .i16 (asI 16 a) (asI 16 b) false
      else if -I32_MAX - 1 ≤ a ∧ b ≤ I32_MAX then .i32 (asI 32 a) (asI 32 b) false
      else .i64 a b false := by
  simp only [fixedCascade, firstArm_iff, Option.getD, ge_iff_le,
    asU64_le b _ hb (by decide : U8_MAX ≤ I64_MAX), asU64_le b _ hb (by decide : U16_MAX ≤ I64_MAX),
    asU64_le b _ hb (by decide : U32_MAX ≤ I64_MAX)]
  by_cases ha : 0 ≤ a
  · simp only [ha, if_true]
  · simp only [ha, if_false, amp_le a b _ (Int.not_le.mp ha)]

/-- what `asn_fixed_integer_to_rust_type` can return for `i64` bounds.  `u64`: the lower end is an
    `i64`, hence `≤ I64_MAX`; the upper end is `max as u64`, which for an empty root `a > b` may be
    a negative `b`, hence only `< 2^64`. -/
def Canon : IntTy → Prop
  | .u8 a b e => e = false ∧ 0 ≤ a ∧ a ≤ U8_MAX ∧ 0 ≤ b ∧ b ≤ U8_MAX
  | .u16 a b e => e = false ∧ 0 ≤ a ∧ a ≤ U16_MAX ∧ U8_MAX < b ∧ b ≤ U16_MAX
  | .u32 a b e => e = false ∧ 0 ≤ a ∧ a ≤ U32_MAX ∧ U16_MAX < b ∧ b ≤ U32_MAX
  | .u64 (some a) (some b) e => e = false ∧ 0 ≤ a ∧ a ≤ I64_MAX ∧ U32_MAX < b ∧ b < 2 ^ 64 ∧ ¬ (a = 0 ∧ b = I64_MAX)
  | .u64 none none e => e = false
  | .u64 _ _ _ => False
  | .i8 a b e => e = false ∧ -I8_MAX - 1 ≤ a ∧ a < 0 ∧ -I8_MAX - 1 ≤ b ∧ b ≤ I8_MAX
  | .i16 a b e => e = false ∧ -I16_MAX - 1 ≤ a ∧ a < 0 ∧ -I16_MAX - 1 ≤ b ∧ b ≤ I16_MAX ∧ (a < -I8_MAX - 1 ∨ I8_MAX < b)
  | .i32 a b e => e = false ∧ -I32_MAX - 1 ≤ a ∧ a < 0 ∧ -I32_MAX - 1 ≤ b ∧ b ≤ I32_MAX ∧ (a < -I16_MAX - 1 ∨ I16_MAX < b)
  | .i64 a b e => e = false ∧ I64_MIN ≤ a ∧ a < 0 ∧ I64_MIN ≤ b ∧ b ≤ I64_MAX ∧ (a < -I32_MAX - 1 ∨ I32_MAX < b)

/-- canonical even for `a > b`, where the casts cut; for `a ≤ b` they are the identity -/
theorem fixedCascade_spec (a b : Int) (ha : InI64 a) (hb : InI64 b) :
    Canon (fixedCascade (some a) (some b)) ∧
    (a ≤ b → ¬ (a = 0 ∧ b = I64_MAX) → (fixedCascade (some a) (some b)).stored = (some a, some b)) := by
  have hc := consts_facts
  have hb' := hb
  rw [fixedCascade_eq a b hb]
  simp only [InI64] at ha hb
  by_cases h1 : a = 0 ∧ b = I64_MAX
  · rw [if_pos h1]; exact ⟨rfl, fun _ h => absurd h1 h⟩
  rw [if_neg h1]
  by_cases h2 : 0 ≤ a
  · rw [if_pos h2]
    by_cases h3 : 0 ≤ b ∧ b ≤ U8_MAX
    · rw [if_pos h3]
      have := asU_range 8 a; have eb := asU_id 8 b (by omega) (by omega)
      exact ⟨⟨rfl, by omega⟩, fun _ _ => by rw [IntTy.stored, eb, asU_id 8 a ‹_› (by omega)]⟩
    rw [if_neg h3]
    by_cases h4 : 0 ≤ b ∧ b ≤ U16_MAX
    · rw [if_pos h4]
      have := asU_range 16 a; have eb := asU_id 16 b (by omega) (by omega)
      exact ⟨⟨rfl, by omega⟩, fun _ _ => by rw [IntTy.stored, eb, asU_id 16 a ‹_› (by omega)]⟩
    rw [if_neg h4]
    by_cases h5 : 0 ≤ b ∧ b ≤ U32_MAX
    · rw [if_pos h5]
      have := asU_range 32 a; have eb := asU_id 32 b (by omega) (by omega)
      exact ⟨⟨rfl, by omega⟩, fun _ _ => by rw [IntTy.stored, eb, asU_id 32 a ‹_› (by omega)]⟩
    rw [if_neg h5]
    have ea := asU_id 64 a ‹_› (by omega); have := asU64_eq b hb'
    exact ⟨⟨rfl, by omega⟩, fun _ _ => by rw [IntTy.stored, ea, asU_id 64 b (by omega) (by omega)]⟩
  rw [if_neg h2]
  by_cases h3 : -I8_MAX - 1 ≤ a ∧ b ≤ I8_MAX
  · rw [if_pos h3]
    have ea := asI_id 8 a (by omega) (by omega); have := asI_range 8 b
    exact ⟨⟨rfl, by omega⟩, fun _ _ => by rw [IntTy.stored, ea, asI_id 8 b (by omega) (by omega)]⟩
  rw [if_neg h3]
  by_cases h4 : -I16_MAX - 1 ≤ a ∧ b ≤ I16_MAX
  · rw [if_pos h4]
    have ea := asI_id 16 a (by omega) (by omega); have := asI_range 16 b
    have : I8_MAX < b → asI 16 b = b := fun h => asI_id 16 b (by omega) (by omega)
    exact ⟨⟨rfl, by omega⟩, fun _ _ => by rw [IntTy.stored, ea, asI_id 16 b (by omega) (by omega)]⟩
  rw [if_neg h4]
  by_cases h5 : -I32_MAX - 1 ≤ a ∧ b ≤ I32_MAX
  · rw [if_pos h5]
    have ea := asI_id 32 a (by omega) (by omega); have := asI_range 32 b
    have : I16_MAX < b → asI 32 b = b := fun h => asI_id 32 b (by omega) (by omega)
    exact ⟨⟨rfl, by omega⟩, fun _ _ => by rw [IntTy.stored, ea, asI_id 32 b (by omega) (by omega)]⟩
  rw [if_neg h5]
  exact ⟨⟨rfl, by omega⟩, fun _ _ => rfl⟩

theorem optInI64_getD {x : Option Int} (h : OptInI64 x) {d : Int} (hd : InI64 d) : InI64 (x.getD d) := by
  cases x
  · exact hd
  · exact h

theorem inI64_zero : InI64 0 := by decide
theorem inI64_max : InI64 I64_MAX := by decide

theorem canon_fixedCascade (lo hi : Option Int) (hl : OptInI64 lo) (hh : OptInI64 hi) :
    Canon (fixedCascade lo hi) := by
  rw [fixedCascade_getD]
  exact (fixedCascade_spec _ _ (optInI64_getD hl inI64_zero) (optInI64_getD hh inI64_max)).1

theorem Canon.kind_spec {t : IntTy} {a b : Int} (h : Canon t) (hs : t.stored = (some a, some b)) :
    (t.kind.signed = true ↔ a < 0) ∧ t.kind.holds a ∧ t.kind.holds b ∧
    ∀ t' : RustInt, t'.holds a → t'.holds b → t.kind.bits ≤ t'.bits := by
  have hc := consts_facts
  have h3 : (t.kind.signed = true ↔ a < 0) ∧ t.kind.holds a ∧ t.kind.holds b := by
    cases t <;> cases hs <;> simp only [Canon] at h <;>
      simp only [IntTy.kind, RustInt.signed, RustInt.holds, RustInt.lo, RustInt.hi, Bool.false_eq_true,
        false_iff, true_iff, Int.not_lt] <;> omega
  refine ⟨h3.1, h3.2.1, h3.2.2, fun t' h1 h2 => ?_⟩
  -- a type with fewer bits lies inside the next narrower types, which `Canon` excludes
  have hn := t'.bounds_of_bits_lt
  simp only [RustInt.holds] at h1 h2
  generalize t'.bits = n at hn ⊢
  cases t <;> cases hs <;> simp only [Canon] at h <;> simp only [IntTy.kind, RustInt.bits] <;> omega

/-! ### the chosen type, by its kind -/

/-- not extensible, `a ≤ b`: the narrowest standard type, of either signedness, that holds both -/
theorem fixed_kind_spec (a b : Int) (ha : InI64 a) (hb : InI64 b) (hab : a ≤ b) :
    ((fixedCascade (some a) (some b)).kind.signed = true ↔ a < 0) ∧
    (fixedCascade (some a) (some b)).kind.holds a ∧ (fixedCascade (some a) (some b)).kind.holds b ∧
    ∀ t' : RustInt, t'.holds a → t'.holds b → (fixedCascade (some a) (some b)).kind.bits ≤ t'.bits := by
  by_cases h : a = 0 ∧ b = I64_MAX
  · rw [fixedCascade_eq a b hb, if_pos h]
    obtain ⟨rfl, rfl⟩ := h
    exact ⟨by decide, RustInt.u64_holds (Int.le_refl 0) ha, RustInt.u64_holds hab hb,
      fun t' _ h2 => Nat.le_of_eq (RustInt.bits_of_holds_extreme h2 (Or.inr rfl)).symm⟩
  · have hs := fixedCascade_spec a b ha hb
    exact hs.1.kind_spec (hs.2 hab h)

theorem ext_kind_spec (a b : Int) (hab : a ≤ b) :
    (extCascade (some a) (some b)).kind = if a < 0 then .i64 else .u64 := by
  rw [extCascade_kind]
  simp only [Option.getD]
  split <;> split <;> first | rfl | omega

theorem cascade_kind_spec (a b : Int) (ext : Bool) (ha : InI64 a) (hb : InI64 b) (hab : a ≤ b) :
    ((cascade (some a) (some b) ext).kind.signed = true ↔ a < 0) ∧
    (cascade (some a) (some b) ext).kind.holds a ∧ (cascade (some a) (some b) ext).kind.holds b := by
  cases ext
  · have h := fixed_kind_spec a b ha hb hab
    exact ⟨h.1, h.2.1, h.2.2.1⟩
  · rw [cascade_true, ext_kind_spec a b hab]
    split
    · exact ⟨iff_of_true rfl ‹_›, RustInt.i64_holds ha, RustInt.i64_holds hb⟩
    · have h0 := Int.not_lt.mp ‹_›
      exact ⟨iff_of_false (by decide) ‹_›, RustInt.u64_holds h0 ha, RustInt.u64_holds (Int.le_trans h0 hab) hb⟩

theorem cascade_kind_getD (min max : Option Int) (ext : Bool) :
    (cascade min max ext).kind = (cascade (some (min.getD 0)) (some (max.getD I64_MAX)) ext).kind := by
  cases ext
  · rw [cascade_false, fixedCascade_getD, cascade_false]
  · have := consts_facts
    rw [cascade_true, cascade_true, extCascade_kind, extCascade_kind]
    cases max <;> simp only [Option.getD_some, Option.getD_none] <;> split <;> split <;> first | rfl | omega

theorem cascade_kind_open (a : Int) (ext : Bool) (ha : InI64 a) :
    (cascade (some a) none ext).kind = if a < 0 then .i64 else .u64 := by
  obtain ⟨h1, _, h3⟩ := cascade_kind_spec a I64_MAX ext ha inI64_max ha.2
  rw [cascade_kind_getD]
  show (cascade (some a) (some I64_MAX) ext).kind = _
  rw [RustInt.eq_of_bits64 (RustInt.bits_of_holds_extreme h3 (Or.inr rfl))]
  simp only [h1]

/-! ### the chosen type, by its stored range -/

theorem IntTy.fnMin_eq (t : IntTy) : t.fnMin = t.constMin.getD 0 := by
  cases t <;> rfl

theorem IntTy.fnMax_eq (t : IntTy) : t.fnMax = t.constMax.getD I64_MAX := by
  cases t <;> first | rfl | exact congrArg _ asU64_max

theorem IntTy.intoAsn_of_stored {t : IntTy} {a b : Int} (h : t.stored = (some a, some b))
    (ha : InI64 a) (hb : InI64 b) : t.intoAsn = (some a, some b, t.ext) := by
  have := consts_facts
  simp only [InI64] at ha hb
  cases t <;> cases h <;> try rfl
  simp only [IntTy.intoAsn, Option.map, IntTy.ext, asI_id 64 a (by omega) (by omega), asI_id 64 b (by omega) (by omega)]

theorem cascade_ext (min max : Option Int) (ext : Bool) : (cascade min max ext).ext = ext := by
  cases ext
  · exact fixedCascade_ext min max
  · exact extCascade_ext min max

theorem firstArm_iff_shape (min max : Option Int) :
    (min.getD 0 = 0 ∧ max.getD I64_MAX = I64_MAX) ↔
      (min = none ∨ min = some 0) ∧ (max = none ∨ max = some I64_MAX) := by
  cases min <;> cases max <;> simp

theorem cascade_stored_closed (a b : Int) (ext : Bool) (ha : InI64 a) (hb : InI64 b) (hab : a ≤ b)
    (hne : ¬ (a = 0 ∧ b = I64_MAX)) : (cascade (some a) (some b) ext).stored = (some a, some b) := by
  cases ext
  · exact (fixedCascade_spec a b ha hb).2 hab hne
  · rw [cascade_true, extCascade_eq (some a) (some b) ha hb]
    simp only [Option.getD_some, hne, if_false]
    split <;> rfl

/-- `hle` fails only for `(MIN..negative)` -/
theorem cascade_stored (min max : Option Int) (ext : Bool) (hmin : OptInI64 min) (hmax : OptInI64 max)
    (hle : ext = false → min.getD 0 ≤ max.getD I64_MAX) :
    ((min = none ∨ min = some 0) ∧ (max = none ∨ max = some I64_MAX) ∧
      cascade min max ext = .u64 none none ext) ∨
    ((∀ a, min = some a → (cascade min max ext).stored.1 = some a) ∧
      (∀ b, max = some b → (cascade min max ext).stored.2 = some b)) := by
  by_cases h1 : min.getD 0 = 0 ∧ max.getD I64_MAX = I64_MAX
  · exact Or.inl ⟨((firstArm_iff_shape min max).mp h1).1, ((firstArm_iff_shape min max).mp h1).2,
      cascade_first min max ext ((firstArm_iff min max).mpr h1)⟩
  · refine Or.inr ?_
    cases ext
    · -- an absent bound is stored as its default
      rw [cascade_false, fixedCascade_getD,
        (fixedCascade_spec _ _ (optInI64_getD hmin inI64_zero) (optInI64_getD hmax inI64_max)).2 (hle rfl) h1]
      exact ⟨fun a h => by subst h; rfl, fun b h => by subst h; rfl⟩
    · rw [cascade_true, extCascade_eq min max hmin hmax, if_neg h1]
      split <;> exact ⟨fun a h => by subst h; rfl, fun b h => by subst h; rfl⟩

theorem Canon.cases {t : IntTy} (h : Canon t) :
    t = .u64 none none false ∨ ∃ a b, t.stored = (some a, some b) := by
  cases t with
  | u64 x y e =>
    cases x <;> cases y <;> simp only [Canon] at h
    · exact Or.inl (by rw [h])
    · exact Or.inr ⟨_, _, rfl⟩
  | _ => exact Or.inr ⟨_, _, rfl⟩

theorem cascade_accessors_in_type (min max : Option Int) (ext : Bool) (hmin : OptInI64 min)
    (hmax : OptInI64 max) :
    (cascade min max ext).kind.holds (cascade min max ext).fnMin ∧
    (cascade min max ext).kind.holds (cascade min max ext).fnMax := by
  cases ext
  · have hc := canon_fixedCascade min max hmin hmax
    rcases hc.cases with h | ⟨a, b, hs⟩
    · rw [cascade_false, h]; decide
    · obtain ⟨_, h1, h2, _⟩ := hc.kind_spec hs
      rw [cascade_false, IntTy.fnMin_eq, IntTy.fnMax_eq, IntTy.constMin, IntTy.constMax, hs]
      exact ⟨h1, h2⟩
  · rw [cascade_true, extCascade_eq min max hmin hmax]
    split
    · decide
    split
    · refine ⟨RustInt.u64_holds ‹_ ∧ _›.1 (optInI64_getD hmin inI64_zero), ?_⟩
      cases max with
      | none => exact (by decide : RustInt.u64.holds (asU 64 I64_MAX))
      | some b => exact RustInt.u64_holds ‹_ ∧ _›.2 hmax
    · exact ⟨RustInt.i64_holds (optInI64_getD hmin (by decide)),
        RustInt.i64_holds (optInI64_getD hmax inI64_max)⟩

end Asn1Verif.Codegen.IntType
