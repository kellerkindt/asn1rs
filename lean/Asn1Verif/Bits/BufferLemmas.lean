import Asn1Verif.Bits.Buffer
import Asn1Verif.Bits.SliceLemmas
/-
  Representation invariants of `BitBuffer` and `BitsView`, and the abstraction `abs : BitBuffer → List Bool`
  (the first `write_position` bits).  Every write is reduced to an equation for the state it returns, in
  terms of `copyLoop`; what that does to the bits, as a list, is `CopySpec.bitsOf_eq`.
-/
namespace Asn1Verif.Bits
open Asn1Verif Outcome

def bitsOf (bs : List Byte) (off len : Nat) : List Bool :=
  (List.range len).map (fun i => getBit bs (off + i))

@[simp] theorem length_bitsOf (bs : List Byte) (off len : Nat) : (bitsOf bs off len).length = len := by
  simp [bitsOf]

theorem getElem_bitsOf (bs : List Byte) (off len i : Nat) (h : i < (bitsOf bs off len).length) :
    (bitsOf bs off len)[i] = getBit bs (off + i) := by
  simp [bitsOf]

theorem bitsOf_append (bs : List Byte) (off a b : Nat) :
    bitsOf bs off (a + b) = bitsOf bs off a ++ bitsOf bs (off + a) b := by
  simp only [bitsOf, List.range_add, List.map_append, List.map_map, Function.comp_def, Nat.add_assoc]

theorem bitsOf_congr (a b : List Byte) (oa ob len : Nat)
    (h : ∀ i, i < len → getBit a (oa + i) = getBit b (ob + i)) : bitsOf a oa len = bitsOf b ob len :=
  List.map_congr_left fun i hi => h i (List.mem_range.1 hi)

theorem bitsOf_take (bs : List Byte) (off : Nat) {k n : Nat} (h : k ≤ n) :
    (bitsOf bs off n).take k = bitsOf bs off k := by
  obtain ⟨m, rfl⟩ := Nat.exists_eq_add_of_le h
  rw [bitsOf_append, List.take_left' (length_bitsOf ..)]

theorem bitsOf_drop (bs : List Byte) (off : Nat) {k n : Nat} (h : k ≤ n) :
    (bitsOf bs off n).drop k = bitsOf bs (off + k) (n - k) := by
  obtain ⟨m, rfl⟩ := Nat.exists_eq_add_of_le h
  rw [bitsOf_append, List.drop_left' (length_bitsOf ..), Nat.add_sub_cancel_left]

theorem CopySpec.bitsOf_window {src sp dst dp len dst'} (h : CopySpec src sp dst dp len dst') :
    bitsOf dst' dp len = bitsOf src sp len :=
  bitsOf_congr _ _ _ _ _ fun i hi => by
    rw [h.2, if_pos ⟨Nat.le_add_right .., Nat.add_lt_add_left hi _⟩, Nat.add_sub_cancel_left]

theorem CopySpec.bitsOf_disjoint {src sp dst dp len dst'} (h : CopySpec src sp dst dp len dst')
    (o k : Nat) (hd : o + k ≤ dp ∨ dp + len ≤ o) : bitsOf dst' o k = bitsOf dst o k :=
  bitsOf_congr _ _ _ _ _ fun i hi => by rw [h.2, if_neg (by omega)]

/-- on bit lists a copy is a splice -/
theorem CopySpec.bitsOf_eq {src sp dst dp len dst'} (h : CopySpec src sp dst dp len dst') {n : Nat}
    (hn : dp + len ≤ n) :
    bitsOf dst' 0 n =
      (bitsOf dst 0 n).take dp ++ bitsOf src sp len ++ (bitsOf dst 0 n).drop (dp + len) := by
  have e : n = dp + len + (n - (dp + len)) := by omega
  rw [bitsOf_take _ _ (by omega), bitsOf_drop _ _ hn]
  conv => lhs; rw [e, bitsOf_append, bitsOf_append]
  simp only [Nat.zero_add]
  rw [h.bitsOf_window, h.bitsOf_disjoint 0 dp (.inl (Nat.le_of_eq (Nat.zero_add _))),
    h.bitsOf_disjoint (dp + len) _ (.inr (Nat.le_refl _))]

theorem bitsOf_bit (x : Bool) : bitsOf [if x then 0x80#8 else 0#8] 0 1 = [x] := by
  cases x <;> rfl

theorem take_bit_drop (l : List Bool) (p : Nat) (x : Bool) (hp : p < l.length) :
    l.take p ++ bitsOf [if x then 0x80#8 else 0#8] 0 1 ++ l.drop (p + 1) = l.set p x := by
  rw [bitsOf_bit, List.set_eq_take_append_cons_drop, if_pos hp, List.append_assoc]; rfl

namespace BitBuffer

def abs (b : BitBuffer) : List Bool := bitsOf b.buffer 0 b.wp

/-- exactly `⌈bit_len/8⌉` bytes, zero padding -/
def Inv (b : BitBuffer) : Prop :=
  b.buffer.length = (b.wp + 7) / 8 ∧ ∀ j, b.wp ≤ j → getBit b.buffer j = false

@[simp] theorem length_abs (b : BitBuffer) : b.abs.length = b.wp := length_bitsOf ..

theorem wp_of_abs {b b' : BitBuffer} {l : List Bool} (h : b'.abs = b.abs ++ l) :
    b'.wp = b.wp + l.length := by
  simpa using congrArg List.length h

theorem bitsOf_of_abs {b b' : BitBuffer} {l : List Bool} (h : b'.abs = b.abs ++ l) :
    bitsOf b'.buffer b.wp l.length = l := by
  have := congrArg (List.drop b.wp) h
  rwa [abs, bitsOf_drop _ _ (wp_of_abs h ▸ Nat.le_add_right ..), wp_of_abs h,
    Nat.add_sub_cancel_left, Nat.zero_add, List.drop_left' b.length_abs] at this

theorem inv_default : Inv {} :=
  ⟨rfl, fun _ _ => getBit_of_ge _ _ (Nat.zero_le _)⟩

theorem inv_of_lt {b : BitBuffer} (h1 : b.buffer.length = (b.wp + 7) / 8)
    (h2 : ∀ j, j < b.buffer.length * 8 → b.wp ≤ j → getBit b.buffer j = false) : b.Inv :=
  ⟨h1, fun j hj =>
    if h : j < b.buffer.length * 8 then h2 j h hj else getBit_of_ge _ _ (Nat.le_of_not_lt h)⟩

@[simp] theorem ensure_wp (b : BitBuffer) (n : Nat) : (b.ensure n).wp = b.wp := by
  unfold ensure; split <;> rfl

@[simp] theorem ensure_rp (b : BitBuffer) (n : Nat) : (b.ensure n).rp = b.rp := by
  unfold ensure; split <;> rfl

theorem getBit_ensure (b : BitBuffer) (n j : Nat) :
    getBit (b.ensure n).buffer j = getBit b.buffer j := by
  unfold ensure; split
  · exact getBit_append_replicate ..
  · rfl

theorem length_ensure (b : BitBuffer) (n : Nat) :
    (b.ensure n).buffer.length = max b.buffer.length ((b.wp + n + 7) / 8) := by
  unfold ensure; rw [byte_len_eq]; split
  · simp only [List.length_append, List.length_replicate]; omega
  · omega

theorem ensure_fits (b : BitBuffer) (n : Nat) : b.wp + n ≤ (b.ensure n).buffer.length * 8 := by
  rw [length_ensure]; omega

theorem ensure_of_fits (b : BitBuffer) (n : Nat) (hfit : b.wp + n ≤ b.buffer.length * 8) :
    b.ensure n = b := by
  unfold ensure
  rw [byte_len_eq]
  split
  · have : (b.wp + n + 7) / 8 - b.buffer.length = 0 := by omega
    simp [this]
  · rfl

theorem writeBitsWithOffsetLen_eq (b : BitBuffer) (src : List Byte) (off len : Nat)
    (hs : off + len ≤ src.length * 8) :
    b.writeBitsWithOffsetLen src off len =
      ok { buffer := copyLoop src off (b.ensure len).buffer b.wp len, wp := b.wp + len,
           rp := b.rp } := by
  unfold writeBitsWithOffsetLen sliceWriteBitsWithOffsetLen failIf
  rw [byte_len_eq, decide_eq_false (Nat.not_lt.2 hs)]
  simp only [Bool.false_eq_true, ite_false, Outcome.bind_ok, ensure_wp, ensure_rp,
    bitStringCopyBulked_ok (ensure_fits b len) hs, Outcome.pure_def]

theorem writeBitsWithOffsetLen_err (b : BitBuffer) (src : List Byte) (off len : Nat)
    (hs : src.length * 8 < off + len) :
    b.writeBitsWithOffsetLen src off len = err .endOfStream := by
  unfold writeBitsWithOffsetLen failIf
  rw [byte_len_eq, decide_eq_true hs]; rfl

theorem writeBit_eq_writeBits (b : BitBuffer) (x : Bool) :
    b.writeBit x = b.writeBitsWithOffsetLen [if x then 0x80#8 else 0#8] 0 1 := by
  rw [writeBitsWithOffsetLen_eq _ _ _ _ (show 1 ≤ 8 by decide)]
  unfold writeBit sliceWriteBit
  rw [byte_len_eq]
  simp only [ensure_wp, ensure_rp, if_neg (Nat.not_lt.2 (ensure_fits b 1)), Outcome.bind_ok,
    Outcome.pure_def]
  cases x <;> rfl

theorem writeBitsWithOffsetLen_abs (b : BitBuffer) (src : List Byte) (off len : Nat) (h : b.Inv)
    (hs : off + len ≤ src.length * 8) :
    ∃ b', b.writeBitsWithOffsetLen src off len = ok b' ∧ b'.Inv ∧
      b'.abs = b.abs ++ bitsOf src off len ∧ b'.rp = b.rp := by
  have hc := copyLoop_spec (src := src) (sp := off) (ensure_fits b len)
  refine ⟨_, writeBitsWithOffsetLen_eq b src off len hs, ⟨?_, fun j hj => ?_⟩, ?_, rfl⟩
  · show _ = (b.wp + len + 7) / 8
    rw [hc.1, length_ensure, h.1]; omega
  · rw [hc.2, if_neg (fun c => Nat.not_le.2 c.2 hj), getBit_ensure]
    exact h.2 j (Nat.le_trans (Nat.le_add_right ..) hj)
  · unfold abs
    rw [bitsOf_append, Nat.zero_add, hc.bitsOf_window,
      hc.bitsOf_disjoint 0 b.wp (.inl (Nat.le_of_eq (Nat.zero_add _)))]
    exact congrArg (· ++ _) (bitsOf_congr _ _ _ _ _ fun i _ => getBit_ensure ..)

theorem writeBit_abs (b : BitBuffer) (x : Bool) (h : b.Inv) :
    ∃ b', b.writeBit x = ok b' ∧ b'.Inv ∧ b'.abs = b.abs ++ [x] ∧ b'.rp = b.rp := by
  rw [writeBit_eq_writeBits, ← bitsOf_bit x]
  exact writeBitsWithOffsetLen_abs b _ 0 1 h (show 1 ≤ 8 by decide)

theorem atPos_writeBits_eq (b : BitBuffer) (p : Nat) (src : List Byte) (off len : Nat)
    (hs : off + len ≤ src.length * 8) (hp : p + len ≤ b.buffer.length * 8) :
    b.atPos p (fun b => b.writeBitsWithOffsetLen src off len) =
      ok { b with buffer := copyLoop src off b.buffer p len } := by
  unfold atPos Outcome.assert
  rw [decide_eq_true (by omega : p ≤ b.buffer.length * 8)]
  simp only [ite_true, Outcome.bind_ok, writeBitsWithOffsetLen_eq _ _ _ _ hs,
    ensure_of_fits { b with wp := p } len hp, Outcome.pure_def]

theorem patchBit_eq_atPos (b : BitBuffer) (p : Nat) (x : Bool) :
    b.patchBit p x = b.atPos p (fun b => b.writeBitsWithOffsetLen [if x then 0x80#8 else 0#8] 0 1) := by
  unfold patchBit atPos
  simp only [writeBit_eq_writeBits]

theorem readBit_spec (b : BitBuffer) (h : b.wp ≤ b.buffer.length * 8) :
    b.readBit = if b.rp < b.wp then ok (getBit b.buffer b.rp, { b with rp := b.rp + 1 })
      else err .endOfStream := by
  unfold readBit
  split
  · rw [sliceReadBit_eq, if_pos (by omega)]; rfl
  · rfl

theorem readBitsWithOffsetLen_ok (b : BitBuffer) (dst : List Byte) (off len : Nat)
    (h : b.wp ≤ b.buffer.length * 8) (hr : b.rp + len ≤ b.wp) (hd : off + len ≤ dst.length * 8) :
    ∃ dst', b.readBitsWithOffsetLen dst off len = ok (dst', { b with rp := b.rp + len }) ∧
      CopySpec b.buffer b.rp dst off len dst' := by
  unfold readBitsWithOffsetLen ensureCanRead failIf sliceReadBitsWithOffsetLen
  rw [decide_eq_false (by omega), bitStringCopyBulked_ok hd (by omega)]
  exact ⟨_, rfl, copyLoop_spec hd⟩

theorem readBitsWithOffsetLen_eos (b : BitBuffer) (dst : List Byte) (off len : Nat)
    (hrp : b.rp ≤ b.wp) (hr : b.wp < b.rp + len) :
    b.readBitsWithOffsetLen dst off len = err .endOfStream := by
  unfold readBitsWithOffsetLen ensureCanRead failIf
  rw [decide_eq_true (by omega)]; rfl

end BitBuffer

namespace BitsView

/-- `len ≤ 8·|slice|` (what `From<(&[u8], usize)>` debug-asserts) and `pos ≤ len` -/
def Inv (b : BitsView) : Prop := b.len ≤ b.slice.length * 8 ∧ b.pos ≤ b.len

theorem readBit_spec (b : BitsView) (h : b.Inv) :
    b.readBit = if b.pos < b.len then ok (getBit b.slice b.pos, { b with pos := b.pos + 1 })
      else err .endOfStream := by
  unfold readBit
  split
  · rw [sliceReadBit_eq, if_pos (by have := h.1; omega)]; rfl
  · rfl

theorem readBitsWithOffsetLen_ok (b : BitsView) (dst : List Byte) (off len : Nat)
    (h : b.Inv) (hr : b.pos + len ≤ b.len) (hd : off + len ≤ dst.length * 8) :
    ∃ dst', b.readBitsWithOffsetLen dst off len = ok (dst', { b with pos := b.pos + len }) ∧
      CopySpec b.slice b.pos dst off len dst' := by
  unfold readBitsWithOffsetLen ensureCanRead failIf sliceReadBitsWithOffsetLen
  rw [decide_eq_false (by have := h.2; omega), bitStringCopyBulked_ok hd (by have := h.1; omega)]
  exact ⟨_, rfl, copyLoop_spec hd⟩

theorem readBitsWithOffsetLen_eos (b : BitsView) (dst : List Byte) (off len : Nat)
    (hrp : b.pos ≤ b.len) (hr : b.len < b.pos + len) :
    b.readBitsWithOffsetLen dst off len = err .endOfStream := by
  unfold readBitsWithOffsetLen ensureCanRead failIf
  rw [decide_eq_true (by omega)]; rfl

end BitsView

end Asn1Verif.Bits
