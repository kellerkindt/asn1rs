import Asn1Verif.Front.ResolveScopeLemmas
/-
  C12 — Value references and imports resolve exactly like the literals they name.

  Model: `Front/Resolve.lean` (mirror of `ResolveScope::{value_reference, definition,
  model_with_imported_item, try_resolve}`, the four `Resolver` impls, `Asn/Type/Size/Integer/
  ComponentTypeList/Choice::try_resolve`, `MultiModuleResolver::try_resolve_all`).
  Vocabulary in `Front/ResolveSubst.lean` (literal variant `substTy`/`substModule`, side
  conditions), lemmas in `Front/ResolveLemmas.lean` (one scope), `Front/ResolveChaseLemmas.lean`
  (the import chase), `Front/ResolveScopeLemmas.lean` (scopes that resolve alike).

  What is proved (all without bound on nesting, number of items or modules):
  * `subst_*`: in any scope, a value reference used in an INTEGER range (`subst_Integer`), a SIZE
    constraint (`subst_Size`) or after DEFAULT (`subst_Default`) resolves to the same thing as
    the literal it names; lifted to every nested type (`subst_Type`) and to whole modules
    (`subst`): the module with references and its literal variant resolve to the same
    `Model<Asn<Resolved>>`, for every scope of loaded sibling modules.  The table `σ` may cover
    any subset of the names.  Staging: one module without imports (`subst_single_module`), then
    names found through imports — by module name (`import_by_name`), by object identifier
    (`import_by_oid`), through any chain (the table only has to agree with what the scope finds:
    `Agrees`, which `agrees_sigmaOf` provides for the scope's own table).
  * `load_order`: permuting the list of loaded modules does not change the result of any module,
    provided no import matches two loaded modules (`AllUnambiguous`).  Without that proviso the
    statement is false for the code as it is: `load_order_needs_unambiguous`.
  * `unresolved_*`, `illtyped_*`: a name with no definition in reach ⇒ `FailedToResolveReference`;
    a name whose value is not an integer where an integer is needed ⇒ `FailedToParseLiteral`;
    `resolved_*_sound`: a successfully resolved bound is the literal itself or the integer found
    under the name — never anything else.
  * `cyclic_import_rejected`: the import chase follows at most `scope.len()` imports (repaired
    code; before, it had no bound and overflowed the stack): a name that no loaded module
    defines is not found however the imports are wired, cycles included, and its use is
    `FailedToResolveReference` (`cyclic_import_self`, `cyclic_import_pair`: the two witnesses of
    the former finding, evaluated).
  * `size_negative_rejected`: a *negative* referenced value used as SIZE bound is refused with
    `FailedToResolveReference` (repaired code: `usize::try_from`; before, `as usize` wrapped it
    to 2^64-1), which is also what the literal text `SIZE(-1)` gets (`-1` does not parse as a
    number and is looked up as a name).  `resolved_Size_sound`: a resolved SIZE bound is the
    literal or the non-negative integer found under the name, never anything else.

  Side condition of `subst_Type` and what follows from it (no witness here shows that the
  statement fails without it):
  * DEFAULT names are looked up among the variants of a referenced ENUMERATED type first, so a
    table name must not clash with such a variant (`SafeTy`; the names are "fresh").
  `substSizeAtom` leaves a reference to a negative value alone (it has no literal form); both
  sides of `subst_Size` are then the same refusal.

  `subst` keeps the scope `S` of siblings fixed; `subst_all` is the statement for
  `MultiModuleResolver::try_resolve_all` itself: *every* loaded module replaced by its literal
  variant (each with its own table) — the list of resolved models is the same.  Together with
  `load_order` this is the property's quantifier "for all schemas, all subsets of literals, same
  or sibling module with/without OID, all load orders".

  The import chase: `chase_total` / `chase_total_definition` — it comes back for EVERY module,
  scope and name (no acyclicity hypothesis; the full statement `ResolverTotal` of C14).
  `chase_bound_never_observable` / `chase_bound_never_observable_definition` — the bound of
  `scope.len()` hops is not observable, for EVERY module, scope and name (no hypothesis): every
  budget ≥ `chaseFuel scope` gives the answer the repaired code gives.  The pigeonhole step is
  proved (`Front/ResolveChaseLemmas.lean`): a chase that wants more than `scope.len()` hops has
  stood in `scope.len() + 1` modules of `scope`, so in some module twice, so it comes back to that
  module for ever and finds nothing with any budget.  The bound is also sharp
  (`chase_bound_sharp`: one hop fewer loses a value that is there).
  `chase_bound_not_observable` — the same under an acyclicity hypothesis (a rank ≤ `scope.length`
  decreases along every step), which the proof does not use.
-/
namespace Asn1Verif.Props.C12
open Asn1Verif Asn1Verif.Front.Syn

/-! ### a reference resolves like the literal it names -/

/-- INTEGER ranges -/
theorem subst_Integer (sc : Scope) (σ : Sigma) (ha : Agrees sc σ) (r : Range URange) :
    sc.resolveRange (substRange σ r) = sc.resolveRange r :=
  resolveRange_subst sc σ ha r

/-- SIZE constraints (including `reconsider_constraints` afterwards) -/
theorem subst_Size (sc : Scope) (σ : Sigma) (ha : Agrees sc σ) (s : Size USz) :
    sc.resolveSize (substSize σ s) = sc.resolveSize s :=
  resolveSize_subst sc σ ha s

/-- DEFAULT values on a component of (resolved) type `ty`, written `uty` (the side condition
    `DefaultOk` speaks of the type as written; `hty`: where `ty` is a type reference, `uty` is a
    reference to the same name) -/
theorem subst_Default (sc : Scope) (σ : Sigma) (ha : Agrees sc σ) (ty : RTy) (uty : UTy)
    (hty : ∀ r tag, ty = .typeReference r tag → ∃ tag', uty = .typeReference r tag')
    (d : UConst) (hs : DefaultOk sc σ uty (some d)) :
    sc.resolveDefault ty (substDefault σ d) = sc.resolveDefault ty d :=
  resolveDefault_subst sc σ ha ty uty hty d hs

/-- every nested type -/
theorem subst_Type (sc : Scope) (σ : Sigma) (ha : Agrees sc σ) (t : UTy)
    (hs : SafeTy sc σ t) : sc.resolveTy (substTy σ t) = sc.resolveTy t :=
  resolveTy_subst sc σ ha t hs

/-- **subst**: module `A` with value references, loaded together with the modules `S`, resolves
    to the same model as its literal variant -/
theorem subst (σ : Sigma) (A : UModule) (S : List UModule) (ha : Agrees ⟨A, S⟩ σ)
    (hs : SafeModule ⟨A, S⟩ σ A) :
    Scope.tryResolve ⟨substModule σ A, S⟩ = Scope.tryResolve ⟨A, S⟩ :=
  tryResolve_substModule σ A S S (scopeEquiv_substModule σ A S) ha hs

/-- **subst** for `try_resolve_all`: all loaded modules `S` replaced by their literal variants
    (`τ m` = the table used for module `m`; it may cover any subset of the names `m` can see) -/
theorem subst_all (τ : UModule → Sigma) (S : List UModule)
    (hall : ∀ m ∈ S, Agrees ⟨m, S⟩ (τ m) ∧ SafeModule ⟨m, S⟩ (τ m) m) :
    tryResolveAll (S.map (substAllWith τ)) = tryResolveAll S :=
  resolveAllAux_substAll τ S hall S fun _ h => h

/-- the table a scope defines itself: every name it can find -/
def sigmaOf (sc : Scope) : Sigma := fun n =>
  match sc.valueReference n with
  | .ok (some vr) => some vr.value
  | _ => none

theorem agrees_sigmaOf (sc : Scope) : Agrees sc (sigmaOf sc) := by
  intro n v h
  simp only [sigmaOf] at h
  split at h
  · rename_i vr hvr
    exact ⟨vr, hvr, by simpa using h⟩
  · cases h

/-- stage 1: one module without imports, `Model::try_resolve` on both sides -/
theorem subst_single_module (σ : Sigma) (A : UModule) (hnoimp : A.imports = [])
    (ha : Agrees ⟨A, [A]⟩ σ) (hs : SafeModule ⟨A, [A]⟩ σ A) :
    tryResolve (substModule σ A) = tryResolve A :=
  -- `subst_all` for the one module; what it imports plays no part
  tryResolve_substModule σ A [A] _ (scopeEquiv_substAll (fun _ => σ) A [A]) ha hs

/-! ### where names are found -/

/-- a value reference of the module itself -/
theorem lookup_local (A : UModule) (S : List UModule) (n : String) (vr : UValueReference)
    (h : A.valueReferences.find? (fun v => v.name == n) = some vr) :
    (Scope.mk A S).valueReference n = .ok (some vr) := by
  simp only [Scope.valueReference, chaseFuel]
  rw [valueReference, h]

/-- imported, the sibling found **by name** -/
theorem import_by_name (A B : UModule) (S : List UModule) (n : String) (imp : Import)
    (vr : UValueReference)
    (hlocal : A.valueReferences.find? (fun v => v.name == n) = none)
    (himp : A.imports.find? (fun i => i.what.any (· == n)) = some imp)
    (hmod : S.find? (importMatches imp) = some B) (_hname : B.name = imp.«from»)
    (hdef : B.valueReferences.find? (fun v => v.name == n) = some vr) :
    (Scope.mk A S).valueReference n = .ok (some vr) :=
  valueReference_imported A B S n imp vr hlocal himp hmod hdef

/-- imported, the sibling found **by object identifier** — the name in the import may differ -/
theorem import_by_oid (A B : UModule) (S : List UModule) (n : String) (imp : Import)
    (vr : UValueReference) (o : Oid)
    (hlocal : A.valueReferences.find? (fun v => v.name == n) = none)
    (himp : A.imports.find? (fun i => i.what.any (· == n)) = some imp)
    (hB : B ∈ S) (ho1 : B.oid = some o) (ho2 : imp.fromOid = some o)
    (hfirst : ∀ c ∈ S, importMatches imp c = true → c = B)
    (hdef : B.valueReferences.find? (fun v => v.name == n) = some vr) :
    (Scope.mk A S).valueReference n = .ok (some vr) := by
  have hm : importMatches imp B = true := importMatches_oid imp B o ho1 ho2
  have hfind : S.find? (importMatches imp) = some B := by
    cases h : S.find? (importMatches imp) with
    | none =>
      rw [List.find?_eq_none] at h
      exact absurd hm (h B hB)
    | some c =>
      rw [hfirst c (List.mem_of_find?_eq_some h) (List.find?_some h)]
  exact valueReference_imported A B S n imp vr hlocal himp hfind hdef

/-! ### load order -/

/-- **load order**: any permutation `S'` of the loaded modules gives every module the same
    resolved model (or the same error) -/
theorem load_order (m : UModule) (S S' : List UModule) (hm : m ∈ S) (hp : S.Perm S')
    (hu : AllUnambiguous S) : Scope.tryResolve ⟨m, S'⟩ = Scope.tryResolve ⟨m, S⟩ :=
  tryResolve_congr (scopeEquiv_perm m S S' hm hp hu) rfl

def load_order_full : Prop :=
  ∀ (m : UModule) (S S' : List UModule), m ∈ S → S.Perm S' →
    Scope.valueOf ⟨m, S'⟩ = Scope.valueOf ⟨m, S⟩

/-- `IMPORTS v FROM Xx { 2 2 }` with `Xx { 1 1 }` (v = 1) and `Yy { 2 2 }` (v = 2) loaded -/
def cexMain : UModule :=
  ⟨"Main", none, [⟨["v"], "Xx", some [.numberForm 2, .numberForm 2]⟩], [], []⟩
def cexX : UModule :=
  ⟨"Xx", some [.numberForm 1, .numberForm 1], [], [], [⟨"v", .integer ⟨none, none, false⟩ [], .integer 1⟩]⟩
def cexY : UModule :=
  ⟨"Yy", some [.numberForm 2, .numberForm 2], [], [], [⟨"v", .integer ⟨none, none, false⟩ [], .integer 2⟩]⟩

/-- the value found under `v` depends on the load order -/
theorem load_order_needs_unambiguous :
    Scope.valueOf ⟨cexMain, [cexMain, cexX, cexY]⟩ "v" = .ok (some (.integer 1)) ∧
    Scope.valueOf ⟨cexMain, [cexMain, cexY, cexX]⟩ "v" = .ok (some (.integer 2)) := by decide

theorem load_order_full_false : ¬ load_order_full := by
  intro h
  have ⟨h1, h2⟩ := load_order_needs_unambiguous
  have := h cexMain [cexMain, cexX, cexY] [cexMain, cexY, cexX] (by simp) (.cons _ (.swap _ _ _))
  exact absurd ((h2.symm.trans (congrFun this "v")).trans h1) (by decide)

/-! ### unresolved and ill-typed references -/

theorem unresolved_Integer (sc : Scope) (n : String) (h : sc.valueReference n = .ok none) :
    sc.resolveInt (.ref n) = .error .failedToResolveReference := by
  simp only [Scope.resolveInt, h, FRr.bind_ok]

theorem unresolved_Size (sc : Scope) (n : String) (h : sc.valueReference n = .ok none) :
    sc.resolveSizeVal (.ref n) = .error .failedToResolveReference := by
  simp only [Scope.resolveSizeVal, h, FRr.bind_ok]

theorem unresolved_Default (sc : Scope) (n : String) (h : sc.valueReference n = .ok none) :
    sc.resolveConst (.ref n) = .error .failedToResolveReference := by
  simp only [Scope.resolveConst, h, FRr.bind_ok]

theorem illtyped_Integer (sc : Scope) (n : String) (vr : UValueReference)
    (h : sc.valueReference n = .ok (some vr)) (hv : vr.value.toInteger = none) :
    sc.resolveInt (.ref n) = .error .failedToParseLiteral := by
  simp only [Scope.resolveInt, h, hv, FRr.bind_ok]

theorem illtyped_Size (sc : Scope) (n : String) (vr : UValueReference)
    (h : sc.valueReference n = .ok (some vr)) (hv : vr.value.toInteger = none) :
    sc.resolveSizeVal (.ref n) = .error .failedToParseLiteral := by
  simp only [Scope.resolveSizeVal, h, hv, FRr.bind_ok]

/-- no definition in the module and no import that lists the name ⇒ nothing is found -/
theorem unresolved_when_not_in_reach (A : UModule) (S : List UModule) (n : String)
    (hlocal : A.valueReferences.find? (fun v => v.name == n) = none)
    (himp : A.imports.find? (fun i => i.what.any (· == n)) = none) :
    (Scope.mk A S).valueReference n = .ok none := by
  simp only [Scope.valueReference, chaseFuel]
  rw [valueReference, hlocal, modelWithImportedItem_eq, himp]
  rfl

/-- the import points to a module that is not loaded ⇒ nothing is found -/
theorem unresolved_when_not_loaded (A : UModule) (S : List UModule) (n : String) (imp : Import)
    (hlocal : A.valueReferences.find? (fun v => v.name == n) = none)
    (himp : A.imports.find? (fun i => i.what.any (· == n)) = some imp)
    (hmod : S.find? (importMatches imp) = none) :
    (Scope.mk A S).valueReference n = .ok none := by
  simp only [Scope.valueReference, chaseFuel]
  rw [valueReference, hlocal, modelWithImportedItem_eq, himp, Option.bind_some, hmod]

/-- never a silently substituted bound: what `resolve` returns for an INTEGER bound is the
    literal itself or the integer value found under the name -/
theorem resolved_Integer_sound (sc : Scope) (l : URange) (i : Int) (h : sc.resolveInt l = .ok i) :
    l = .lit i ∨ ∃ n vr, l = .ref n ∧ sc.valueReference n = .ok (some vr) ∧
      vr.value = .integer i := by
  cases l with
  | lit j => exact .inl (congrArg _ (Except.ok.inj h))
  | ref n =>
    simp only [Scope.resolveInt] at h
    obtain ⟨o, hv, h⟩ := (FR.bind_eq_ok _ _ _).mp h
    cases o with
    | none => cases h
    | some vr =>
      cases ht : vr.value.toInteger with
      | none => simp only [ht, reduceCtorEq] at h
      | some j =>
        simp only [ht, Except.ok.injEq] at h
        exact .inr ⟨n, vr, rfl, hv, LiteralValue.toInteger_eq_some.mp (h ▸ ht)⟩

/-- … and for a SIZE bound the literal itself or the found integer, which is not negative -/
theorem resolved_Size_sound (sc : Scope) (l : USz) (k : Nat) (h : sc.resolveSizeVal l = .ok k) :
    l = .lit k ∨ ∃ n vr i, l = .ref n ∧ sc.valueReference n = .ok (some vr) ∧
      vr.value = .integer i ∧ 0 ≤ i ∧ k = i.toNat := by
  cases l with
  | lit j => exact .inl (congrArg _ (Except.ok.inj h))
  | ref n =>
    simp only [Scope.resolveSizeVal] at h
    obtain ⟨o, hv, h⟩ := (FR.bind_eq_ok _ _ _).mp h
    cases o with
    | none => cases h
    | some vr =>
      cases ht : vr.value.toInteger with
      | none => simp only [ht, reduceCtorEq] at h
      | some i =>
        refine .inr ⟨n, vr, i, rfl, hv, LiteralValue.toInteger_eq_some.mp ht, ?_⟩
        by_cases h0 : 0 ≤ i
        · simp only [ht, usizeTryFrom_nonneg i h0, Except.ok.injEq] at h
          exact ⟨h0, h.symm⟩
        · simp only [ht, usizeTryFrom_neg i (by omega), reduceCtorEq] at h

/-! ### negative SIZE bounds; cyclic imports (both repaired in the code) -/

/-- **a negative value under a SIZE bound is refused** (`usize::try_from`), with the error the
    literal text `SIZE(-1)` gets -/
theorem size_negative_rejected (sc : Scope) (n : String) (vr : UValueReference) (i : Int)
    (h : sc.valueReference n = .ok (some vr)) (hv : vr.value = .integer i) (hneg : i < 0) :
    sc.resolveSizeVal (.ref n) = .error .failedToResolveReference := by
  simp only [Scope.resolveSizeVal, h, hv, FRr.bind_ok, LiteralValue.toInteger,
    usizeTryFrom_neg i hneg]

/-- `n INTEGER ::= -1`, `A ::= OCTET STRING (SIZE(n))` (the witness of the former finding
    `resolve.size_negative_wraps`: it resolved to SIZE(2^64-1)) -/
def cexNeg : UModule :=
  ⟨"Neg", none, [], [⟨"A", none, .octetString (.fix (.ref "n") false)⟩],
    [⟨"n", .integer ⟨none, none, false⟩ [], .integer (-1)⟩]⟩

/-- the same module with the literal text `SIZE(-1)`: the parser reads `-1` as a name -/
def cexNegLit : UModule :=
  ⟨"Neg", none, [], [⟨"A", none, .octetString (.fix (.ref "-1") false)⟩],
    [⟨"n", .integer ⟨none, none, false⟩ [], .integer (-1)⟩]⟩

/-- the error class of a result (the models have no decidable equality; the classes do) -/
def errOf {α : Type} : FR α → Option FErr
  | .error e => some e
  | .ok _ => none

theorem size_negative_witness :
    Scope.resolveSizeVal ⟨cexNeg, [cexNeg]⟩ (.ref "n") = .error .failedToResolveReference ∧
    errOf (tryResolve cexNeg) = some .failedToResolveReference ∧
    errOf (tryResolve cexNegLit) = some .failedToResolveReference := by decide

/-- **a cyclic import is an unresolved reference**: a name that neither the module nor any
    loaded module defines is not found — however the imports are wired, in particular when they
    lead in a circle — and its use as a bound is `FailedToResolveReference` -/
theorem cyclic_import_rejected (A : UModule) (S : List UModule) (n : String)
    (hA : (A.valueReferences.find? fun vr => vr.name == n) = none)
    (hS : ∀ m ∈ S, (m.valueReferences.find? fun vr => vr.name == n) = none) :
    (Scope.mk A S).valueReference n = .ok none ∧
    (Scope.mk A S).resolveInt (.ref n) = .error .failedToResolveReference ∧
    (Scope.mk A S).resolveSizeVal (.ref n) = .error .failedToResolveReference ∧
    (Scope.mk A S).resolveConst (.ref n) = .error .failedToResolveReference := by
  have h : (Scope.mk A S).valueReference n = .ok none := by
    rw [Scope.valueReference, valueReference_eq_chase, chase_none_of_undefined hS _ A hA]
  exact ⟨h, unresolved_Integer _ n h, unresolved_Size _ n h, unresolved_Default _ n h⟩

/-- … likewise for a type name (`FailedToResolveType`) -/
theorem cyclic_import_rejected_type (A : UModule) (S : List UModule) (n : String)
    (hA : (A.definitions.find? fun d => d.name == n) = none)
    (hS : ∀ m ∈ S, (m.definitions.find? fun d => d.name == n) = none) :
    (Scope.mk A S).definition n = .ok none ∧
    errOf ((Scope.mk A S).resolveTypeRef n) = some .failedToResolveType := by
  have h : (Scope.mk A S).definition n = .ok none := by
    rw [Scope.definition, definition_eq_chase, chase_none_of_undefined hS _ A hA]
  refine ⟨h, ?_⟩
  simp [Scope.resolveTypeRef, h, errOf]

/-- `IMPORTS ghost FROM Selfish;` inside `Selfish`, `A ::= INTEGER (0..ghost)` (the witness of
    the former finding `resolve.cyclic_import_overflow`: stack overflow) -/
def cexSelf : UModule :=
  ⟨"Selfish", none, [⟨["ghost"], "Selfish", none⟩],
    [⟨"A", none, .integer ⟨some (.lit 0), some (.ref "ghost"), false⟩ []⟩], []⟩

/-- `Ping` imports `ghost` from `Pong`, `Pong` imports it from `Ping`, nobody defines it -/
def cexPing : UModule :=
  ⟨"Ping", none, [⟨["ghost"], "Pong", none⟩],
    [⟨"A", none, .integer ⟨some (.lit 0), some (.ref "ghost"), false⟩ []⟩], []⟩
def cexPong : UModule :=
  ⟨"Pong", none, [⟨["ghost"], "Ping", none⟩], [⟨"B", none, .integer ⟨none, none, false⟩ []⟩], []⟩

/-- the chase of the self-import ends with "not found" for every budget, and the module is
    refused with `FailedToResolveReference` -/
theorem cyclic_import_self :
    (∀ k, valueReference k cexSelf [cexSelf] "ghost" = .ok none) ∧
    Scope.valueReference ⟨cexSelf, [cexSelf]⟩ "ghost" = .ok none ∧
    errOf (tryResolve cexSelf) = some .failedToResolveReference := by
  refine ⟨fun k => ?_, by rfl, by decide⟩
  rw [valueReference_eq_chase]
  exact congrArg _ (chase_none_of_undefined (by decide) k cexSelf (by decide))

/-- the two-module cycle, in both load orders -/
theorem cyclic_import_pair :
    errOf (tryResolveAll [cexPing, cexPong]) = some .failedToResolveReference ∧
    errOf (tryResolveAll [cexPong, cexPing]) = some .failedToResolveReference := by decide

/-- **the import chase always comes back** — for every module, scope and name -/
theorem chase_total (A : UModule) (S : List UModule) (n : String) :
    ∃ r, (Scope.mk A S).valueReference n = .ok r :=
  ⟨_, valueReference_eq_chase S n (chaseFuel S) A⟩

theorem chase_total_definition (A : UModule) (S : List UModule) (n : String) :
    ∃ r, (Scope.mk A S).definition n = .ok r :=
  ⟨_, definition_eq_chase S n (chaseFuel S) A⟩

/-- **the bound does not cut an acyclic chase short**: when the imports followed for `n` are
    acyclic (a rank decreases along every step) and the rank of the start module is at most the
    number of loaded modules, every budget from `scope.len()` hops on gives the same answer -/
theorem chase_bound_not_observable (A : UModule) (S : List UModule) (n : String)
    (rank : UModule → Nat)
    (hdec : ∀ m ∈ A :: S, ∀ m', (m.valueReferences.find? fun vr => vr.name == n) = none →
      modelWithImportedItem m S n = some m' → rank m' < rank m)
    (hrank : rank A ≤ S.length) (k : Nat) (hk : chaseFuel S ≤ k) :
    valueReference k A S n = (Scope.mk A S).valueReference n :=
  valueReference_fuel_irrelevant A S n k hk

/-- **the hop bound of the repair is never observable**: every larger budget gives the same
    answer — for every module, scope and name, cyclic imports included (pigeonhole:
    `chase_fuel_irrelevant` in `Front/ResolveChaseLemmas.lean`) -/
theorem chase_bound_never_observable (A : UModule) (S : List UModule) (n : String) (k : Nat)
    (hk : chaseFuel S ≤ k) : valueReference k A S n = (Scope.mk A S).valueReference n :=
  valueReference_fuel_irrelevant A S n k hk

/-- … likewise for a type name -/
theorem chase_bound_never_observable_definition (A : UModule) (S : List UModule) (n : String)
    (k : Nat) (hk : chaseFuel S ≤ k) : definition k A S n = (Scope.mk A S).definition n :=
  definition_fuel_irrelevant A S n k hk

/-! ### non-vacuity -/

/-- `lo INTEGER ::= 3`, `hi INTEGER ::= 9`, `R ::= INTEGER (lo..hi, ...)`,
    `S ::= UTF8String (SIZE(lo..hi))`, `D ::= SEQUENCE { d INTEGER DEFAULT lo }` -/
def sample : UModule :=
  ⟨"Main", none, [],
    [⟨"R", none, .integer ⟨some (.ref "lo"), some (.ref "hi"), true⟩ []⟩,
     ⟨"S", none, .string (.range (.ref "lo") (.ref "hi") false) .utf8⟩,
     ⟨"D", none, .sequence (.cons "d" none (.integer ⟨none, none, false⟩ []) (some (.ref "lo")) .nil) none⟩],
    [⟨"lo", .integer ⟨none, none, false⟩ [], .integer 3⟩,
     ⟨"hi", .integer ⟨none, none, false⟩ [], .integer 9⟩]⟩

def sampleSigma : Sigma := fun n =>
  if n = "lo" then some (.integer 3) else if n = "hi" then some (.integer 9) else none

example : Agrees ⟨sample, [sample]⟩ sampleSigma := by
  intro n v h
  simp only [sampleSigma] at h
  split at h
  · rename_i hn; subst hn
    exact ⟨⟨"lo", .integer ⟨none, none, false⟩ [], .integer 3⟩, by rfl, by simpa using h⟩
  · split at h
    · rename_i hn; subst hn
      exact ⟨⟨"hi", .integer ⟨none, none, false⟩ [], .integer 9⟩, by rfl, by simpa using h⟩
    · cases h

example : SafeModule ⟨sample, [sample]⟩ sampleSigma sample := by
  constructor
  · intro v hv
    simp [sample] at hv
    rcases hv with rfl | rfl <;> simp [SafeTy]
  · intro d hd
    simp [sample] at hd
    rcases hd with rfl | rfl | rfl <;> simp [SafeTy, SafeFields, DefaultOk, DefaultSafe]

/-- the literal variant really is different text: the references are gone -/
example : (substModule sampleSigma sample).definitions.map (fun d => match d.ty with
    | .integer r _ => r.min == some (.lit 3) && r.max == some (.lit 9)
    | _ => true) = [true, true, true] := by decide

example : AllUnambiguous [cexX, cexY] := by
  intro m hm imp himp
  simp at hm
  rcases hm with rfl | rfl <;> simp [cexX, cexY] at himp

-- `size_negative_rejected`: the hypotheses hold for the witness
example : ∃ vr, Scope.valueReference ⟨cexNeg, [cexNeg]⟩ "n" = .ok (some vr) ∧
    vr.value = .integer (-1) ∧ (-1 : Int) < 0 :=
  ⟨⟨"n", .integer ⟨none, none, false⟩ [], .integer (-1)⟩, by rfl, rfl, by decide⟩
-- … while a non-negative value resolves as before
example : Scope.resolveSizeVal ⟨sample, [sample]⟩ (.ref "hi") = .ok 9 := by decide

-- `cyclic_import_rejected`: the hypotheses hold for the two-module cycle
example : (cexPing.valueReferences.find? fun vr => vr.name == "ghost") = none ∧
    ∀ m ∈ [cexPing, cexPong], (m.valueReferences.find? fun vr => vr.name == "ghost") = none := by
  decide

/-- `Top` imports `v` from `Mid`, `Mid` from `Leaf`, `Leaf` defines it -/
def chainTop : UModule := ⟨"Top", none, [⟨["v"], "Mid", none⟩], [], []⟩
def chainMid : UModule := ⟨"Mid", none, [⟨["v"], "Leaf", none⟩], [], []⟩
def chainLeaf : UModule :=
  ⟨"Leaf", none, [], [], [⟨"v", .integer ⟨none, none, false⟩ [], .integer 7⟩]⟩
def chainRank (m : UModule) : Nat :=
  if m.name = "Top" then 2 else if m.name = "Mid" then 1 else 0

-- `chase_bound_not_observable`: the hypotheses hold for the chain (all three modules loaded,
-- the rank of `Top` is 2 ≤ 3), and the value is found through two imports
example : (∀ m ∈ chainTop :: [chainLeaf, chainMid, chainTop], ∀ m',
      (m.valueReferences.find? fun vr => vr.name == "v") = none →
      modelWithImportedItem m [chainLeaf, chainMid, chainTop] "v" = some m' →
      chainRank m' < chainRank m) ∧ chainRank chainTop ≤ [chainLeaf, chainMid, chainTop].length := by
  refine ⟨?_, by decide⟩
  intro m hm m' hfind himp
  simp only [List.mem_cons, List.not_mem_nil, or_false] at hm
  rcases hm with rfl | rfl | rfl | rfl
  · cases (himp : some chainMid = some m'); decide
  · exact absurd hfind (by decide)
  · cases (himp : some chainLeaf = some m'); decide
  · cases (himp : some chainMid = some m'); decide
example : Scope.valueOf ⟨chainTop, [chainLeaf, chainMid, chainTop]⟩ "v" = .ok (some (.integer 7)) := by
  decide

/-- `Ra` imports `ghost` from `Rb`, `Rb` from `Rc`, `Rc` from `Ra`; nobody defines it.  `Rc` also
    defines `w`, which `Ra` imports from `Rb` and `Rb` from `Rc` -/
def ringA : UModule := ⟨"Ra", none, [⟨["ghost", "w"], "Rb", none⟩], [], []⟩
def ringB : UModule := ⟨"Rb", none, [⟨["ghost", "w"], "Rc", none⟩], [], []⟩
def ringC : UModule :=
  ⟨"Rc", none, [⟨["ghost"], "Ra", none⟩], [], [⟨"w", .integer ⟨none, none, false⟩ [], .integer 5⟩]⟩

-- `chase_bound_never_observable` on the three-module ring: a budget of 100 calls answers what
-- the repaired code (4 calls) answers — for the name that goes round the ring …
example : valueReference 100 ringA [ringA, ringB, ringC] "ghost" =
    Scope.valueReference ⟨ringA, [ringA, ringB, ringC]⟩ "ghost" :=
  chase_bound_never_observable ringA [ringA, ringB, ringC] "ghost" 100 (by decide)
-- … the ring really is one (three hops lead from `Ra` back to `Ra`), and the answer is "not found"
example : orbit (fun m => m.valueReferences.find? fun vr => vr.name == "ghost")
      [ringA, ringB, ringC] "ghost" 3 ringA = some ringA ∧
    Scope.valueOf ⟨ringA, [ringA, ringB, ringC]⟩ "ghost" = .ok none := ⟨by rfl, by decide⟩
-- … and for the name that is found two imports away in the same cyclic scope
example : valueReference 100 ringA [ringA, ringB, ringC] "w" =
      Scope.valueReference ⟨ringA, [ringA, ringB, ringC]⟩ "w" ∧
    Scope.valueOf ⟨ringA, [ringA, ringB, ringC]⟩ "w" = .ok (some (.integer 5)) :=
  ⟨chase_bound_never_observable ringA [ringA, ringB, ringC] "w" 100 (by decide), by decide⟩

/-- the bound is sharp: the module that asks need not be loaded itself, so `scope.len()` hops can
    all be needed — `Top` (not in the scope) finds `v` with exactly `chaseFuel` = 3 calls, and
    with one call fewer it would not -/
theorem chase_bound_sharp :
    chaseFuel [chainLeaf, chainMid] = 3 ∧
    Scope.valueOf ⟨chainTop, [chainLeaf, chainMid]⟩ "v" = .ok (some (.integer 7)) ∧
    (valueReference 2 chainTop [chainLeaf, chainMid] "v").toOption.map (·.map (·.value)) =
      some none := by decide

end Asn1Verif.Props.C12
