import Asn1Verif.Uper.Diag
/-
  C19 — erasure of the diagnostics: every computation of the +feature reader (`Uper/Diag.lean`) returns the
  outcome (value, cursor / error class / panic) of the plain reader and the log it was started with followed
  by entries that do not depend on that log (`Erases`).  `Erases` composes along the combinators of `DM`, so
  the proof for `decD` follows its text.
-/
namespace Asn1Verif.Uper
open Asn1Verif Outcome Per

def Erases {α : Type} (x : DM α) (o : Outcome α) : Prop :=
  ∃ w, ∀ l, x l = (o, l ++ w)

section
variable {α β : Type}

theorem Erases.fst {x : DM α} {o : Outcome α} (h : Erases x o) (l : Log) : (x l).1 = o := by
  obtain ⟨w, h⟩ := h
  rw [h]

theorem Erases.isPrefix {x : DM α} {o : Outcome α} (h : Erases x o) (l : Log) : l <+: (x l).2 := by
  obtain ⟨w, h⟩ := h
  exact ⟨w, by rw [h]⟩

theorem Erases.pure (a : α) : Erases (Pure.pure a : DM α) (ok a) :=
  ⟨[], fun l => Prod.ext rfl (List.append_nil l).symm⟩

theorem Erases.lift (o : Outcome α) : Erases (DM.lift o) o :=
  ⟨[], fun l => Prod.ext rfl (List.append_nil l).symm⟩

theorem Erases.push (e : LogEntry) : Erases (DM.push e) (ok ()) :=
  ⟨[e], fun _ => rfl⟩

theorem Erases.pushAll (es : List LogEntry) : Erases (DM.pushAll es) (ok ()) :=
  ⟨es, fun _ => rfl⟩

theorem Erases.pushIf (c : Bool) (e : LogEntry) : Erases (DM.pushIf c e) (ok ()) := by
  unfold DM.pushIf; split
  · exact Erases.push e
  · exact Erases.pure ()

theorem bindD_def (x : DM α) (f : α → DM β) (l : Log) :
    (x >>= f) l = match x l with
      | (.ok a, l') => f a l'
      | (.err k, l') => (.err k, l')
      | (.panic, l') => (.panic, l') := rfl

theorem Erases.bind {x : DM α} {o : Outcome α} {f : α → DM β} {g : α → Outcome β}
    (hx : Erases x o) (hf : ∀ a, o = ok a → Erases (f a) (g a)) : Erases (x >>= f) (o >>= g) := by
  obtain ⟨w, hx⟩ := hx
  match o, hx, hf with
  | .ok a, hx, hf =>
    obtain ⟨w', hf⟩ := hf a rfl
    exact ⟨w ++ w', fun l => by simp only [bindD_def, hx, hf, List.append_assoc, bind_ok]⟩
  | .err k, hx, _ => exact ⟨w, fun l => by simp only [bindD_def, hx, bind_err]⟩
  | .panic, hx, _ => exact ⟨w, fun l => by simp only [bindD_def, hx, bind_panic]⟩

theorem Erases.seq {x : DM Unit} {y : DM β} {o : Outcome β}
    (hx : Erases x (ok ())) (hy : Erases y o) : Erases (x >>= fun _ => y) o :=
  Erases.bind (g := fun _ => o) hx (fun _ _ => hy)

theorem Erases.tap {x : DM α} {o : Outcome α} (e : Outcome α → List LogEntry)
    (hx : Erases x o) : Erases (x.tap e) o := by
  obtain ⟨w, hx⟩ := hx
  match o, hx with
  | .ok a, hx => exact ⟨w ++ e (ok a), fun l => by simp only [DM.tap, hx, List.append_assoc]⟩
  | .err k, hx => exact ⟨w ++ e (err k), fun l => by simp only [DM.tap, hx, List.append_assoc]⟩
  | .panic, hx => exact ⟨w, fun l => by simp only [DM.tap, hx]⟩

theorem Erases.ite {c : Prop} [Decidable c] {x1 x2 : DM α} {o1 o2 : Outcome α}
    (h1 : c → Erases x1 o1) (h2 : ¬ c → Erases x2 o2) :
    Erases (if c then x1 else x2) (if c then o1 else o2) := by
  split
  · exact h1 ‹_›
  · exact h2 ‹_›

end

theorem liftL1D_erases {α : Type} (r : Per.Rd α) (inp : Bits) (pos : Nat) :
    Erases (liftL1D r inp pos) (liftL1 r inp pos) := Erases.lift _

theorem readLenD_erases (lb ub : Option Nat) (inp : Bits) (pos : Nat) :
    Erases (readLenD lb ub inp pos) (liftL1 (rLen lb ub) inp pos) :=
  Erases.tap _ (Erases.lift _)

theorem subSliceD_erases {α : Type} {r : RdPD α} {r0 : RdP α} (n : Nat) (inp : Bits) (pos : Nat)
    (h : Erases (r inp pos) (r0 inp pos)) : Erases (subSliceD n r inp pos) (subSlice n r0 inp pos) := by
  unfold subSliceD subSlice
  exact Erases.bind (Erases.tap _ h) (fun ⟨a, _⟩ _ => Erases.pure _)

theorem readOpenD_erases {α : Type} {r : RdPD α} {r0 : RdP α} (inp : Bits)
    (h : ∀ pos, Erases (r inp pos) (r0 inp pos)) (pos : Nat) :
    Erases (readOpenD r inp pos) (readOpen r0 inp pos) := by
  unfold readOpenD readOpen
  exact Erases.bind (readLenD_erases _ _ _ _) (fun ⟨len, p⟩ _ => subSliceD_erases len inp p (h p))

theorem readExtHeaderD_erases (nLocal : Nat) (inp : Bits) (pos : Nat) :
    Erases (readExtHeaderD nLocal inp pos) (readExtHeader inp pos) := by
  unfold readExtHeaderD readExtHeader
  exact Erases.bind (liftL1D_erases _ _ _) (fun ⟨n, p⟩ _ =>
    Erases.ite (fun _ => Erases.lift _) (fun _ => Erases.seq (Erases.pushIf _ _) (Erases.pure _)))

theorem skipOpenD_erases (inp : Bits) (pos : Nat) :
    Erases (readOpenD (fun _ p => (Pure.pure ((), p) : DM (Unit × Nat))) inp pos)
      (readOpen (fun _ p => ok ((), p)) inp pos) :=
  readOpenD_erases (r := fun _ p => Pure.pure ((), p)) (r0 := fun _ p => ok ((), p)) inp
    (fun _ => Erases.pure _) pos

theorem skipUnknownD_erases (win nRead idx : Nat) (inp : Bits) (pos : Nat) :
    Erases (skipUnknownD win nRead idx inp pos) (skipUnknown win nRead idx inp pos) := by
  -- `skipUnknownD` threads the log by hand (well-founded recursion on `nRead - idx`), so the
  -- combinators above do not apply: along the cases of `skipUnknown` it is unfolded once per case
  -- and the log it appends is written out
  fun_induction skipUnknown win nRead idx inp pos with
  | case1 idx pos hlt u p he hb ih =>
    obtain ⟨w, hro⟩ := skipOpenD_erases inp pos
    obtain ⟨w', ih⟩ := ih
    exact ⟨_ :: (w ++ w'), fun l => by
      rw [skipUnknownD]
      simp only [dif_pos hlt, hb, ↓reduceIte, hro, he, ih, List.append_assoc, List.singleton_append]
      rfl⟩
  | case2 idx pos hlt k he hb =>
    obtain ⟨w, hro⟩ := skipOpenD_erases inp pos
    exact ⟨_ :: w, fun l => by
      rw [skipUnknownD]
      simp only [dif_pos hlt, hb, ↓reduceIte, hro, he, List.append_assoc, List.singleton_append]
      rfl⟩
  | case3 idx pos hlt he hb =>
    obtain ⟨w, hro⟩ := skipOpenD_erases inp pos
    exact ⟨_ :: w, fun l => by
      rw [skipUnknownD]
      simp only [dif_pos hlt, hb, ↓reduceIte, hro, he, List.append_assoc, List.singleton_append]
      rfl⟩
  | case4 idx pos hlt present hb hnp ih =>
    have hp : present = false := by simpa using hnp
    subst hp
    obtain ⟨w', ih⟩ := ih
    exact ⟨_ :: w', fun l => by
      rw [skipUnknownD]
      simp only [dif_pos hlt, hb, Bool.false_eq_true, ↓reduceIte, ih, List.append_assoc,
        List.singleton_append]
      rfl⟩
  | case5 idx pos hlt k hb => exact ⟨[_], fun l => by rw [skipUnknownD, dif_pos hlt, hb]⟩
  | case6 idx pos hlt hb =>
    exact ⟨[], fun l => by rw [skipUnknownD, dif_pos hlt, hb, List.append_nil]⟩
  | case7 idx pos hlt =>
    exact ⟨[], fun l => by rw [skipUnknownD, dif_neg hlt, List.append_nil]⟩

theorem decListWithD_erases {r : RdPD Val} {r0 : RdP Val} {inp : Bits}
    (h : ∀ pos, Erases (r inp pos) (r0 inp pos)) :
    ∀ (n pos : Nat), Erases (decListWithD r n inp pos) (decListWith r0 n inp pos)
  | 0, _ => Erases.pure _
  | n + 1, pos => by
    unfold decListWithD decListWith
    exact Erases.bind (h pos) (fun ⟨v, p⟩ _ =>
      Erases.bind (decListWithD_erases h n p) (fun ⟨vs, p'⟩ _ => Erases.pure _))

theorem extBitD_erases (ext b : Bool) (inp : Bits) (pos : Nat) :
    Erases (if ext then liftL1D rdBit inp pos else Pure.pure (b, pos))
      (if ext then liftL1 rdBit inp pos else ok (b, pos)) :=
  Erases.ite (fun _ => liftL1D_erases _ _ _) (fun _ => Erases.pure _)

theorem lenD_erases (isExt : Bool) (min max : Option Nat) (inp : Bits) (pos : Nat) :
    Erases (if isExt then readLenD none none inp pos else readLenD min max inp pos)
      (if isExt then liftL1 (rLen none none) inp pos else liftL1 (rLen min max) inp pos) :=
  Erases.ite (fun _ => readLenD_erases _ _ _ _) (fun _ => readLenD_erases _ _ _ _)

theorem addWinD_erases (w : Option (Nat × Nat)) (nLocal : Nat) (inp : Bits) (pos : Nat) :
    Erases (match w with
        | some w => Pure.pure (w, pos)
        | none => readExtHeaderD nLocal inp pos : DM ((Nat × Nat) × Nat))
      (match w with
        | some w => ok (w, pos)
        | none => readExtHeader inp pos : Outcome ((Nat × Nat) × Nat)) := by
  cases w with
  | some w => exact Erases.pure _
  | none => exact readExtHeaderD_erases _ _ _

theorem bitFieldD_erases (isOpt : Bool) (x : Outcome Bool) : Erases (bitFieldD isOpt x) x :=
  Erases.tap _ (Erases.lift _)

/-! ### the mutual induction over `Ty` / `Fields`
  (no `unfold decD dec`: both sides reduce to the shape of the lemma applied, see `Uper/ReadTotal.lean`) -/

mutual
theorem decD_erases : ∀ (t : Ty) (inp : Bits) (pos : Nat), Erases (decD t inp pos) (dec t inp pos)
  | .bool, inp, pos =>
    Erases.seq (Erases.push _)
      (Erases.bind (Erases.tap _ (liftL1D_erases _ _ _)) (fun ⟨b, p⟩ _ => Erases.pure _))
  | .null, inp, pos =>
    Erases.pure _
  | .int min max ext width signed, inp, pos => by
    refine Erases.seq (Erases.push _) (Erases.bind (extBitD_erases _ _ _ _) (fun ⟨u, p0⟩ _ => ?_))
    exact Erases.bind (Erases.tap _ (Erases.ite (fun _ => liftL1D_erases _ _ _)
      (fun _ => liftL1D_erases _ _ _))) (fun ⟨v, p1⟩ _ => Erases.pure _)
  | .enum std total ext, inp, pos => by
    refine Erases.tap _ (Erases.seq (Erases.push _)
      (Erases.bind (Erases.tap _ (liftL1D_erases _ _ _)) (fun ⟨i, p⟩ _ => ?_)))
    exact Erases.seq (Erases.pushIf _ _)
      (Erases.tap _ (Erases.ite (fun _ => Erases.pure _) (fun _ => Erases.lift _)))
  | .str cs min max ext, inp, pos => by
    cases cs with
    | utf8 =>
      refine Erases.seq (Erases.push _) (Erases.tap _
        (Erases.bind (liftL1D_erases _ _ _) (fun ⟨o, p⟩ _ => ?_)))
      dsimp only
      cases utf8Decode o with
      | some _ => exact Erases.pure _
      | none => exact Erases.lift _
    | _ =>
      refine Erases.seq (Erases.push _) (Erases.tap _
        (Erases.bind (extBitD_erases _ _ _ _) (fun ⟨isExt, p0⟩ _ =>
          Erases.bind (lenD_erases _ _ _ _ _) (fun ⟨len, p1⟩ _ => ?_))))
      exact Erases.ite (fun _ => Erases.lift _) (fun _ => Erases.pure _)
  | .oct min max ext, inp, pos =>
    Erases.seq (Erases.push _)
      (Erases.bind (Erases.tap _ (liftL1D_erases _ _ _)) (fun ⟨b, p⟩ _ => Erases.pure _))
  | .bits min max ext, inp, pos =>
    Erases.seq (Erases.push _)
      (Erases.bind (Erases.tap _ (liftL1D_erases _ _ _)) (fun ⟨b, p⟩ _ => Erases.pure _))
  | .seqOf min max ext elem, inp, pos => by
    refine Erases.seq (Erases.push _) (Erases.bind (extBitD_erases _ _ _ _) (fun ⟨isExt, p0⟩ _ =>
      Erases.bind (lenD_erases _ _ _ _ _) (fun ⟨len, p1⟩ _ => ?_)))
    exact Erases.bind (decListWithD_erases (fun q => decD_erases elem inp q) len p1)
      (fun ⟨vs, p2⟩ _ => Erases.pure _)
  | .seq stdOpt fieldCount extAfter fields, inp, pos => by
    refine Erases.tap _ (Erases.seq (Erases.push _) (Erases.bind ?_ (fun ⟨extBit, p0⟩ _ => ?_)))
    · cases extAfter with
      | none => exact Erases.pure _
      | some k => exact liftL1D_erases _ _ _
    · exact Erases.ite (fun _ => Erases.lift _) (fun _ =>
        Erases.bind (decFieldsD_erases fields _ _ _ _ inp _) (fun ⟨vs, p1⟩ _ => Erases.pure _))
  | .choice std total ext alts, inp, pos => by
    refine Erases.tap _ (Erases.seq (Erases.push _)
      (Erases.bind (Erases.tap _ (liftL1D_erases _ _ _)) (fun ⟨i, p0⟩ _ => ?_)))
    refine Erases.ite (fun _ => ?_) (fun _ => ?_)
    · refine Erases.bind (readLenD_erases _ _ _ _) (fun ⟨len, p1⟩ _ => ?_)
      refine Erases.tap _ (Erases.ite (fun _ => Erases.seq (Erases.push _) (Erases.lift _)) (fun _ => ?_))
      exact Erases.bind (subSliceD_erases len inp p1 (decAltD_erases alts i inp p1))
        (fun ⟨v, p2⟩ _ => Erases.pure _)
    · exact Erases.tap _ (Erases.bind (decAltD_erases alts i inp p0) (fun ⟨v, p1⟩ _ => Erases.pure _))

theorem decAltD_erases : ∀ (fs : Fields) (i : Nat) (inp : Bits) (pos : Nat),
    Erases (decAltD fs i inp pos) (decAlt fs i inp pos)
  | .nil, _, _, _ => Erases.lift _
  | .cons _ t _, 0, inp, pos => decD_erases t inp pos
  | .cons _ _ rest, i + 1, inp, pos => decAltD_erases rest i inp pos

theorem decFieldsD_erases : ∀ (fs : Fields) (rootLeft optIdx addIdx : Nat) (ctx : SeqCtx)
    (inp : Bits) (pos : Nat),
    Erases (decFieldsD fs rootLeft optIdx addIdx ctx inp pos)
      (decFields fs rootLeft optIdx addIdx ctx inp pos)
  | .nil, rootLeft, optIdx, addIdx, ctx, inp, pos => by
    refine Erases.ite (fun _ => ?_) (fun _ => Erases.pure _)
    refine Erases.bind (addWinD_erases _ _ _ _) (fun ⟨⟨win, nRead⟩, p⟩ _ => ?_)
    exact Erases.bind (skipUnknownD_erases _ _ _ _ _) (fun ⟨_, p'⟩ _ => Erases.pure _)
  | .cons k t rest, rootLeft, optIdx, addIdx, ctx, inp, pos => by
    refine Erases.ite (fun _ => ?_) (fun _ => Erases.ite (fun _ => ?_) (fun _ => ?_))
    · -- root component
      refine Erases.seq (Erases.pushAll _) (Erases.bind (bitFieldD_erases _ _) (fun present _ => ?_))
      refine Erases.bind ?_ (fun ⟨v, p⟩ _ => ?_)
      · exact Erases.ite
          (fun _ => Erases.bind (decD_erases t inp pos) (fun ⟨x, p⟩ _ => Erases.pure _))
          (fun _ => Erases.pure _)
      · exact Erases.bind (decFieldsD_erases rest _ _ _ _ inp p) (fun ⟨vs, p'⟩ _ => Erases.pure _)
    · -- extension addition, extension part present
      refine Erases.seq (Erases.pushAll _)
        (Erases.bind (addWinD_erases _ _ _ _) (fun ⟨⟨win, nRead⟩, p⟩ _ => ?_))
      refine Erases.bind (bitFieldD_erases _ _) (fun present _ => ?_)
      refine Erases.bind ?_ (fun ⟨v, p'⟩ _ => ?_)
      · refine Erases.ite (fun _ => ?_) (fun _ => Erases.pure _)
        refine Erases.bind ?_ (fun ⟨x, p'⟩ _ => Erases.pure _)
        exact Erases.ite (fun _ => readOpenD_erases inp (fun q => decD_erases t inp q) p)
          (fun _ => decD_erases t inp p)
      · exact Erases.bind (decFieldsD_erases rest _ _ _ _ inp p') (fun ⟨vs, p''⟩ _ => Erases.pure _)
    · -- extension addition, no extension part
      refine Erases.seq (Erases.pushAll _) (Erases.seq (Erases.push _) ?_)
      refine Erases.bind ?_ (fun ⟨v, p⟩ _ => ?_)
      · cases k with
        | m => exact decD_erases t inp pos
        | o => exact Erases.pure _
        | d dv => exact Erases.pure _
      · exact Erases.bind (decFieldsD_erases rest _ _ _ _ inp p) (fun ⟨vs, p'⟩ _ => Erases.pure _)
end

end Asn1Verif.Uper
