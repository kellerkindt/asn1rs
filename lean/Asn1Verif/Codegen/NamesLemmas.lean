import Asn1Verif.Codegen.Names
/-
  The name-mangling mirror (Codegen/Names.lean).  Case conversion and the disjointness of the
  character classes are arithmetic on `Char.toNat` (`omega`).  `rust_module_name` prints, besides
  underscores, the lowered input characters other than `-` (`mem_moduleA_go`): that carries every
  statement about its alphabet.
-/
namespace Asn1Verif.Codegen.Names

/-! ### ASCII character arithmetic -/

theorem isUpper_iff (c : Char) : c.isUpper = true ↔ 65 ≤ c.toNat ∧ c.toNat ≤ 90 := by
  simp only [Char.isUpper, ge_iff_le, UInt32.le_iff_toNat_le, Char.toNat_val, seval,
    decide_eq_true_eq]

theorem isLower_iff (c : Char) : c.isLower = true ↔ 97 ≤ c.toNat ∧ c.toNat ≤ 122 := by
  simp only [Char.isLower, ge_iff_le, UInt32.le_iff_toNat_le, Char.toNat_val, seval,
    Bool.and_eq_true, decide_eq_true_eq]

theorem isDigit_iff (c : Char) : c.isDigit = true ↔ 48 ≤ c.toNat ∧ c.toNat ≤ 57 := by
  simp only [Char.isDigit, ge_iff_le, UInt32.le_iff_toNat_le, Char.toNat_val, seval,
    Bool.and_eq_true, decide_eq_true_eq]

theorem isAlpha_iff (c : Char) :
    c.isAlpha = true ↔ (65 ≤ c.toNat ∧ c.toNat ≤ 90) ∨ (97 ≤ c.toNat ∧ c.toNat ≤ 122) := by
  simp only [Char.isAlpha, Bool.or_eq_true, isUpper_iff, isLower_iff]

theorem isAlphanum_iff (c : Char) :
    c.isAlphanum = true ↔ ((65 ≤ c.toNat ∧ c.toNat ≤ 90) ∨ (97 ≤ c.toNat ∧ c.toNat ≤ 122)) ∨
      (48 ≤ c.toNat ∧ c.toNat ≤ 57) := by
  simp only [Char.isAlphanum, Bool.or_eq_true, isAlpha_iff, isDigit_iff]

theorem eq_hyphen_iff (c : Char) : c = '-' ↔ c.toNat = 45 := by
  rw [← Char.toNat_inj]; rfl
theorem eq_underscore_iff (c : Char) : c = '_' ↔ c.toNat = 95 := by
  rw [← Char.toNat_inj]; rfl

/-- Bool predicates to `Nat` inequalities -/
macro "char_nat" : tactic => `(tactic|
  simp only [Bool.and_eq_true, Bool.or_eq_true, Bool.not_eq_true', Bool.not_eq_true,
    beq_iff_eq, bne_iff_ne, ne_eq, Bool.eq_false_iff, decide_eq_true_eq,
    isAlphanum_iff, isAlpha_iff, isUpper_iff, isLower_iff, isDigit_iff,
    eq_hyphen_iff, eq_underscore_iff] at *)

/-- `[A-Za-z0-9_]` -/
def idc (c : Char) : Bool := c.isAlphanum || c == '_'
/-- what may occur in an (over-approximated) ASN.1 identifier: `[A-Za-z0-9_-]` -/
def inc (c : Char) : Bool := c.isAlphanum || c == '-' || c == '_'

theorem toUpper_eq_or (c : Char) :
    (c.isLower = false ∧ c.toUpper = c) ∨ (c.isLower = true ∧ c.toUpper.isUpper = true) := by
  rw [Char.toUpper]
  split
  · next h =>
    right
    rw [isLower_iff, isUpper_iff]
    simp only [UInt32.le_iff_toNat_le, Char.toNat_val, seval] at h
    refine ⟨h, ?_⟩
    show _ ≤ (c.val + _).toNat ∧ (c.val + _).toNat ≤ _
    simp only [UInt32.toNat_add, Char.toNat_val, seval]
    omega
  · next h =>
    simp only [UInt32.le_iff_toNat_le, Char.toNat_val, seval, ← isLower_iff, Bool.not_eq_true] at h
    exact .inl ⟨h, rfl⟩

theorem toLower_eq_or (c : Char) :
    (c.isUpper = false ∧ c.toLower = c) ∨ (c.isUpper = true ∧ c.toLower.isLower = true) := by
  rw [Char.toLower]
  split
  · next h =>
    right
    rw [isUpper_iff, isLower_iff]
    simp only [ge_iff_le, UInt32.le_iff_toNat_le, Char.toNat_val, seval] at h
    refine ⟨h, ?_⟩
    show _ ≤ (c.val + _).toNat ∧ (c.val + _).toNat ≤ _
    simp only [UInt32.toNat_add, Char.toNat_val, seval]
    omega
  · next h =>
    simp only [ge_iff_le, UInt32.le_iff_toNat_le, Char.toNat_val, seval, ← isUpper_iff,
      Bool.not_eq_true] at h
    exact .inl ⟨h, rfl⟩

theorem upper_not_lower {c : Char} (h : c.isUpper = true) : c.isLower = false := by
  char_nat; omega

theorem alpha_not_sep {c : Char} (h : c.isAlpha = true) : c ≠ '-' ∧ c ≠ '_' := by
  char_nat; omega

theorem alpha_of_upper {c : Char} (h : c.isUpper = true) : c.isAlpha = true := by
  rw [Char.isAlpha, h]; rfl

theorem alpha_of_lower {c : Char} (h : c.isLower = true) : c.isAlpha = true := by
  rw [Char.isAlpha, h, Bool.or_true]

theorem class_toUpper {p : Char → Bool} (hp : ∀ d, d.isAlpha = true → p d = true) (c : Char) :
    p c.toUpper = p c := by
  rcases toUpper_eq_or c with ⟨_, e⟩ | ⟨l, u⟩
  · rw [e]
  · rw [hp _ (alpha_of_upper u), hp _ (alpha_of_lower l)]

theorem class_toLower {p : Char → Bool} (hp : ∀ d, d.isAlpha = true → p d = true) (c : Char) :
    p c.toLower = p c := by
  rcases toLower_eq_or c with ⟨_, e⟩ | ⟨u, l⟩
  · rw [e]
  · rw [hp _ (alpha_of_lower l), hp _ (alpha_of_upper u)]

theorem toLower_eq_iff {c d : Char} (hd : d.isAlpha = false) : c.toLower = d ↔ c = d := by
  rcases toLower_eq_or c with ⟨_, e⟩ | ⟨u, l⟩
  · rw [e]
  · constructor <;> rintro rfl
    · rw [alpha_of_lower l] at hd; cases hd
    · rw [alpha_of_upper u] at hd; cases hd

theorem alnum_of_alpha (d : Char) (h : d.isAlpha = true) : d.isAlphanum = true := by
  rw [Char.isAlphanum, h]; rfl

theorem idc_of_alnum {d : Char} (h : d.isAlphanum = true) : idc d = true := by
  rw [idc, h]; rfl

theorem idc_of_alpha (d : Char) (h : d.isAlpha = true) : idc d = true :=
  idc_of_alnum (alnum_of_alpha d h)

theorem idc_toUpper {c : Char} (h : idc c = true) : idc c.toUpper = true :=
  (class_toUpper idc_of_alpha c).trans h
theorem idc_toLower {c : Char} (h : idc c = true) : idc c.toLower = true :=
  (class_toLower idc_of_alpha c).trans h
theorem alnum_toUpper {c : Char} (h : c.isAlphanum = true) : c.toUpper.isAlphanum = true :=
  (class_toUpper alnum_of_alpha c).trans h
theorem alnum_toLower {c : Char} (h : c.isAlphanum = true) : c.toLower.isAlphanum = true :=
  (class_toLower alnum_of_alpha c).trans h
theorem alpha_toUpper {c : Char} (h : c.isAlpha = true) : c.toUpper.isAlpha = true :=
  (class_toUpper (fun _ h => h) c).trans h
theorem alpha_toLower {c : Char} (h : c.isAlpha = true) : c.toLower.isAlpha = true :=
  (class_toLower (fun _ h => h) c).trans h

theorem upper_toUpper_of_alpha {c : Char} (h : c.isAlpha = true) : c.toUpper.isUpper = true := by
  rcases toUpper_eq_or c with ⟨l, e⟩ | ⟨_, u⟩
  · rw [e]; rwa [Char.isAlpha, l, Bool.or_false] at h
  · exact u

theorem not_lower_toUpper (c : Char) : c.toUpper.isLower = false := by
  rcases toUpper_eq_or c with ⟨l, e⟩ | ⟨_, u⟩
  · rw [e]; exact l
  · exact upper_not_lower u

theorem not_upper_toLower (c : Char) : c.toLower.isUpper = false := by
  rcases toLower_eq_or c with ⟨u, e⟩ | ⟨_, l⟩
  · rw [e]; exact u
  · cases u : c.toLower.isUpper with
    | false => rfl
    | true => rw [upper_not_lower u] at l; cases l

theorem toUpper_of_not_lower {c : Char} (h : c.isLower = false) : c.toUpper = c := by
  rcases toUpper_eq_or c with ⟨_, e⟩ | ⟨l, _⟩
  · exact e
  · rw [h] at l; cases l

theorem toUpper_toUpper (c : Char) : c.toUpper.toUpper = c.toUpper :=
  toUpper_of_not_lower (not_lower_toUpper c)

theorem toUpper_not_sep {c : Char} (h : c ≠ '-' ∧ c ≠ '_') : c.toUpper ≠ '-' ∧ c.toUpper ≠ '_' := by
  rcases toUpper_eq_or c with ⟨_, e⟩ | ⟨_, u⟩
  · rw [e]; exact h
  · exact alpha_not_sep (alpha_of_upper u)

theorem toLower_not_sep {c : Char} (h : c ≠ '-' ∧ c ≠ '_') : c.toLower ≠ '-' ∧ c.toLower ≠ '_' := by
  rcases toLower_eq_or c with ⟨_, e⟩ | ⟨_, l⟩
  · rw [e]; exact h
  · exact alpha_not_sep (alpha_of_lower l)

theorem idc_of_inc {c : Char} (h : inc c = true) (h1 : c ≠ '-') : idc c = true := by
  simpa only [inc, idc, Bool.or_eq_true, beq_iff_eq, h1, or_false] using h

theorem alnum_of_inc {c : Char} (h : inc c = true) (hs : c ≠ '-' ∧ c ≠ '_') :
    c.isAlphanum = true := by
  simpa only [idc, Bool.or_eq_true, beq_iff_eq, hs.2, or_false] using idc_of_inc h hs.1

/-! ### layer A, `rust_variant_name` -/

theorem variantA_go_mem {d : Char} {n : Name} : ∀ {nu pu : Bool}, d ∈ variantA.go nu pu n →
    ∃ c ∈ n, (c ≠ '-' ∧ c ≠ '_') ∧ (d = c ∨ d = c.toUpper ∨ d = c.toLower) := by
  induction n with
  | nil => intro _ _ hd; cases hd
  | cons c cs ih =>
    intro nu pu hd
    have tl {nu pu} (h : d ∈ variantA.go nu pu cs) :
        ∃ x ∈ c :: cs, (x ≠ '-' ∧ x ≠ '_') ∧ (d = x ∨ d = x.toUpper ∨ d = x.toLower) :=
      (ih h).imp fun _ hx => ⟨List.mem_cons_of_mem _ hx.1, hx.2⟩
    rw [variantA.go] at hd
    split at hd
    · exact tl hd
    · next hsep =>
      have hc := not_or.mp hsep
      split at hd <;> rcases List.mem_cons.mp hd with rfl | hd
      · exact ⟨c, List.mem_cons_self, hc, .inr (.inl rfl)⟩
      · exact tl hd
      · refine ⟨c, List.mem_cons_self, hc, ?_⟩
        split
        · exact .inr (.inr rfl)
        · exact .inl rfl
      · exact tl hd

theorem variantA_go_alnum (n : Name) : ∀ (nu pu : Bool), (∀ c ∈ n, inc c = true) →
    ∀ d ∈ variantA.go nu pu n, d.isAlphanum = true := by
  intro nu pu h d hd
  obtain ⟨c, hc, hs, e⟩ := variantA_go_mem hd
  have hal := alnum_of_inc (h c hc) hs
  rcases e with rfl | rfl | rfl
  · exact hal
  · exact alnum_toUpper hal
  · exact alnum_toLower hal

theorem variantA_go_no_sep (n : Name) : ∀ (nu pu : Bool),
    ∀ d ∈ variantA.go nu pu n, d ≠ '-' ∧ d ≠ '_' := by
  intro nu pu d hd
  obtain ⟨c, _, hs, e⟩ := variantA_go_mem hd
  rcases e with rfl | rfl | rfl
  · exact hs
  · exact toUpper_not_sep hs
  · exact toLower_not_sep hs

theorem variantA_head (n : Name) :
    variantA n = [] ∨ ∃ (c : Char) (r : List Char), variantA n = c.toUpper :: r := by
  unfold variantA
  induction n with
  | nil => exact .inl rfl
  | cons c cs ih =>
    rw [variantA.go]
    by_cases h : c = '-' ∨ c = '_'
    · rw [if_pos h]; exact ih
    · rw [if_neg h]; exact .inr ⟨c, _, rfl⟩

theorem variantA_cons_alpha {c : Char} (cs : List Char) (h : c.isAlpha = true) :
    variantA (c :: cs) = c.toUpper :: variantA.go false true cs := by
  rw [variantA, variantA.go, if_neg (not_or.mpr (alpha_not_sep h))]
  rfl

/-! ### layer B, `RustCodeGenerator::rust_variant_name` -/

theorem variantB_go_false_id (n : Name) (h : ∀ d ∈ n, d ≠ '-' ∧ d ≠ '_') :
    variantB.go false n = n := by
  induction n with
  | nil => rfl
  | cons c cs ih =>
    obtain ⟨hc, hcs⟩ := List.forall_mem_cons.mp h
    rw [variantB.go, if_neg (not_or.mpr hc), ih hcs]

theorem variantB_variantA (n : Name) : variantB (variantA n) = variantA n := by
  have hns : ∀ d ∈ variantA n, d ≠ '-' ∧ d ≠ '_' := variantA_go_no_sep n true false
  rcases variantA_head n with h | ⟨c, r, h⟩
  · rw [h]; rfl
  · rw [h] at hns ⊢
    rw [variantB, variantB.go, toUpper_toUpper,
      variantB_go_false_id r fun d hd => hns d (List.mem_cons_of_mem _ hd)]

/-! ### layer A, `rust_module_name` -/

theorem mem_moduleA_go {d : Char} (hd : d ≠ '_') (pad : Bool) (n : Name) : ∀ (e u l a : Bool),
    d ∈ moduleA.go pad e u l a n ↔ ∃ c ∈ n, c ≠ '-' ∧ d = c.toLower := by
  induction n with
  | nil => simp [moduleA.go]
  | cons c cs ih =>
    intro e u l a
    rw [moduleA.go]
    -- `d` is not one of the optional underscores
    simp only [List.mem_cons, or_and_right, exists_or, exists_eq_left, List.mem_append,
      List.mem_ite_nil_right, List.not_mem_nil, or_false, hd, and_false, false_or]
    rcases toLower_eq_or c with ⟨hu, he⟩ | ⟨hu, _⟩
    · rw [he, if_neg (by simp [hu])]
      split
      · next hs =>
        have : ¬(c ≠ '-' ∧ d = c) := fun ⟨h1, h2⟩ => hs.elim h1 (h2 ▸ hd)
        simp only [List.mem_cons, hd, this, false_or, ih]
      · next hs =>
        simp only [List.mem_cons, ih, ne_eq, (not_or.mp hs).1, not_false_eq_true, true_and]
    · have : c ≠ '-' := by rintro rfl; exact absurd hu (by decide)
      simp only [if_pos hu, List.mem_append, List.mem_ite_nil_right, List.mem_cons,
        List.not_mem_nil, or_false, hd, and_false, false_or, ih, ne_eq, this, not_false_eq_true,
        true_and]

theorem exists_mem_moduleA_go {p : Char → Bool} (hlow : ∀ c, p c.toLower = p c)
    (h1 : p '_' = false) (h2 : p '-' = false) (pad : Bool) (n : Name) (e u l a : Bool) :
    (∃ d ∈ moduleA.go pad e u l a n, p d = true) ↔ ∃ c ∈ n, p c = true := by
  constructor
  · rintro ⟨d, hd, hp⟩
    have hne : d ≠ '_' := by rintro rfl; rw [h1] at hp; cases hp
    obtain ⟨c, hc, _, rfl⟩ := (mem_moduleA_go hne pad n e u l a).mp hd
    exact ⟨c, hc, by rwa [hlow] at hp⟩
  · rintro ⟨c, hc, hp⟩
    have hc1 : c ≠ '-' := by rintro rfl; rw [h2] at hp; cases hp
    rw [← hlow] at hp
    have hne : c.toLower ≠ '_' := by intro h; rw [h, h1] at hp; cases hp
    exact ⟨_, (mem_moduleA_go hne pad n e u l a).mpr ⟨c, hc, hc1, rfl⟩, hp⟩

theorem moduleA_go_idc (pad : Bool) (n : Name) : ∀ (e u l a : Bool), (∀ c ∈ n, inc c = true) →
    ∀ d ∈ moduleA.go pad e u l a n, idc d = true := by
  intro e u l a h d hd
  by_cases hu : d = '_'
  · rw [hu]; rfl
  · obtain ⟨c, hc, h1, rfl⟩ := (mem_moduleA_go hu pad n e u l a).mp hd
    exact idc_toLower (idc_of_inc (h c hc) h1)

theorem moduleA_go_lower (pad : Bool) (n : Name) : ∀ (e u l a : Bool),
    ∀ d ∈ moduleA.go pad e u l a n, d.isUpper = false ∧ d ≠ '-' := by
  intro e u l a d hd
  by_cases hu : d = '_'
  · rw [hu]; decide
  · obtain ⟨c, _, h1, rfl⟩ := (mem_moduleA_go hu pad n e u l a).mp hd
    exact ⟨not_upper_toLower c, mt (toLower_eq_iff rfl).mp h1⟩

theorem moduleA_cons_alpha (pad : Bool) {c : Char} (cs : List Char) (h : c.isAlpha = true) :
    ∃ r, moduleA pad (c :: cs) = (if c.isUpper then c.toLower else c) :: r := by
  have hs := alpha_not_sep h
  unfold moduleA moduleA.go
  simp only [padNow, underA, Bool.not_true, Bool.and_false, Bool.false_and, Bool.false_eq_true,
    if_false, List.nil_append]
  split
  · exact ⟨_, rfl⟩
  · simp only [hs.1, hs.2, or_self, if_false]; exact ⟨_, rfl⟩

theorem shape_cons {x : Char} {r : Name} (hx : x.isAlpha = true) (hr : ∀ d ∈ r, idc d = true) :
    RustIdentShape (x :: r) = true := by
  simp only [RustIdentShape, Bool.and_eq_true, List.all_eq_true, hx, Bool.true_or, true_and]
  exact hr

theorem moduleA_shape (pad : Bool) {c : Char} {cs : Name} (hc : c.isAlpha = true)
    (h : ∀ d ∈ c :: cs, inc d = true) :
    ∃ x r, moduleA pad (c :: cs) = x :: r ∧ x.isAlpha = true ∧ ∀ d ∈ r, idc d = true := by
  obtain ⟨r, hr⟩ := moduleA_cons_alpha pad cs hc
  have hidc : ∀ d ∈ moduleA pad (c :: cs), idc d = true := moduleA_go_idc pad _ _ _ _ _ h
  rw [hr] at hidc
  refine ⟨_, r, hr, ?_, fun d hd => hidc d (List.mem_cons_of_mem _ hd)⟩
  split
  · exact alpha_toLower hc
  · exact hc

/-! ### `make_name_nice` -/

theorem stripSuffix_cases (n s : Name) :
    (∃ t, n = t ++ s ∧ stripSuffix n s = t) ∨ stripSuffix n s = n := by
  unfold stripSuffix
  split
  · next h =>
    obtain ⟨t, rfl⟩ := List.isSuffixOf_iff_suffix.mp h
    exact .inl ⟨t, rfl, by simp⟩
  · exact .inr rfl

theorem stripSuffix_prefix (n s : Name) : stripSuffix n s <+: n := by
  rcases stripSuffix_cases n s with ⟨t, h1, h2⟩ | h
  · rw [h2]; exact ⟨s, h1.symm⟩
  · rw [h]; exact List.prefix_refl n

theorem makeNameNice_prefix (n : Name) : makeNameNice n <+: n :=
  (stripSuffix_prefix _ _).trans (stripSuffix_prefix _ _)

theorem makeNameNice_eq_nil {n : Name} (h : makeNameNice n = []) :
    n = [] ∨ n = "Module".toList ∨ n = "_Module".toList ∨
      n = "Module".toList ++ "_Module".toList := by
  unfold makeNameNice at h
  rcases stripSuffix_cases n "_Module".toList with ⟨t, h3, h4⟩ | h4 <;> rw [h4] at h
  · rcases stripSuffix_cases t "Module".toList with ⟨t', h1, h2⟩ | h2 <;> rw [h2] at h
    · rw [h1, h, List.nil_append] at h3; exact .inr (.inr (.inr h3))
    · rw [h, List.nil_append] at h3; exact .inr (.inr (.inl h3))
  · rcases stripSuffix_cases n "Module".toList with ⟨t', h1, h2⟩ | h2 <;> rw [h2] at h
    · rw [h, List.nil_append] at h1; exact .inr (.inl h1)
    · exact .inl h

/-! ### layer B on layer A's output -/

theorem replHyphen_id (n : Name) (h : ∀ d ∈ n, d ≠ '-') : replHyphen n = n :=
  (List.map_congr_left fun d hd => if_neg (h d hd)).trans (List.map_id _)

theorem moduleB_go_id (n : Name) (h : ∀ d ∈ n, d.isUpper = false ∧ d ≠ '-') :
    ∀ (e l : Bool), moduleB.go e l n = n := by
  induction n with
  | nil => intro e l; rfl
  | cons c cs ih =>
    intro e l
    obtain ⟨hc, hcs⟩ := List.forall_mem_cons.mp h
    rw [moduleB.go, if_neg (Bool.eq_false_iff.mp hc.1), if_neg hc.2, ih hcs]

theorem moduleB_moduleA (pad : Bool) (n : Name) : moduleB (moduleA pad n) = moduleA pad n :=
  moduleB_go_id _ (moduleA_go_lower pad n _ _ _ _) _ _

theorem replHyphen_moduleA (pad : Bool) (n : Name) : replHyphen (moduleA pad n) = moduleA pad n :=
  replHyphen_id _ (fun d hd => (moduleA_go_lower pad n _ _ _ _ d hd).2)

/-! ### keywords -/

theorem rustKeyword_facts {k : Name} (h : isRustKeyword k = true) : k.any Char.isLower = true ∧
    '_' ∉ k ∧ (k.head?.any Char.isUpper = true → k = "Self".toList) := by
  have table : ∀ k ∈ rustKeywords, k.any Char.isLower = true ∧ '_' ∉ k ∧
      (k.head?.any Char.isUpper = true → k = "Self".toList) := by
    decide +kernel
  exact table k (List.contains_iff_mem.mp h)

theorem escaped_not_keyword (k : Name) : isRustKeyword (k ++ ['_']) = false :=
  Bool.eq_false_iff.mpr fun h => (rustKeyword_facts h).2.1 (by simp)

theorem mem_uncoveredKeywords {r : Name} :
    r ∈ uncoveredKeywords ↔ isRustKeyword r = true ∧ keywordsB.contains r = false := by
  simp only [uncoveredKeywords, List.mem_filter, isRustKeyword, List.contains_iff_mem,
    Bool.not_eq_true']

theorem contains_map_toList (ss : List String) (n : Name) :
    (ss.map String.toList).contains n = ss.contains (String.ofList n) := by
  induction ss with
  | nil => rfl
  | cons s ss ih =>
    rw [List.map_cons, List.contains_cons, List.contains_cons, ih, Bool.eq_iff_iff]
    simp only [Bool.or_eq_true, beq_iff_eq, ← String.toList_inj (s₂ := s), String.toList_ofList]

/-- Kernel evaluation of a closed statement about concrete names.  Cheap because keywords are looked
    up in the tables of strings (`contains_map_toList`) and `"…".toList` is rewritten to the
    character list, where the kernel would encode the literal to UTF-8 and decode it again. -/
macro "names_eval" : tactic => `(tactic| (
  try simp only [emitField, fieldB, mem_uncoveredKeywords, isRustKeyword, rustKeywords, keywordsB,
    contains_map_toList]
  repeat rw [String.toList_ofList]
  decide +kernel))

theorem emitField_eq (n : Name) :
    emitField n = if keywordsB.contains (fieldA n) then fieldA n ++ ['_'] else fieldA n := by
  unfold emitField fieldB
  simp only [fieldA, replHyphen_moduleA, Bool.true_and]
  rfl

theorem emitVariant_eq (n : Name) : emitVariant n = variantA n := variantB_variantA n

theorem emitModule_eq (n : Name) : emitModule n = moduleA false (makeNameNice n) :=
  moduleB_moduleA false _

/-! ### names that differ only in the separator used (`-` vs `_`) -/

/-- equal up to exchanging `-` and `_` position by position -/
inductive SepEq : Name → Name → Prop
  | nil : SepEq [] []
  | same (c : Char) {a b : Name} : SepEq a b → SepEq (c :: a) (c :: b)
  | sep {c d : Char} {a b : Name} : (c = '-' ∨ c = '_') → (d = '-' ∨ d = '_') → SepEq a b →
      SepEq (c :: a) (d :: b)

theorem SepEq.refl (a : Name) : SepEq a a := by
  induction a with
  | nil => exact .nil
  | cons c cs ih => exact .same c ih

theorem SepEq.symm {a b : Name} (h : SepEq a b) : SepEq b a := by
  induction h with
  | nil => exact .nil
  | same c _ ih => exact .same c ih
  | sep h1 h2 _ ih => exact .sep h2 h1 ih

theorem SepEq.nextIsLower {a b : Name} (h : SepEq a b) : nextIsLower a = nextIsLower b := by
  cases h with
  | nil => rfl
  | same c _ => rfl
  | sep h1 h2 _ =>
    rcases h1 with rfl | rfl <;> rcases h2 with rfl | rfl <;> rfl

theorem replHyphen_eq_iff (a b : Name) : replHyphen a = replHyphen b ↔ SepEq a b := by
  unfold replHyphen
  constructor
  · intro h
    induction a generalizing b with
    | nil =>
      cases b with
      | nil => exact .nil
      | cons d ds => simp at h
    | cons c cs ih =>
      cases b with
      | nil => simp at h
      | cons d ds =>
        simp only [List.map_cons, List.cons.injEq] at h
        have t := ih ds h.2
        by_cases hc : c = '-' <;> by_cases hd : d = '-'
        · exact .sep (.inl hc) (.inl hd) t
        · simp only [hc, if_true, hd, if_false] at h
          exact .sep (.inl hc) (.inr h.1.symm) t
        · simp only [hc, if_false, hd, if_true] at h
          exact .sep (.inr h.1) (.inl hd) t
        · simp only [hc, if_false, hd] at h
          rw [h.1]; exact .same d t
  · intro h
    induction h with
    | nil => rfl
    | same c _ ih => simp only [List.map_cons, ih]
    | sep h1 h2 _ ih =>
      simp only [List.map_cons, ih, List.cons.injEq, and_true]
      rcases h1 with rfl | rfl <;> rcases h2 with rfl | rfl <;> decide

theorem variantA_go_sepEq {a b : Name} (h : SepEq a b) :
    ∀ nu pu, variantA.go nu pu a = variantA.go nu pu b := by
  induction h with
  | nil => intro nu pu; rfl
  | @same c a b hab ih =>
    intro nu pu
    rw [variantA.go, variantA.go, hab.nextIsLower]
    simp only [ih]
  | sep h1 h2 _ ih =>
    intro nu pu
    rw [variantA.go, variantA.go, if_pos h1, if_pos h2, ih]

theorem moduleA_go_sep (pad : Bool) {c : Char} (h : c = '-' ∨ c = '_') (cs : Name)
    (e u l a : Bool) :
    moduleA.go pad e u l a (c :: cs) = '_' :: moduleA.go pad false true false false cs := by
  rcases h with rfl | rfl <;> simp [moduleA.go, padNow]

theorem moduleA_go_sepEq (pad : Bool) {a b : Name} (h : SepEq a b) :
    ∀ e u l al, moduleA.go pad e u l al a = moduleA.go pad e u l al b := by
  induction h with
  | nil => intro e u l al; rfl
  | @same c a b hab ih =>
    intro e u l al
    rw [moduleA.go, moduleA.go]
    simp only [underA, hab.nextIsLower, ih]
    rfl
  | sep h1 h2 _ ih =>
    intro e u l al
    rw [moduleA_go_sep pad h1, moduleA_go_sep pad h2, ih]

/-! ### conventional identifiers: lower-case letters, digits, single hyphens -/

def lowerHyphenChar (c : Char) : Bool := c.isLower || c.isDigit || c == '-'

/-- the usual ASN.1 spelling of component names: `secret-message`, `value-1` -/
def LowerHyphen (n : Name) : Bool := n.all lowerHyphenChar

theorem lowerHyphenChar_facts {c : Char} (h : lowerHyphenChar c = true) :
    c.isUpper = false ∧ c ≠ '_' := by
  unfold lowerHyphenChar at h
  char_nat
  constructor <;> omega

theorem moduleA_go_lowerHyphen (n : Name) (h : LowerHyphen n = true) :
    ∀ e u l a, moduleA.go false e u l a n = replHyphen n := by
  induction n with
  | nil => intro e u l a; rfl
  | cons c cs ih =>
    intro e u l a
    simp only [LowerHyphen, List.all_cons, Bool.and_eq_true] at h
    obtain ⟨hu, hne⟩ := lowerHyphenChar_facts h.1
    have ih' := ih (by simpa [LowerHyphen] using h.2)
    rw [moduleA.go]
    simp only [padNow, Bool.false_and, Bool.false_eq_true, if_false, List.nil_append, hu, hne,
      or_false, replHyphen, List.map_cons]
    split <;> simp only [ih' _ _ _ _, replHyphen]

theorem fieldA_lowerHyphen (n : Name) (h : LowerHyphen n = true) : fieldA n = replHyphen n :=
  moduleA_go_lowerHyphen n h _ _ _ _

theorem SepEq.eq_of_no_underscore {a b : Name} (h : SepEq a b) (ha : '_' ∉ a) (hb : '_' ∉ b) :
    a = b := by
  induction h with
  | nil => rfl
  | same c _ ih => rw [ih (mt (List.mem_cons_of_mem _) ha) (mt (List.mem_cons_of_mem _) hb)]
  | sep h1 h2 _ ih =>
    rw [ih (mt (List.mem_cons_of_mem _) ha) (mt (List.mem_cons_of_mem _) hb),
      h1.resolve_right fun e => ha (e ▸ List.mem_cons_self),
      h2.resolve_right fun e => hb (e ▸ List.mem_cons_self)]

theorem hyphensOk_last (n : Name) (h : hyphensOk n = true) :
    ∀ x, n.getLast? = some x → x ≠ '-' := by
  induction n using hyphensOk.induct with
  | case1 => intro x hx; cases hx
  | case2 c => intro x hx; cases hx; exact bne_iff_ne.mp h
  | case3 c d cs ih =>
    intro x hx
    rw [List.getLast?_cons_cons] at hx
    rw [hyphensOk, Bool.and_eq_true] at h
    exact ih h.2 x hx

theorem asnIdent_last (n : Name) (h : AsnIdent n = true) : ∀ x, n.getLast? = some x → x ≠ '-' := by
  cases n with
  | nil => simp [AsnIdent] at h
  | cons c cs =>
    simp only [AsnIdent, Bool.and_eq_true] at h
    exact hyphensOk_last _ h.2

theorem replHyphen_snoc (b x : Name) (h : replHyphen b = x ++ ['_']) :
    ∃ c, b.getLast? = some c ∧ (c = '-' ∨ c = '_') := by
  have := congrArg List.getLast? h
  simp only [replHyphen, List.getLast?_map, List.getLast?_append, List.getLast?_singleton,
    Option.some_or, Option.map_eq_some_iff] at this
  obtain ⟨c, hc, e⟩ := this
  refine ⟨c, hc, ?_⟩
  by_cases e' : c = '-'
  · exact .inl e'
  · rw [if_neg e'] at e; exact .inr e

end Asn1Verif.Codegen.Names
