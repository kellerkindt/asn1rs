import Asn1Verif.Front.ParserBase
import Asn1Verif.Front.Printer
import Asn1Verif.Front.ParserSimp
/-
  Numbers: what `toString` prints, `str::parse` (the model's `parseU64`/`parseI64`) reads back; a printed
  number is never taken for a keyword.
-/
namespace Asn1Verif.Front.Syn

theorem toLower_of_isDigit (c : Char) (h : c.isDigit = true) : c.toLower = c := by
  unfold Char.toLower
  unfold Char.isDigit at h
  simp only [Bool.and_eq_true, decide_eq_true_eq, ge_iff_le] at h
  have h1 := h.1
  have h2 := h.2
  rw [UInt32.le_iff_toNat_le] at h1 h2
  split
  · rename_i h3
    have h4 := h3.1
    rw [ge_iff_le, UInt32.le_iff_toNat_le] at h4
    simp at h1 h2 h4
    omega
  · rfl

theorem toDigits_all_isDigit (n : Nat) : (Nat.toDigits 10 n).all Char.isDigit = true := by
  rw [List.all_eq_true]
  intro c hc
  exact Nat.isDigit_of_mem_toDigits (by decide) (by decide) hc

theorem toDigits_cons (n : Nat) : ∃ c r, Nat.toDigits 10 n = c :: r ∧ c.isDigit = true := by
  cases h : Nat.toDigits 10 n with
  | nil => exact absurd h Nat.toDigits_ne_nil
  | cons c r =>
    refine ⟨c, r, rfl, ?_⟩
    have := toDigits_all_isDigit n
    rw [h] at this
    simp only [List.all_cons, Bool.and_eq_true] at this
    exact this.1

theorem parseDigits_toDigits (n : Nat) : parseDigits (Nat.toDigits 10 n) = some n := by
  unfold parseDigits
  obtain ⟨c, r, h, _⟩ := toDigits_cons n
  have h1 : (Nat.toDigits 10 n).isEmpty = false := by rw [h]; rfl
  simp [h1, toDigits_all_isDigit]

theorem toString_nat_toList (n : Nat) : (toString n).toList = Nat.toDigits 10 n := by
  show (Nat.repr n).toList = _
  exact Nat.toList_repr

theorem toString_int_toList (i : Int) :
    (toString i).toList =
      if 0 ≤ i then Nat.toDigits 10 i.toNat else '-' :: Nat.toDigits 10 (-i).toNat := by
  rw [Int.toString_eq_repr, Int.repr_eq_if]
  split
  · exact Nat.toList_repr
  · rw [String.toList_append, Nat.toList_repr]; rfl

theorem toDigits_ne_cons (n : Nat) (c0 : Char) (h0 : c0.isDigit = false) (ds : List Char) :
    Nat.toDigits 10 n ≠ c0 :: ds := by
  obtain ⟨c, r, hc, hd⟩ := toDigits_cons n
  intro heq
  rw [hc] at heq
  injection heq with h1 _
  rw [h1, h0] at hd
  cases hd

theorem parseU64L_toDigits (n : Nat) (h : n ≤ U64_MAX) : parseU64L (Nat.toDigits 10 n) = some n := by
  have hstrip : stripPlus (Nat.toDigits 10 n) = Nat.toDigits 10 n := by
    unfold stripPlus
    split
    · rename_i ds heq
      exact absurd heq (toDigits_ne_cons n '+' rfl ds)
    · rfl
  simp only [parseU64L, hstrip, parseDigits_toDigits, h, if_true]

theorem parseU64_toString (n : Nat) (h : n ≤ U64_MAX) : parseU64 (toString n) = some n := by
  unfold parseU64
  rw [toString_nat_toList]
  exact parseU64L_toDigits n h

theorem parseI64L_toDigits (n : Nat) (h : n < 2 ^ 63) :
    parseI64L (Nat.toDigits 10 n) = some (n : Int) := by
  unfold parseI64L
  split
  · rename_i ds heq
    exact absurd heq (toDigits_ne_cons n '-' rfl ds)
  · rename_i ds heq
    exact absurd heq (toDigits_ne_cons n '+' rfl ds)
  · simp only [parseDigits_toDigits, h, if_true]

theorem parseI64_toString (i : Int) (h1 : I64_MIN ≤ i) (h2 : i ≤ I64_MAX) :
    parseI64 (toString i) = some i := by
  unfold parseI64
  rw [toString_int_toList]
  unfold I64_MIN at h1
  unfold I64_MAX at h2
  split
  · rename_i h0
    rw [parseI64L_toDigits _ (by omega)]
    congr 1
    omega
  · rename_i h0
    show (match parseDigits (Nat.toDigits 10 (-i).toNat) with
      | some n => if n ≤ 2 ^ 63 then some (-(n : Int)) else none
      | none => none) = some i
    rw [parseDigits_toDigits]
    have : (-i).toNat ≤ 2 ^ 63 := by omega
    simp only [this, if_true]
    congr 1
    omega

@[tok] theorem eqIC_self (s : String) : eqIC s s = true := by
  unfold eqIC eqICL lowerL
  exact beq_self_eq_true _

theorem ne_of_eqIC_false {a b : String} (h : eqIC a b = false) : a ≠ b := by
  intro e
  rw [e, eqIC_self] at h
  exact Bool.noConfusion h

theorem eqICL_false_of_heads (c : Char) (r : List Char) (kw : String) (d : Char) (r' : List Char)
    (hk : lowerL kw = d :: r') (hne : c.toLower ≠ d) : eqICL (c :: r) kw = false := by
  unfold eqICL
  rw [hk]
  simp [hne]

theorem toString_int_head (i : Int) :
    ∃ c r, (toString i).toList = c :: r ∧ (c.isDigit = true ∨ c = '-') := by
  rw [toString_int_toList]
  split
  · obtain ⟨c, r, h, hd⟩ := toDigits_cons i.toNat
    exact ⟨c, r, h, Or.inl hd⟩
  · exact ⟨'-', _, rfl, Or.inr rfl⟩

/-- `kw` starts with a character that no printed number starts with (ignoring case) -/
def alphaHead (kw : String) : Bool :=
  match lowerL kw with
  | d :: _ => !d.isDigit && d != '-'
  | [] => false

/-- a printed number differs in the first character from the keywords the parser compares bounds,
    literals and tag classes with -/
theorem eqIC_num_kw (s kw : String) (hs : ∃ c r, s.toList = c :: r ∧ (c.isDigit = true ∨ c = '-'))
    (hk : alphaHead kw = true) : eqIC s kw = false := by
  obtain ⟨c, r, hs, hc⟩ := hs
  unfold alphaHead at hk
  split at hk
  · rename_i d r' hd
    simp only [Bool.and_eq_true, Bool.not_eq_true', bne_iff_ne, ne_eq] at hk
    unfold eqIC
    rw [hs]
    refine eqICL_false_of_heads c r kw d r' hd ?_
    cases hc with
    | inl h =>
      rw [toLower_of_isDigit c h]
      intro e
      rw [e, hk.1] at h
      exact Bool.noConfusion h
    | inr h => exact fun e => hk.2 (by rw [← e, h]; rfl)
  · exact Bool.noConfusion hk

theorem eqIC_int_kw (i : Int) (kw : String) (hk : alphaHead kw = true) :
    eqIC (toString i) kw = false := eqIC_num_kw _ kw (toString_int_head i) hk

theorem eqIC_nat_kw (n : Nat) (kw : String) (hk : alphaHead kw = true) :
    eqIC (toString n) kw = false := by
  refine eqIC_num_kw _ kw ?_ hk
  rw [toString_nat_toList]
  obtain ⟨c, r, h, hd⟩ := toDigits_cons n
  exact ⟨c, r, h, Or.inl hd⟩

theorem toString_nat_all_isDigit (n : Nat) : (toString n).toList.all Char.isDigit = true := by
  rw [toString_nat_toList]; exact toDigits_all_isDigit n

theorem looksLikeInt_toString (i : Int) : looksLikeInt (toString i).toList = true := by
  unfold looksLikeInt isAsciiDigit
  rw [toString_int_toList]
  split
  · simp [toDigits_all_isDigit]
  · obtain ⟨c, r, h, _⟩ := toDigits_cons (-i).toNat
    have hall := toDigits_all_isDigit (-i).toNat
    have hne : (Nat.toDigits 10 (-i).toNat).isEmpty = false := by rw [h]; rfl
    simp only [Bool.or_eq_true]
    right
    show (!(Nat.toDigits 10 (-i).toNat).isEmpty && (Nat.toDigits 10 (-i).toNat).all fun c => c.isDigit) = true
    rw [hne]
    simpa using hall

end Asn1Verif.Front.Syn
