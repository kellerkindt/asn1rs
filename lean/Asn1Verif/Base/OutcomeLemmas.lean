import Asn1Verif.Base.Outcome
namespace Asn1Verif
open Outcome

namespace Outcome

theorem bind_assoc {α β γ : Type} (x : Outcome α) (f : α → Outcome β) (g : β → Outcome γ) :
    x >>= f >>= g = x >>= fun a => f a >>= g := by
  cases x <;> rfl

theorem bind_ok_right {α : Type} (x : Outcome α) : (x >>= fun a => ok a) = x := by
  cases x <;> rfl

theorem bind_congr {α β : Type} {x : Outcome α} {f g : α → Outcome β}
    (h : ∀ a, x = ok a → f a = g a) : (x >>= f) = (x >>= g) := by
  cases x with
  | ok a => exact h a rfl
  | err k => rfl
  | panic => rfl

theorem bind_eq_err {α β : Type} {x : Outcome α} {f : α → Outcome β} {e : ErrKind} :
    (x >>= f) = err e ↔ x = err e ∨ ∃ a, x = ok a ∧ f a = err e := by
  cases x <;> simp

theorem bind_eq_panic {α β : Type} {x : Outcome α} {f : α → Outcome β} :
    (x >>= f) = panic ↔ x = panic ∨ ∃ a, x = ok a ∧ f a = panic := by
  cases x <;> simp

theorem bind_ne_panic {α β : Type} {x : Outcome α} {f : α → Outcome β} (hx : x ≠ panic)
    (hf : ∀ a, x = ok a → f a ≠ panic) : (x >>= f) ≠ panic := fun h =>
  (bind_eq_panic.1 h).elim hx fun ⟨a, ha, h⟩ => hf a ha h

theorem bind_of_ok {α β : Type} {P : α → Prop} {R : Outcome β → Prop} {c : Outcome α}
    {k : α → Outcome β} (h : ∃ a, c = ok a ∧ P a) (hk : ∀ a, P a → R (k a)) : R (c >>= k) := by
  obtain ⟨a, rfl, p⟩ := h
  exact hk a p

end Outcome

theorem ite_of {α : Type} {P : α → Prop} {c : Prop} [Decidable c] {a b : α} (ha : P a) (hb : P b) :
    P (if c then a else b) := by
  split
  · exact ha
  · exact hb

theorem rel_ite {A B : Type} {R : A → B → Prop} {p : Prop} [Decidable p] {m m' : A} {c c' : B}
    (ht : p → R m c) (hf : ¬ p → R m' c') : R (if p then m else m') (if p then c else c') := by
  split
  · exact ht ‹_›
  · exact hf ‹_›

theorem uSub_ok {a b : Nat} (h : b ≤ a) : uSub a b = ok (a - b) := if_pos h

theorem i64AsU64_lt (v : Int) : i64AsU64 v < 2 ^ 64 := by
  unfold i64AsU64; omega

theorem u64AsI64_i64AsU64 (v : Int) (h1 : -(2 ^ 63 : Int) ≤ v) (h2 : v < 2 ^ 63) :
    u64AsI64 (i64AsU64 v) = v := by
  unfold u64AsI64 i64AsU64; omega

end Asn1Verif
