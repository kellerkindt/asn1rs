import Asn1Verif.Front.ResolveSubst
/-
  Resolution looks at the scope only through two views: the value found under a name and whether a type
  name denotes an ENUMERATED type.  In a fixed scope a value reference resolves like the literal it
  names (`resolveTy_subst`); scopes with equal views (`ScopeEquiv`) resolve everything alike
  (`resolveTy_congr`): the step from a module with references to its literal variant and from one load
  order to another.
-/
namespace Asn1Verif.Front.Syn
open Except

@[simp] theorem FRr.bind_ok {α β : Type} (a : α) (f : α → FR β) :
    ((Except.ok a : FR α) >>= f) = f a := rfl
@[simp] theorem FRr.bind_error {α β : Type} (e : FErr) (f : α → FR β) :
    ((Except.error e : FR α) >>= f) = .error e := rfl
@[simp] theorem FRr.pure_eq {α : Type} (a : α) : (pure a : FR α) = .ok a := rfl

theorem FR.bind_eq_ok {α β : Type} (x : FR α) (f : α → FR β) (b : β) :
    (x >>= f) = .ok b ↔ ∃ a, x = .ok a ∧ f a = .ok b := by
  cases x <;> simp

theorem usizeTryFrom_nonneg (i : Int) (h0 : 0 ≤ i) : usizeTryFrom i = some i.toNat := by
  simp [usizeTryFrom, h0]

theorem usizeTryFrom_neg (i : Int) (h0 : i < 0) : usizeTryFrom i = none :=
  if_neg (Int.not_le.mpr h0)

theorem LiteralValue.toInteger_eq_some {v : LiteralValue} {i : Int} :
    v.toInteger = some i ↔ v = .integer i := by
  cases v <;> simp [LiteralValue.toInteger]

def Scope.valueOf (sc : Scope) (n : String) : FR (Option LiteralValue) :=
  match sc.valueReference n with
  | .ok o => .ok (o.map (·.value))
  | .error e => .error e

/-- what `Asn::try_resolve` looks at in the definition found under a type name -/
inductive EnumView where
  | enumerated (e : Enumerated)
  | other

def Scope.enumView (sc : Scope) (n : String) : EnumView :=
  match sc.resolveTypeRef n with
  | .ok (.enumerated e) => .enumerated e
  | _ => .other

structure ScopeEquiv (sc sc' : Scope) : Prop where
  value : ∀ n, sc'.valueOf n = sc.valueOf n
  enum : ∀ n, sc'.enumView n = sc.enumView n

theorem bind_valueReference_congr {β : Type} {sc sc' : Scope} {n : String}
    (h : sc'.valueOf n = sc.valueOf n) (F : Option UValueReference → FR β)
    (hF : ∀ vr vr' : UValueReference, vr'.value = vr.value → F (some vr') = F (some vr)) :
    (sc'.valueReference n >>= F) = (sc.valueReference n >>= F) := by
  unfold Scope.valueOf at h
  revert h
  rcases sc.valueReference n with e | _ | vr <;> rcases sc'.valueReference n with e' | _ | vr' <;>
    intro h <;>
    simp only [Option.map_some, Option.map_none, Except.ok.injEq, Except.error.injEq,
      Option.some.injEq, reduceCtorEq] at h
  · rw [h]
  · rfl
  · exact hF vr vr' h

theorem resolveDefault_ref (sc : Scope) (r : String) (tag : Option Tag) (n : String) :
    sc.resolveDefault (.typeReference r tag) (.ref n) =
      match sc.enumView r with
      | .enumerated e =>
        (match e.variants.find? fun v => n == v.name with
         | some v => .ok (.enumeratedVariant r v.name)
         | none => sc.resolveConst (.ref n))
      | .other => sc.resolveConst (.ref n) := by
  simp only [Scope.resolveDefault, Scope.enumView]
  cases sc.resolveTypeRef r with
  | error e => rfl
  | ok t => cases t <;> rfl

theorem resolveDefault_of_safe (sc : Scope) (r : String) (tag tag' : Option Tag) (n : String) :
    DefaultSafe sc (.typeReference r tag') n →
      sc.resolveDefault (.typeReference r tag) (.ref n) = sc.resolveConst (.ref n) := by
  simp only [DefaultSafe, Scope.resolveDefault]
  split
  next e he => intro h; simp only [he, h]
  next hne =>
    intro _
    split
    next e he => exact absurd he (hne e)
    · rfl

/-! ### a reference resolves like the literal it names -/

section
variable (sc : Scope) (σ : Sigma) (ha : Agrees sc σ)
include ha

theorem resolveInt_subst (l : URange) : sc.resolveInt (substInt σ l) = sc.resolveInt l := by
  cases l with
  | lit i => rfl
  | ref n =>
    simp only [substInt]
    split
    next i hσ =>
      obtain ⟨vr, hvr, hv⟩ := ha n _ hσ
      simp only [Scope.resolveInt, hvr, hv, FRr.bind_ok, LiteralValue.toInteger]
    · rfl

theorem resolveSizeVal_subst (a : USz) :
    sc.resolveSizeVal (substSizeAtom σ a) = sc.resolveSizeVal a := by
  cases a with
  | lit i => rfl
  | ref n =>
    simp only [substSizeAtom]
    split
    next i hσ =>
      obtain ⟨vr, hvr, hv⟩ := ha n _ hσ
      split
      next h0 =>
        simp only [Scope.resolveSizeVal, hvr, hv, FRr.bind_ok, LiteralValue.toInteger,
          usizeTryFrom_nonneg i h0]
      · rfl
    · rfl

theorem resolveRange_subst (r : Range URange) :
    sc.resolveRange (substRange σ r) = sc.resolveRange r := by
  obtain ⟨_ | a, _ | b, e⟩ := r <;>
    simp only [Scope.resolveRange, substRange, Option.map, Scope.resolveOptInt,
      resolveInt_subst sc σ ha]

theorem resolveSize_subst (s : Size USz) : sc.resolveSize (substSize σ s) = sc.resolveSize s := by
  cases s <;> simp only [Scope.resolveSize, substSize, resolveSizeVal_subst sc σ ha]

/-- The default is resolved against the resolved component type `ty`, while `DefaultOk` speaks of the
    type as written, `uty`; `hty` is all that links the two. -/
theorem resolveDefault_subst (ty : RTy) (uty : UTy)
    (hty : ∀ r tag, ty = .typeReference r tag → ∃ tag', uty = .typeReference r tag')
    (d : UConst) (hs : DefaultOk sc σ uty (some d)) :
    sc.resolveDefault ty (substDefault σ d) = sc.resolveDefault ty d := by
  cases d with
  | lit v => rfl
  | ref n =>
    simp only [substDefault]
    split
    next v hσ =>
      obtain ⟨vr, hvr, rfl⟩ := ha n v hσ
      have hsafe : DefaultSafe sc uty n := hs (by simp [hσ])
      have hconst : sc.resolveConst (.ref n) = .ok vr.value := by
        simp only [Scope.resolveConst, hvr, FRr.bind_ok]
      cases ty with
      | typeReference r tag =>
        obtain ⟨tag', rfl⟩ := hty r tag rfl
        rw [resolveDefault_of_safe sc r tag tag' n hsafe, hconst]
        rfl
      | _ => exact hconst.symm
    · rfl

end

theorem resolveTy_typeReference_inv (sc : Scope) (u : UTy) (r : String) (tag : Option Tag)
    (h : sc.resolveTy u = .ok (.typeReference r tag)) : u = .typeReference r tag := by
  cases u <;> simp only [Scope.resolveTy, FR.bind_eq_ok, FRr.pure_eq, Except.ok.injEq,
    reduceCtorEq, and_false, exists_false] at h
  case typeReference n t =>
    injection h with h1 h2
    subst h1 h2
    rfl

section
variable (sc : Scope) (σ : Sigma) (ha : Agrees sc σ)

include ha in
mutual
theorem resolveTy_subst : ∀ t : UTy, SafeTy sc σ t → sc.resolveTy (substTy σ t) = sc.resolveTy t
  | .boolean, _ | .null, _ | .enumerated _, _ | .typeReference .., _ => rfl
  | .integer .., _ | .string .., _ | .octetString _, _ | .bitString .., _ => by
    simp only [substTy, Scope.resolveTy, resolveRange_subst sc σ ha, resolveSize_subst sc σ ha]
  | .optional t, hs | .sequenceOf t _, hs | .setOf t _, hs => by
    simp only [substTy, Scope.resolveTy, resolveTy_subst t hs, resolveSize_subst sc σ ha]
  | .sequence fs _, hs | .set fs _, hs => by
    simp only [substTy, Scope.resolveTy, resolveFields_subst fs hs]
  | .choice vs _, hs => by
    simp only [substTy, Scope.resolveTy, resolveVariants_subst vs hs]

theorem resolveFields_subst : ∀ fs : UFields, SafeFields sc σ fs →
    sc.resolveFields (substFields σ fs) = sc.resolveFields fs
  | .nil, _ => rfl
  | .cons name tag ty d rest, ⟨hty, hd, hrest⟩ => by
    simp only [substFields, Scope.resolveFields, resolveTy_subst ty hty,
      resolveFields_subst rest hrest]
    cases hres : sc.resolveTy ty with
    | error e => rfl
    | ok t =>
      cases d with
      | none => rfl
      | some d =>
        have hinv : ∀ r tg, t = .typeReference r tg → ∃ tag', ty = .typeReference r tag' :=
          fun r tg ht => ⟨tg, resolveTy_typeReference_inv sc ty r tg (ht ▸ hres)⟩
        simp only [Option.map_some, FRr.bind_ok, resolveDefault_subst sc σ ha t ty hinv d hd]

theorem resolveVariants_subst : ∀ vs : UVariants, SafeVariants sc σ vs →
    sc.resolveVariants (substVariants σ vs) = sc.resolveVariants vs
  | .nil, _ => rfl
  | .cons name tag ty rest, ⟨hty, hrest⟩ => by
    simp only [substVariants, Scope.resolveVariants, resolveTy_subst ty hty,
      resolveVariants_subst rest hrest]
end

end

/-! ### scopes with equal views resolve alike -/

section
variable {sc sc' : Scope} (h : ScopeEquiv sc sc')
include h

theorem resolveInt_congr (l : URange) : sc'.resolveInt l = sc.resolveInt l := by
  cases l with
  | lit i => rfl
  | ref n => exact bind_valueReference_congr (h.value n) _ fun _ _ hv => by simp only [hv]

theorem resolveSizeVal_congr (l : USz) : sc'.resolveSizeVal l = sc.resolveSizeVal l := by
  cases l with
  | lit i => rfl
  | ref n => exact bind_valueReference_congr (h.value n) _ fun _ _ hv => by simp only [hv]

theorem resolveConst_congr (l : UConst) : sc'.resolveConst l = sc.resolveConst l := by
  cases l with
  | lit i => rfl
  | ref n => exact bind_valueReference_congr (h.value n) _ fun _ _ hv => by simp only [hv]

theorem resolveDefault_congr (ty : RTy) (d : UConst) :
    sc'.resolveDefault ty d = sc.resolveDefault ty d := by
  cases d with
  | lit v => rfl
  | ref n =>
    cases ty with
    | typeReference r tag => simp only [resolveDefault_ref, h.enum, resolveConst_congr h]
    | _ => exact resolveConst_congr h (.ref n)

theorem resolveSize_congr (s : Size USz) : sc'.resolveSize s = sc.resolveSize s := by
  cases s <;> simp only [Scope.resolveSize, resolveSizeVal_congr h]

theorem resolveRange_congr (r : Range URange) : sc'.resolveRange r = sc.resolveRange r := by
  obtain ⟨_ | a, _ | b, e⟩ := r <;>
    simp only [Scope.resolveRange, Scope.resolveOptInt, resolveInt_congr h]

mutual
theorem resolveTy_congr : ∀ t : UTy, sc'.resolveTy t = sc.resolveTy t
  | .boolean | .null | .enumerated _ | .typeReference .. => rfl
  | .integer .. | .string .. | .octetString _ | .bitString .. => by
    simp only [Scope.resolveTy, resolveRange_congr h, resolveSize_congr h]
  | .optional t | .sequenceOf t _ | .setOf t _ => by
    simp only [Scope.resolveTy, resolveTy_congr t, resolveSize_congr h]
  | .sequence fs _ | .set fs _ => by simp only [Scope.resolveTy, resolveFields_congr fs]
  | .choice vs _ => by simp only [Scope.resolveTy, resolveVariants_congr vs]
theorem resolveFields_congr : ∀ fs : UFields, sc'.resolveFields fs = sc.resolveFields fs
  | .nil => rfl
  | .cons name tag ty d rest => by
    simp only [Scope.resolveFields, resolveTy_congr ty, resolveFields_congr rest,
      resolveDefault_congr h]
theorem resolveVariants_congr : ∀ vs : UVariants, sc'.resolveVariants vs = sc.resolveVariants vs
  | .nil => rfl
  | .cons name tag ty rest => by
    simp only [Scope.resolveVariants, resolveTy_congr ty, resolveVariants_congr rest]
end

theorem resolveValueRefs_congr :
    ∀ vrs : List UValueReference, sc'.resolveValueRefs vrs = sc.resolveValueRefs vrs
  | [] => rfl
  | v :: tl => by simp only [Scope.resolveValueRefs, resolveTy_congr h, resolveValueRefs_congr tl]

theorem resolveDefinitions_congr :
    ∀ ds : List UDefinition, sc'.resolveDefinitions ds = sc.resolveDefinitions ds
  | [] => rfl
  | d :: tl => by simp only [Scope.resolveDefinitions, resolveTy_congr h, resolveDefinitions_congr tl]

theorem tryResolve_congr (hm : sc'.model = sc.model) : sc'.tryResolve = sc.tryResolve := by
  simp only [Scope.tryResolve, hm, resolveValueRefs_congr h, resolveDefinitions_congr h]

end

/-! ### whole modules -/

/-- all default names of the table are fresh in every item of the module -/
def SafeModule (sc : Scope) (σ : Sigma) (A : UModule) : Prop :=
  (∀ v ∈ A.valueReferences, SafeTy sc σ v.ty) ∧ (∀ d ∈ A.definitions, SafeTy sc σ d.ty)

section
variable {sc sc' : Scope} (heq : ScopeEquiv sc sc') (σ : Sigma) (ha : Agrees sc σ)
include heq ha

theorem resolveValueRefs_subst : ∀ vrs : List UValueReference, (∀ v ∈ vrs, SafeTy sc σ v.ty) →
    sc'.resolveValueRefs (vrs.map fun v => { v with ty := substTy σ v.ty }) =
      sc.resolveValueRefs vrs
  | [], _ => rfl
  | v :: tl, hs => by
    simp only [List.map_cons, Scope.resolveValueRefs, resolveTy_congr heq,
      resolveTy_subst sc σ ha v.ty (hs v List.mem_cons_self),
      resolveValueRefs_subst tl fun x hx => hs x (List.mem_cons_of_mem _ hx)]

theorem resolveDefinitions_subst : ∀ ds : List UDefinition, (∀ d ∈ ds, SafeTy sc σ d.ty) →
    sc'.resolveDefinitions (ds.map fun d => { d with ty := substTy σ d.ty }) =
      sc.resolveDefinitions ds
  | [], _ => rfl
  | d :: tl, hs => by
    simp only [List.map_cons, Scope.resolveDefinitions, resolveTy_congr heq,
      resolveTy_subst sc σ ha d.ty (hs d List.mem_cons_self),
      resolveDefinitions_subst tl fun x hx => hs x (List.mem_cons_of_mem _ hx)]

end

/-- the module with value references and its literal variant resolve to the same
    `Model<Asn<Resolved>>` -/
theorem tryResolve_substModule (σ : Sigma) (A : UModule) (S S' : List UModule)
    (heq : ScopeEquiv ⟨A, S⟩ ⟨substModule σ A, S'⟩) (ha : Agrees ⟨A, S⟩ σ)
    (hs : SafeModule ⟨A, S⟩ σ A) :
    Scope.tryResolve ⟨substModule σ A, S'⟩ = Scope.tryResolve ⟨A, S⟩ := by
  have h1 : Scope.resolveValueRefs ⟨substModule σ A, S'⟩ (substModule σ A).valueReferences = _ :=
    resolveValueRefs_subst heq σ ha _ hs.1
  have h2 : Scope.resolveDefinitions ⟨substModule σ A, S'⟩ (substModule σ A).definitions = _ :=
    resolveDefinitions_subst heq σ ha _ hs.2
  simp only [Scope.tryResolve, h1, h2]
  rfl

end Asn1Verif.Front.Syn
