import Asn1Verif.Per.PrimLemmasBits
import Asn1Verif.X691.Prim
/-
  The non-negative-binary-integer field and the length determinant of `Per/Prim.lean` against
  `X691/Prim.lean`: what the writer produces, what the reader makes of it, when the writer refuses.
-/
namespace Asn1Verif.Per
open Asn1Verif Outcome

/-- the region where `write/read_length_determinant` deviate from X.691 11.9.4.2 (known finding
    F-64k): some bound is given and the upper bound (default `i64::MAX`) is at least 64K -/
def LenDeviates (lb ub : Option Nat) : Prop :=
  (lb.isSome ∨ ub.isSome) ∧ ub.getD I64MAXu ≥ 65536

instance (lb ub : Option Nat) : Decidable (LenDeviates lb ub) :=
  inferInstanceAs (Decidable (_ ∧ _))

/-- the field of 11.5.6 is empty by itself for a range of one value -/
theorem offsetField_eq (range n : Nat) : X691.offsetField range n = natBits (bitWidth range) n := by
  unfold X691.offsetField
  split
  · subst_vars; rfl
  · rfl

theorem wNNBIc_ok (lb ub : Option Nat) (v : Nat) (h1 : lb.getD 0 ≤ v) (h2 : v ≤ ub.getD I64MAXu) :
    wNNBIc lb ub v = ok (natBits (bitWidth (ub.getD I64MAXu - lb.getD 0)) (v - lb.getD 0)) :=
  if_neg (by omega)

theorem wNNBIc_err (lb ub : Option Nat) (v : Nat) (h : v < lb.getD 0 ∨ ub.getD I64MAXu < v) :
    wNNBIc lb ub v = err .valueNotInRange :=
  if_pos h

theorem rNNBIc_rt (lb ub : Option Nat) (v : Nat) (post : Bits) (h1 : lb.getD 0 ≤ v)
    (h2 : v ≤ ub.getD I64MAXu) (hv : v ≤ U64_MAX) :
    rNNBIc lb ub (natBits (bitWidth (ub.getD I64MAXu - lb.getD 0)) (v - lb.getD 0) ++ post)
      = ok (v, post) := by
  simp only [rNNBIc]
  rw [rdNat_append _ _ (natBits_length _ _), bitsToNat_natBits_bitWidth (by omega),
    bind_ok, Nat.add_sub_cancel' h1, if_neg (Nat.not_lt.2 hv)]

theorem wNNBIc_field (range v : Nat) (h : v ≤ range) :
    wNNBIc none (some range) v = ok (natBits (bitWidth range) v) :=
  wNNBIc_ok none (some range) v (Nat.zero_le _) h

theorem rNNBIc_field (range v : Nat) (post : Bits) (h : v ≤ range) (hr : range ≤ U64_MAX) :
    rNNBIc none (some range) (natBits (bitWidth range) v ++ post) = ok (v, post) :=
  rNNBIc_rt none (some range) v post (Nat.zero_le _) h (Nat.le_trans h hr)

theorem len_regime (lb ub : Option Nat) :
    (lb = none ∧ ub = none) ∨ (∃ u, ub = some u ∧ u < 65536) ∨ LenDeviates lb ub := by
  cases ub with
  | some u =>
    by_cases h : u < 65536
    · exact .inr (.inl ⟨u, rfl, h⟩)
    · exact .inr (.inr ⟨.inr rfl, Nat.le_of_not_lt h⟩)
  | none =>
    cases lb with
    | none => exact .inl ⟨rfl, rfl⟩
    | some l => exact .inr (.inr ⟨.inl rfl, by decide⟩)

theorem not_dev_none {lb : Option Nat} (hd : ¬ LenDeviates lb none) : lb = none := by
  rcases len_regime lb none with h | ⟨u, h, _⟩ | h
  · exact h.1
  · cases h
  · exact absurd h hd

theorem not_dev_some {lb : Option Nat} {u : Nat} (hd : ¬ LenDeviates lb (some u)) : u < 65536 := by
  rcases len_regime lb (some u) with h | ⟨u', h, hu⟩ | h
  · cases h.2
  · cases h; exact hu
  · exact absurd h hd

theorem wLen_unc (v : Nat) : wLen none none v = ok (X691.lenU v) := by
  unfold wLen X691.lenU
  simp only [Option.isSome_none, Bool.or_self, Bool.false_and, Bool.false_eq_true, if_false,
    c_LENGTH_127, c_LENGTH_16K, c_MAX_FRAGMENTS]
  by_cases h1 : v ≤ 127
  · simp only [h1, if_true]
    rw [wNNBIc_field 127 v h1]; rfl
  · simp only [h1, if_false]
    by_cases h2 : v < 16384
    · simp only [h2, if_true]
      rw [wNNBIc_field (16384 - 1) v (by omega)]; rfl
    · simp only [h2, if_false]

theorem rLen_unc (v : Nat) (post : Bits) :
    rLen none none ((X691.lenU v).1 ++ post) = ok ((X691.lenU v).2.getD v, post) := by
  unfold X691.lenU
  simp only [rLen, Option.isSome_none, Bool.or_self, Bool.false_and, Bool.false_eq_true, if_false,
    c_LENGTH_127, c_LENGTH_16K, c_MAX_FRAGMENTS]
  by_cases h1 : v ≤ 127
  · simp only [h1, if_true, List.cons_append, rdBit_cons, bind_ok, Bool.not_false]
    exact rNNBIc_field 127 v post h1 (by decide)
  · simp only [h1, if_false]
    by_cases h2 : v < 16384
    · simp only [h2, if_true, List.cons_append, rdBit_cons, bind_ok, Bool.not_true,
        Bool.not_false, Bool.false_eq_true, if_false]
      exact rNNBIc_field (16384 - 1) v post (by omega) (by decide)
    · simp only [h2, if_false, List.cons_append, rdBit_cons, bind_ok, Bool.not_true,
        Bool.false_eq_true, if_false, rdNat_natBits, Option.getD_some]
      rw [Nat.mod_eq_of_lt (by omega), Nat.min_eq_left (Nat.min_le_right _ 4), Nat.mul_comm]

theorem wLen_lt64K (lb : Option Nat) (u v : Nat) (hu : u < 65536) :
    wLen lb (some u) v = (wNNBIc lb (some u) v >>= fun b => ok (b, none)) := by
  unfold wLen
  have c1 : ¬ 65536 ≤ u := by omega
  have c2 : u ≤ 65536 := by omega
  simp only [Option.isSome_some, Bool.or_true, Bool.true_and, Option.getD_some, c_LENGTH_64K,
    ge_iff_le, c1, c2, decide_false, decide_true, Bool.false_eq_true, if_false, if_true]

theorem rLen_lt64K (lb : Option Nat) (u : Nat) (bs : Bits) (hu : u < 65536) :
    rLen lb (some u) bs = rNNBIc lb (some u) bs := by
  have c1 : ¬ 65536 ≤ u := by omega
  have c2 : u ≤ 65536 := by omega
  simp only [rLen, Option.isSome_some, Bool.or_true, Bool.true_and, Option.getD_some, c_LENGTH_64K,
    ge_iff_le, c1, c2, decide_false, decide_true, Bool.false_eq_true, if_false, if_true]

theorem wLen_con (lb : Option Nat) (u v : Nat) (hu : u < 65536) (h1 : lb.getD 0 ≤ v) (h2 : v ≤ u) :
    wLen lb (some u) v = ok (X691.constrainedNat (lb.getD 0) u v, none) := by
  rw [wLen_lt64K lb u v hu, wNNBIc_ok lb (some u) v h1 h2, X691.constrainedNat, offsetField_eq]
  rfl

theorem wLen_con_err (lb : Option Nat) (u v : Nat) (hu : u < 65536) (h : v < lb.getD 0 ∨ u < v) :
    wLen lb (some u) v = err .valueNotInRange := by
  rw [wLen_lt64K lb u v hu, wNNBIc_err lb (some u) v h]
  rfl

theorem rLen_con (lb : Option Nat) (u v : Nat) (post : Bits) (hu : u < 65536) (h1 : lb.getD 0 ≤ v)
    (h2 : v ≤ u) :
    rLen lb (some u) (X691.constrainedNat (lb.getD 0) u v ++ post) = ok (v, post) := by
  rw [rLen_lt64K lb u _ hu, X691.constrainedNat, offsetField_eq]
  exact rNNBIc_rt lb (some u) v post h1 h2 (Nat.le_trans h2 (Nat.le_trans (Nat.le_of_lt hu) (by decide)))

theorem wLen_dev (lb ub : Option Nat) (v : Nat) (hd : LenDeviates lb ub) :
    wLen lb ub v = if lb = ub then ok ([], none)
      else if v < lb.getD 0 then err .valueNotInRange
      else (wNNBIc lb ub v >>= fun b => ok (b, none)) := by
  have hs : (lb.isSome || ub.isSome) = true := by simpa using hd.1
  have c1 : 65536 ≤ ub.getD I64MAXu := hd.2
  unfold wLen
  simp only [hs, Bool.true_and, c_LENGTH_64K, ge_iff_le, c1, decide_true, if_true]

theorem rLen_dev (lb ub : Option Nat) (bs : Bits) (hd : LenDeviates lb ub) :
    rLen lb ub bs = if lb = ub then ok (lb.getD 0, bs) else rNNBIc lb ub bs := by
  have hs : (lb.isSome || ub.isSome) = true := by simpa using hd.1
  have c1 : 65536 ≤ ub.getD I64MAXu := hd.2
  simp only [rLen, hs, Bool.true_and, c_LENGTH_64K, ge_iff_le, c1, decide_true, if_true]

theorem wLen_dev_rejects (lb ub : Option Nat) (v : Nat) (hd : LenDeviates lb ub) (hne : lb ≠ ub)
    (h : v < lb.getD 0 ∨ ub.getD I64MAXu < v) : wLen lb ub v = err .valueNotInRange := by
  rw [wLen_dev lb ub v hd, if_neg hne]
  split
  · rfl
  · rw [wNNBIc_err lb ub v h]; rfl

theorem wLen_pattern (lb ub : Option Nat) (v : Nat) (hd : ¬ LenDeviates lb ub)
    (h1 : lb.getD 0 ≤ v) (h2 : ∀ u, ub = some u → v ≤ u) :
    wLen lb ub v = ok (X691.len lb ub v) := by
  rcases len_regime lb ub with ⟨rfl, rfl⟩ | ⟨u, rfl, hu⟩ | h
  · exact wLen_unc v
  · simp only [X691.len, hu, if_true]
    exact wLen_con lb u v hu h1 (h2 u rfl)
  · exact absurd h hd

theorem rLen_pattern (lb ub : Option Nat) (v : Nat) (post : Bits) (hd : ¬ LenDeviates lb ub)
    (h1 : lb.getD 0 ≤ v) (h2 : ∀ u, ub = some u → v ≤ u) :
    rLen lb ub ((X691.len lb ub v).1 ++ post) = ok ((X691.len lb ub v).2.getD v, post) := by
  rcases len_regime lb ub with ⟨rfl, rfl⟩ | ⟨u, rfl, hu⟩ | h
  · exact rLen_unc v post
  · simp only [X691.len, hu, if_true]
    exact rLen_con lb u v post hu h1 (h2 u rfl)
  · exact absurd h hd

/-- the unconstrained form admits every length, so only the constrained form can refuse -/
theorem wLen_rejects (lb ub : Option Nat) (v : Nat) (hd : ¬ LenDeviates lb ub)
    (h : ¬ (lb.getD 0 ≤ v ∧ ∀ u, ub = some u → v ≤ u)) : ∃ k, wLen lb ub v = err k := by
  rcases len_regime lb ub with ⟨rfl, rfl⟩ | ⟨u, rfl, hu⟩ | h'
  · exact absurd ⟨Nat.zero_le v, fun u hu => nomatch hu⟩ h
  · refine ⟨_, wLen_con_err lb u v hu (Classical.byContradiction fun hn => h ⟨by omega, ?_⟩)⟩
    rintro u' ⟨⟩
    omega
  · exact absurd h' hd

theorem wLen_bounded_none (lb ub : Option Nat) (v : Nat) (hdr : Bits) (f : Option Nat)
    (hs : (lb.isSome || ub.isSome) = true) (hw : wLen lb ub v = ok (hdr, f)) : f = none := by
  have hb : ∀ x : Outcome Bits, (x >>= fun b => ok (b, none)) = ok (hdr, f) → f = none := by
    intro x hx
    cases x <;> cases hx
    rfl
  rcases len_regime lb ub with ⟨rfl, rfl⟩ | ⟨u, rfl, hu⟩ | hd
  · cases hs
  · rw [wLen_lt64K lb u v hu] at hw
    exact hb _ hw
  · rw [wLen_dev lb ub v hd] at hw
    split at hw
    · exact (Prod.mk.inj (ok.inj hw)).2.symm
    · split at hw
      · cases hw
      · exact hb _ hw

/-- self-consistency in every region, also where the bit pattern deviates (for the degenerate
    `lb = ub ≥ 64K` the writer writes nothing and ignores the value, the reader answers `lb`) -/
theorem rLen_wLen (lb ub : Option Nat) (v : Nat) (bits post : Bits)
    (hw : wLen lb ub v = ok (bits, none)) (h1 : lb.getD 0 ≤ v) (h2 : v ≤ ub.getD I64MAXu)
    (hv : v ≤ U64_MAX) : rLen lb ub (bits ++ post) = ok (v, post) := by
  have hrt := rNNBIc_rt lb ub v post h1 h2 hv
  rcases len_regime lb ub with ⟨rfl, rfl⟩ | ⟨u, rfl, hu⟩ | hd
  · rw [wLen_unc] at hw
    have e := rLen_unc v post
    rw [(ok.inj hw : X691.lenU v = (bits, none))] at e
    exact e
  · rw [wLen_lt64K lb u v hu, wNNBIc_ok lb _ v h1 h2] at hw
    cases hw
    rw [rLen_lt64K lb u _ hu]
    exact hrt
  · rw [wLen_dev lb ub v hd] at hw
    rw [rLen_dev lb ub _ hd]
    split at hw
    · rename_i c2
      subst c2
      cases hw
      have : lb.getD 0 = v := by
        cases lb with
        | none => exact absurd hd (by decide)
        | some l => exact Nat.le_antisymm h1 h2
      rw [if_pos rfl, this]
      rfl
    · rename_i c2
      rw [if_neg (Nat.not_lt.2 h1), wNNBIc_ok lb ub v h1 h2] at hw
      cases hw
      rw [if_neg c2]
      exact hrt

end Asn1Verif.Per
