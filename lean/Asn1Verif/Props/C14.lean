import Asn1Verif.Props.C13
import Asn1Verif.Props.C12
import Asn1Verif.Front.TotalModule
import Asn1Verif.Front.TotalResolve
import Asn1Verif.Front.TotalFront
import Asn1Verif.Codegen.TagsLemmas
/-
  C14 — The front end is total: malformed text gives an error, not a panic or hang.

  "For every input string, tokenizing, parsing, resolving and converting to the Rust and protobuf
  models terminates with either a model or an error value carrying the offending token; the only
  sanctioned panic is the documented one for an unterminated block comment."

  Models (mirrors of asn1rs-model, defects included):
    Front/Tokenizer*.lean   `Tokenizer::parse`                       (property C13)
    Front/Parser*.lean      `Model::try_from` and every `read_*` / `TryFrom<&mut Peekable<_>>`
    Front/Resolve.lean      `ResolveScope::try_resolve`, the import chase
    Front/TotalFront.lean   `bridge`, `frontEnd` = tokenizer ∘ bridge ∘ parser ∘ resolver
    Codegen/Tags.lean       `TagResolver` (the only non-structural recursion of `to_rust`; C16)
  Lemmas: Front/Total{Base,Leaf,Lit,Type,Module,Resolve}.lean.

  What is proved, stage by stage.

  1. TOKENIZER — full.  `tokenizer_panics_iff`: `tokenize s = panic ↔ PanicCond s` (the documented
     unterminated-block-comment panic, stated exactly as the code implements it);
     `tokenizer_never_err`, `tokenizer_total`.  (C13's theorems, re-exported.)

  2. PARSER — full, for EVERY token list (arbitrary garbage, not only printed modules).
     The Rust parser is a recursive descent with no recursion budget.  The mirror gives every
     loop iteration / recursive call one unit of `fuel` and answers the pseudo error `fuel` when
     the budget `tokens.length + 1` is used up.  `parser_terminates`: that never happens.  The
     proof is the termination argument of the Rust code made explicit: for every function
     `f fuel ts` of `Front/Parser.lean` (all 19 budgeted ones; the unbudgeted ones likewise)

         ts.length < fuel  ⊢  f fuel ts ≠ error fuel  ∧  (f fuel ts = ok (_, rest) → rest.length ≤ ts.length)

     (`Post`, Front/TotalBase.lean), by induction on the budget: every recursive call is made on
     the rest left by at least one consuming primitive (`nextOrErr`, `nextSepEq`, …, whose posts
     are exact: `rest.length + 1 = ts.length`).  Re-exported per construct below
     (`type_parser_terminates`, `choice_parser_terminates`, …).  No construct is excluded.
     `parser_total`: every token list is mapped to a model or to one of the 15 `ErrorKind`
     classes (13 of them carry the offending token in the real code, `parse::Error::token()`;
     `MissingModuleName` and `UnexpectedEndOfStream` have no token to carry).
     `parser_budget_irrelevant`: every budget above the number of tokens gives the same answer —
     the budget is a device of the mirror, not an observable (`Post₂`, proved along with `Post`).
     Recursion DEPTH is a different matter: see finding `front.nesting_depth` below.

  3. COMPOSITION — `front_end_total`: for every text outside `PanicCond`, tokenize, `bridge`,
     parse: a model or an error class, never `fuel`; `front_end_panics_iff`.

  4. RESOLVER — full.  `ResolveScope::try_resolve` is a structural walk over the module plus the
     import chase of `value_reference` / `definition`, which follows at most `scope.len()` imports
     (repaired code; before, it had no bound and `IMPORTS ghost FROM Selfish;` inside `Selfish`
     overflowed the stack — former finding front.cyclic_reference (b)).  `resolver_total`: every
     chase comes back, for every module, scope and name (the full statement `ResolverTotal`, no
     acyclicity hypothesis; = C12 `chase_total`).  `resolve_total`, `resolve_single_module_total`,
     `resolve_all_total`: `try_resolve` / `Model::try_resolve` / `try_resolve_all` answer with a
     model or one of the three classes of `resolve::Error`, never with the pseudo error.
     These hold by the shape of the model: no branch of `Front/Resolve.lean` builds `fuel` (a
     chase whose bound is used up answers `ok none`, as the code does), and that the mirror
     terminates is Lean accepting its structural recursion on the code's own bound.
     `resolve_cyclic_import_is_error`: the former witness is now `FailedToResolveReference`.
     `front_end_resolve_total` composes 1–4: outside the documented panic the composed function
     answers with a resolved model or an error class of the parser or the resolver.

  5. CONVERSION — full for the only non-structural recursion.  `convert_asn_to_rust` /
     `convert_rust_to_protobuf` are structural recursions over the resolved model (no budget
     needed, no panic site, see the table) except for `TagResolver::resolve_tag` /
     `resolve_type_tag`, which follow type references and keep a stack of the names being
     resolved (repaired code; before, `A ::= A` overflowed the stack in `to_rust` — former finding
     front.cyclic_reference (a) = F-C16-6).  `tag_resolver_total` (= C16 `resolver_total`): for
     every module, cyclic or not, the resolver answers within an explicit recursion bound; the
     full statement `TagResolverTotal` holds (`tag_resolver_total_full`);
     `tag_resolver_cycle_has_no_tag`: `A ::= A` has no tag.

  ──────────────────────────────────────────────────────────────────────────────────────────────
  PANIC SITES of the real front end (asn1rs-model/src, every `unwrap`/`expect`/index/slice/
  `panic!`/`unreachable!`/`debug_assert!`/overflow-checked arithmetic on the path
  Tokenizer::parse → Model::try_from → try_resolve → to_rust → to_protobuf), and why each cannot
  fire — or the request that makes it fire.  "guard" = a local fact established a few lines
  before; the fuzz stream (tools/checks/c14.py) is the check for those.

  file:line                        site                                   verdict
  parse/tokenizer.rs:40            panic!("unclosed comment blocks")      FIRES — the sanctioned panic; exactly `PanicCond`
                                                                          (`tokenizer_panics_iff`); e.g. `parse fuzz 2f2a2078` (`/* x`)
  parse/tokenizer.rs:28            nest_lvl -= 1 (i32)                    guard: inside `if nest_lvl > 0`
  parse/tokenizer.rs:34,59         nest_lvl += 1 (i32)                    needs 2^31 unclosed `/*` (≥ 4 GiB of text); modelled as panic
                                                                          in `PanicCond`, not exercisable
  parse/tokenizer.rs:39            line_count - 1                         guard: evaluated inside the loop over `asn.lines()` (count ≥ 1); the count
                                                                          is taken once before the loop (was: once per comment line, quadratic)
  parse/tokenizer.rs:69,76         line_0 + 1, column_0 + 1 (usize)       bounded by the text length
  parse/tokenizer.rs:88            c as u8                                cast, cannot panic
  asn/peekable.rs:88,103,116,130   debug_assert!(token …)                 guard: the token just peeked is the token taken (`peek` then `next`)
  asn/peekable.rs:90               unreachable!()                         guard: `peeked.text().is_some()` on the same token
  asn/model.rs:238,245             column + chars().count() (usize)       bounded by the line length
  asn/model.rs:234,241             prev_loc.column()..loc.column()        a reversed range is empty (token on a later line), no panic
  asn/model.rs:452-453             name.len() - to_remove.len(); truncate guard: `name.ends_with(to_remove)`; the suffix is ASCII, so the
                                                                          cut is on a char boundary
  asn/mod.rs:312                   slice[1..slice.len() - 1]              would panic for the 1-byte string `"`; unreachable: `read_string_literal`
                                                                          always returns both delimiters (≥ 2 bytes) and a text token never
                                                                          contains `"` (separator character)
  asn/mod.rs:325,348               slice[1..slice.len() - 2]              would panic for `'h` / `'b`; unreachable: `read_hex_or_bit_string_literal`
                                                                          returns `'` … `'` + suffix (≥ 3 bytes); a text token never contains `'`
  asn/mod.rs:331,337               hex[..offset], hex[p..p + 2]           guard: `hex.chars().all(is_ascii_hexdigit)` (ASCII ⇒ char boundaries),
                                                                          `p + 2 ≤ len` by `offset + 2·(len/2) = len`
  asn/mod.rs:332,337               u8::from_str_radix(..).ok()?           `?` on Option, no panic
  asn/mod.rs:349                   (bits.len() + 7) / 8                   bounded by the text length
  asn/mod.rs:353                   vec.len() - 1 - (i / 8)                guard: `i < bits.chars().count() ≤ bits.len()`, so `i/8 ≤ vec.len() - 1`
  asn/mod.rs:354-355               2u8.pow(i % 8); vec[..] += value       exponent ≤ 7; every bit position is added once, sum ≤ 255
  asn/enumerated.rs:87             variants.len() - 1                     guard: `variants.is_empty()` returns the error first (line 80)
  asn/choice.rs:84                 variants.len() - 1                     guard: `variants.is_empty()` returns the error first (line 77)
  asn/components.rs:35             field_len.saturating_sub(1)            saturating (the `Some(0)` for a leading marker is finding F-C16-2, not a panic)
  asn/inner_type_constraints.rs:86 level += 1 (usize)                     bounded by the number of tokens
  asn/inner_type_constraints.rs:87 level -= 1 (usize)                     guard: the loop condition `!(level == 0 && peek == ')')` — a `)` taken
                                                                          inside the loop has `level ≥ 1` (mirrored by `valueConstraint`)
  asn/size.rs:63,108,132           i64::MAX as usize                      constant cast
  asn/size.rs:97,103,131           start.unwrap_or_default()              not a panic
  asn/integer.rs:52,60 size.rs:89,116 tag.rs:99 enumerated.rs:103 asn/model.rs:73,77,488,493
                                   str::parse::<i64|u64|usize>()          returns `Err` on overflow (`99999999999999999999999`,
                                                                          `-9223372036854775809`): the text becomes a *reference* name
                                                                          (ranges, sizes) or an error class (tags, enum numbers, constants)
  asn/resolve_scope.rs (Resolver<usize>)  usize::try_from(value)          returns `Err` for a negative value (C12 `size_negative_rejected`), no panic
  asn/resolve_scope.rs  value_reference_within / definition_within        recursion bounded by `hops` (≤ `scope.len()`), `hops.checked_sub(1)?` is
                                                                          an `Option`, no panic (`resolver_total`); was: unbounded recursion on an
                                                                          import cycle, repaired
  asn/tag_resolver.rs   resolve_tag_visiting / resolve_type_tag_visiting  recursion bounded by the stack `visiting` (one entry per definition) and
                                                                          the nesting of the type (`tag_resolver_total`); was: unbounded recursion on
                                                                          a reference cycle (`A ::= A`), repaired
  asn/tag_resolver.rs              extension_after + 1                    `extension_after < variants.len()`
  asn/model.rs:287-320 (+ choice.rs:89, components.rs:43, asn/model.rs:356,368)
                                   read_role_given_text ↔ Choice/ComponentTypeList/read_field
                                                                          RECURSION DEPTH = nesting depth of the text, no limit: a text with
                                                                          ≈ 5000 nested `SEQUENCE {` (65 KB) overflows the 8 MiB main-thread stack
                                                                          → process abort: FIRES, finding front.nesting_depth
  rust.rs:970                      (min + 1).abs()  (i64)                 guard: `min < 0` in this branch, so `min + 1 ∈ [i64::MIN + 1, 0]`
  rust.rs:960-963,972-975          min as u8 … max as i32                 casts
  rust.rs:1160                     panic!("Invalid string literal")       `as_rust_const_literal_expect` is called by the code generator only, not by `to_rust`
  protobuf.rs:54                   panic!("ProtobufType::OneOf …")        `ProtobufType::to_rust` is not called by `to_protobuf`
  parse/error.rs:34                Backtrace::new()                       not a panic (captures a backtrace for every error value)
-/
namespace Asn1Verif.Props.C14
open Asn1Verif Asn1Verif.Front Outcome

/-! ### 1. tokenizer (re-export of C13) -/

/-- the documented panic condition: the text ends inside a block comment and the last character
    of its last line is neither `*` nor `/` (or the nesting depth would exceed `i32::MAX`) -/
abbrev PanicCond := C13.PanicCond

/-- **The tokenizer panics exactly under `PanicCond`.** -/
theorem tokenizer_panics_iff (s : List Char) : tokenize s = panic ↔ PanicCond s :=
  C13.tokenize_panics_iff s

/-- the tokenizer has no error path -/
theorem tokenizer_never_err (s : List Char) (k : ErrKind) : tokenize s ≠ err k :=
  C13.tokenize_never_err s k

/-- **… and otherwise returns tokens.** -/
theorem tokenizer_total (s : List Char) (h : ¬ PanicCond s) : ∃ ts, tokenize s = ok ts :=
  C13.tokenize_total s h

/-! ### 2. parser: terminates on every token list -/

/-- **The parser terminates.**  For every token list — arbitrary garbage — the recursion budget
    `tokens.length + 1` of the mirror is never exhausted: the recursive descent, which in Rust has
    no budget at all, ends because every recursive step consumes at least one token. -/
theorem parser_terminates (ts : List Syn.Token) : Syn.parseModule ts ≠ .error .fuel :=
  Syn.parseModule_ne_fuel ts

/-- **The parser is total**: a model, or one of the error classes of `parse::ErrorKind`. -/
theorem parser_total (ts : List Syn.Token) :
    (∃ m, Syn.parseModule ts = .ok m) ∨ (∃ e, e ≠ .fuel ∧ Syn.parseModule ts = .error e) := by
  cases h : Syn.parseModule ts with
  | ok m => exact Or.inl ⟨m, rfl⟩
  | error e => exact Or.inr ⟨e, fun he => parser_terminates ts (he ▸ h), rfl⟩

/-- any budget above the number of tokens is enough (the `+ 1` of `parseModule` is the least
    budget this covers, not the least that suffices: see the 14-token example below) -/
theorem parser_terminates_any_budget (fuel : Nat) (ts : List Syn.Token) (h : ts.length < fuel) :
    Syn.parseModuleFuel fuel ts ≠ .error .fuel :=
  (Syn.parseModuleFuel_post₂ fuel ts h).post.ne_fuel

/-- **The budget is not observable**: every budget above the number of tokens yields the answer
    of `parseModule` (so `parseModule` is the budget-free meaning of the mirror, and the theorems of
    C07 about `parseModule` do not depend on the particular `tokens.length + 1`) -/
theorem parser_budget_irrelevant (fuel : Nat) (ts : List Syn.Token) (h : ts.length < fuel) :
    Syn.parseModuleFuel fuel ts = Syn.parseModule ts :=
  Syn.parseModuleFuel_eq_parseModule fuel ts h

/-- the invariant behind it, for the nesting constructs (`read_role_given_text`, the loops of
    `Choice::try_from` and `ComponentTypeList::try_from` incl. `read_field`): with a budget above
    the number of tokens the call neither runs out nor hands back more input than it got -/
theorem type_parser_terminates (fuel : Nat) (text : String) (ts : List Syn.Token)
    (h : ts.length < fuel) :
    Syn.parseRoleGiven fuel text ts ≠ .error .fuel ∧
      ∀ ty rest, Syn.parseRoleGiven fuel text ts = .ok (ty, rest) → rest.length ≤ ts.length :=
  have hp := ((Syn.typePosts fuel).1 text ts h).post
  ⟨hp.ne_fuel, fun _ _ hr => hp.of_ok hr⟩

theorem choice_parser_terminates (fuel n : Nat) (ext : Bool) (ts : List Syn.Token)
    (h : ts.length < fuel) :
    Syn.choiceLoop fuel n ext ts ≠ .error .fuel ∧
      ∀ r rest, Syn.choiceLoop fuel n ext ts = .ok (r, rest) → rest.length ≤ ts.length :=
  have hp := ((Syn.typePosts fuel).2.1 n ext ts h).post
  ⟨hp.ne_fuel, fun _ _ hr => hp.of_ok hr⟩

theorem components_parser_terminates (fuel n : Nat) (ts : List Syn.Token) (h : ts.length < fuel) :
    Syn.componentLoop fuel n ts ≠ .error .fuel ∧
      ∀ r rest, Syn.componentLoop fuel n ts = .ok (r, rest) → rest.length ≤ ts.length :=
  have hp := ((Syn.typePosts fuel).2.2 n ts h).post
  ⟨hp.ne_fuel, fun _ _ hr => hp.of_ok hr⟩

/-- the loops that do not nest: named numbers, ENUMERATED, WITH COMPONENTS, object identifiers,
    IMPORTS, the module body -/
theorem flat_loops_terminate (fuel : Nat) (ts : List Syn.Token) (h : ts.length < fuel) :
    Syn.constantsLoop Syn.constantI64 fuel ts ≠ .error .fuel ∧
    Syn.constantsLoop Syn.constantU64 fuel ts ≠ .error .fuel ∧
    (∀ n ext, Syn.enumLoop fuel n ext ts ≠ .error .fuel) ∧
    Syn.innerEntries fuel ts ≠ .error .fuel ∧
    Syn.oidLoop fuel ts ≠ .error .fuel ∧
    (∀ what, Syn.importsLoop fuel what ts ≠ .error .fuel) ∧
    Syn.bodyLoop fuel ts ≠ .error .fuel :=
  ⟨(Syn.constantsLoop_post₂ _ Syn.constantI64_post fuel ts h).post.ne_fuel,
   (Syn.constantsLoop_post₂ _ Syn.constantU64_post fuel ts h).post.ne_fuel,
   fun n ext => (Syn.enumLoop_post₂ fuel n ext ts h).post.ne_fuel,
   (Syn.innerEntries_post₂ fuel ts h).post.ne_fuel,
   (Syn.oidLoop_post₂ fuel ts h).post.ne_fuel,
   fun what => (Syn.importsLoop_post₂ fuel what ts h).post.ne_fuel,
   (Syn.bodyLoop_post₂ fuel ts h).post.ne_fuel⟩

/-! ### 3. composition: text → tokens → model or error class -/

/-- **The front end up to the parsed model is total** outside the documented panic: the text is
    tokenized, the tokens are handed over by `bridge`, and the parser answers with a model or an
    error class — never with the exhausted budget. -/
theorem front_end_total (s : List Char) (h : ¬ PanicCond s) :
    ∃ ts, tokenize s = ok ts ∧
      ((∃ m, Syn.parseModule (ts.map bridge) = .ok m) ∨
       (∃ e, e ≠ .fuel ∧ Syn.parseModule (ts.map bridge) = .error e)) := by
  obtain ⟨ts, hts⟩ := tokenizer_total s h
  exact ⟨ts, hts, parser_total _⟩

/-- the composed function panics exactly under `PanicCond` and has no `err` outcome of its own -/
theorem front_end_panics_iff (s : List Char) : frontEnd s = panic ↔ PanicCond s := by
  rw [← tokenizer_panics_iff]
  unfold frontEnd
  cases hs : tokenize s with
  | ok ts => constructor <;> intro h <;> cases h
  | err k => exact absurd hs (tokenizer_never_err s k)
  | panic => exact ⟨fun _ => rfl, fun _ => rfl⟩

theorem parseResolve_parse_error (ts : List Syn.Token) (e : Syn.FErr)
    (h : parseResolve ts = .error (.parse, e)) : Syn.parseModule ts = .error e := by
  unfold parseResolve at h
  split at h
  · cases h; assumption
  · split at h <;> cases h

theorem parseResolve_resolve_error (ts : List Syn.Token) (e : Syn.FErr)
    (h : parseResolve ts = .error (.resolve, e)) :
    ∃ m, Syn.parseModule ts = .ok m ∧ Syn.tryResolve m = .error e := by
  unfold parseResolve at h
  split at h
  · cases h
  · split at h <;> cases h
    exact ⟨_, ‹_›, ‹_›⟩

/-- a parse-stage verdict of the composed function is never the exhausted budget -/
theorem front_end_parse_error_ne_fuel (s : List Char) (e : Syn.FErr)
    (h : frontEnd s = ok (.error (.parse, e))) : e ≠ .fuel := by
  unfold frontEnd at h
  cases hs : tokenize s with
  | ok ts =>
    rw [hs] at h
    intro he
    exact parser_terminates _ (he ▸ parseResolve_parse_error _ _ (Outcome.ok.inj h))
  | _ => rw [hs] at h; cases h

/-! ### 4. resolver: total -/

/-- **The import chase always comes back** — the full statement, for every module, scope and
    name; no hypothesis on the imports (cycles included) -/
def ResolverTotal : Prop :=
  ∀ (A : Syn.UModule) (S : List Syn.UModule) (n : String),
    ∃ r, (Syn.Scope.mk A S).valueReference n = .ok r

theorem resolver_total : ResolverTotal :=
  fun A S n => C12.chase_total A S n

/-- … likewise the chase for a type name -/
theorem resolver_total_definition (A : Syn.UModule) (S : List Syn.UModule) (n : String) :
    ∃ r, (Syn.Scope.mk A S).definition n = .ok r :=
  C12.chase_total_definition A S n

/-- **`ResolveScope::try_resolve` is total**: for every module in every scope a resolved model or
    an error class of `resolve::Error`, never the pseudo error of the mirror -/
theorem resolve_total (sc : Syn.Scope) : sc.tryResolve ≠ .error .fuel :=
  Syn.Scope.tryResolve_ne_fuel sc

/-- `Model::try_resolve` (the scope is the module itself) — every module, self-imports included -/
theorem resolve_single_module_total (m : Syn.UModule) : Syn.tryResolve m ≠ .error .fuel :=
  Syn.tryResolve_ne_fuel m

/-- `MultiModuleResolver::try_resolve_all` — every list of modules, import cycles included -/
theorem resolve_all_total (ms : List Syn.UModule) : Syn.tryResolveAll ms ≠ .error .fuel :=
  Syn.tryResolveAll_ne_fuel ms

/-- the witness of the former finding (`IMPORTS ghost FROM Selfish;` inside `Selfish`: the real
    resolver overflowed its stack) is refused with `FailedToResolveReference` -/
theorem resolve_cyclic_import_is_error :
    C12.errOf (Syn.tryResolve C12.cexSelf) = some .failedToResolveReference :=
  C12.cyclic_import_self.2.2

/-- **Text to resolved model**: outside the documented panic the composed function answers with
    a resolved model or with an error class of the parser or of the resolver — never with the
    exhausted budget of the mirror, at no stage. -/
theorem front_end_resolve_total (s : List Char) (h : ¬ PanicCond s) :
    ∃ r, frontEnd s = ok r ∧ ∀ st, r ≠ .error (st, .fuel) := by
  obtain ⟨ts, hts⟩ := tokenizer_total s h
  refine ⟨parseResolve (ts.map bridge), by unfold frontEnd; rw [hts]; rfl, ?_⟩
  intro st hst
  cases st with
  | parse => exact absurd (parseResolve_parse_error _ _ hst) (parser_terminates _)
  | resolve =>
    obtain ⟨m, _, hr⟩ := parseResolve_resolve_error _ _ hst
    exact resolve_single_module_total m hr

/-! ### 5. conversion: `TagResolver` is total -/

open Asn1Verif.Codegen.Tags in
/-- **`TagResolver` answers for every module** (C16 `resolver_total`): reference cycles included,
    within the explicit recursion bound
    `depth t + (definitions not on the stack) · (deepest definition + 1)` -/
theorem tag_resolver_total (env : Env) (fuel : Nat) (vis : List String) (t : Ty)
    (hf : fuelBound env vis t ≤ fuel) : ∃ x, resolveTypeTag env fuel vis t = some x :=
  resolveTypeTag_total env fuel vis t hf

open Asn1Verif.Codegen.Tags in
/-- the full statement: the tag of every type is found with some finite amount of recursion -/
def TagResolverTotal : Prop :=
  ∀ (env : Env) (t : Ty), ∃ fuel x, resolveTypeTag env fuel [] t = some x

open Asn1Verif.Codegen.Tags in
theorem tag_resolver_total_full : TagResolverTotal :=
  fun env t => ⟨defaultFuel env t, defaultFuel_sufficient env t⟩

open Asn1Verif.Codegen.Tags in
/-- `A ::= A` -/
def envSelf : Env := [{ name := "A", tag := none, ty := .ref "A" }]

open Asn1Verif.Codegen.Tags in
/-- the witness of the former finding (`A ::= A`: `to_rust` overflowed the stack) has no tag —
    for every amount of fuel from 2 on -/
theorem tag_resolver_cycle_has_no_tag (fuel : Nat) :
    resolveTypeTag envSelf (fuel + 2) [] (.ref "A") = some none := by
  have hl : envSelf.lookup "A" = some { name := "A", tag := none, ty := .ref "A" } := rfl
  rw [resolveTypeTag]
  simp only [List.contains_nil, Bool.false_eq_true, if_false, hl]
  exact resolveTypeTag_visiting envSelf fuel ["A"] "A" (by simp)

open Asn1Verif.Codegen.Tags in
/-- the conversion pipeline of C16 (stage 1 + stage 2 on the item under test) always answers -/
theorem conversion_terminates (env : Env) (o : EncodingOrdering) (c : Components) :
    ∃ r, emit env o c = some r :=
  emit_isSome env o c

/-! ### non-vacuity -/

/-- the error class of a result (the models have no decidable equality; the classes do) -/
def errOf {α : Type} : Syn.FR α → Option Syn.FErr
  | .error e => some e
  | .ok _ => none

/-- the verdict of the composed function on a text: `panic`, `ok none` (a resolved model) or
    `ok (some (stage, class))` -/
def verdict (s : String) : Outcome (Option (Stage × Syn.FErr)) :=
  (fun r => match r with | .error e => some e | .ok _ => none) <$> frontEnd s.toList

/-- garbage is mapped to error classes … -/
example : errOf (Syn.parseModule []) = some .missingModuleName := by
  decide +kernel
example : errOf (Syn.parseModule [.sep '{', .text "END"]) = some .missingModuleName := by
  decide +kernel
example : errOf (Syn.parseModule [.text "M", .text "BEGIN"]) = some .unexpectedEndOfStream := by
  decide +kernel
example : errOf (Syn.parseModule [.text "M", .sep '{', .sep '{']) = some .unexpectedToken := by
  decide +kernel
example : errOf (Syn.parseModule [.text "M", .text "BEGIN", .text "A", .sep ':', .sep ':', .sep '=',
    .text "SEQUENCE", .sep '{', .text "a", .text "CHOICE", .sep '{', .sep '.', .sep '.', .sep '.']) =
    some .invalidPositionForExtensionMarker := by decide +kernel
example : errOf (Syn.parseModule [.text "M", .text "BEGIN", .text "A", .sep ':', .sep ':', .sep '=',
    .text "INTEGER", .sep '{', .text "a", .sep '(', .text "99999999999999999999999", .sep ')',
    .sep '}', .text "END"]) = some .invalidValueForConstant := by decide +kernel
example : errOf (Syn.parseModule [.text "M", .text "BEGIN", .text "A", .sep ':', .sep ':', .sep '=',
    .sep '[', .text "-9223372036854775809", .sep ']', .text "BOOLEAN", .text "END"]) =
    some .invalidTag := by decide +kernel
/-- … and a deep nest of unclosed constructs ends with `eof`, not with the budget -/
example : errOf (Syn.parseModule
    ([.text "M", .text "BEGIN", .text "A", .sep ':', .sep ':', .sep '='] ++
      (List.replicate 12 [Syn.Token.text "SEQUENCE", .sep '{', .text "a"]).flatten)) =
    some .unexpectedEndOfStream := by decide +kernel
/-- … while a well-formed module is a model -/
example : errOf (Syn.parseModule [.text "M", .text "BEGIN", .text "A", .sep ':', .sep ':', .sep '=',
    .text "SEQUENCE", .text "OF", .text "SET", .sep '{', .text "a", .text "A", .text "OPTIONAL",
    .sep '}', .text "END"]) = none := by decide +kernel
/-- the budget pays for nesting depth, not for length: `A ::= SEQUENCE OF SEQUENCE OF SEQUENCE OF
    INTEGER` (14 tokens, budget 15) needs 5 units -/
example :
    let ts : List Syn.Token := [.text "M", .text "BEGIN", .text "A", .sep ':', .sep ':', .sep '=',
      .text "SEQUENCE", .text "OF", .text "SEQUENCE", .text "OF", .text "SEQUENCE", .text "OF",
      .text "INTEGER", .text "END"]
    errOf (Syn.parseModuleFuel 4 ts) = some .fuel ∧ errOf (Syn.parseModuleFuel 5 ts) = none ∧
      errOf (Syn.parseModule ts) = none := by decide +kernel

/-- `bridge` on the tokens of a text -/
example : (fun ts => ts.map bridge) <$> tokenize "A ::= {".toList =
    ok [.text "A", .sep ':', .sep ':', .sep '=', .sep '{'] := by
  -- the text is turned into its character list by `String.toList_ofList` first: the kernel would
  -- otherwise run the UTF-8 decoder on the literal at every use
  rw [String.toList_ofList]
  decide +kernel
/-- the composed function on texts: the panic, an error class, a model -/
example : verdict "M BEGIN /* x" = panic := by
  rw [verdict, String.toList_ofList]
  decide +kernel
example : ¬ PanicCond "M BEGIN A ::= }".toList ∧
    verdict "M BEGIN A ::= }" = ok (some (.parse, .unexpectedToken)) := by
  rw [verdict, String.toList_ofList]
  decide +kernel
example : verdict "M DEFINITIONS ::= BEGIN A ::= INTEGER (0..7) END" = ok none := by
  rw [verdict, String.toList_ofList]
  decide +kernel
/-- the self-import, from its text: an unresolved reference (was: stack overflow) -/
example : ¬ PanicCond "S DEFINITIONS ::= BEGIN IMPORTS g FROM S; A ::= INTEGER (0..g) END".toList ∧
    verdict "S DEFINITIONS ::= BEGIN IMPORTS g FROM S; A ::= INTEGER (0..g) END" =
    ok (some (.resolve, .failedToResolveReference)) := by
  rw [verdict, String.toList_ofList]
  decide +kernel
/-- … and a self-import of a name the module does define resolves -/
example : verdict "S DEFINITIONS ::= BEGIN IMPORTS g FROM S; g INTEGER ::= 7 A ::= INTEGER (0..g) END" =
    ok none := by
  rw [verdict, String.toList_ofList]
  decide +kernel

open Asn1Verif.Codegen.Tags in
/-- `A ::= B`, `B ::= CHOICE { x INTEGER, y C }`, `C ::= BOOLEAN` -/
def envOk : Env :=
  [{ name := "A", tag := none, ty := .ref "B" },
   { name := "B", tag := none, ty := .choice [(none, .builtin .integer), (none, .ref "C")] none },
   { name := "C", tag := none, ty := .builtin .boolean }]
open Asn1Verif.Codegen.Tags in
/-- `tag_resolver_total`: the bound for `A` in `envOk` is 10; the resolver finds BOOLEAN's tag -/
example : fuelBound envOk [] (.ref "A") ≤ 10 ∧
    resolveTypeTag envOk 10 [] (.ref "A") = some (some (Tag.universal 1)) := by decide +kernel
open Asn1Verif.Codegen.Tags in
/-- the cyclic witnesses of the former finding, evaluated: `A ::= A`; `A ::= B`, `B ::= A`;
    `A ::= CHOICE { x INTEGER, y CHOICE { z A } }` — no tag, no divergence -/
example :
    resolveTypeTag envSelf (defaultFuel envSelf (.ref "A")) [] (.ref "A") = some none ∧
    resolveTypeTag [{ name := "A", tag := none, ty := .ref "B" },
                    { name := "B", tag := none, ty := .ref "A" }] 8 [] (.ref "A") = some none ∧
    resolveTypeTag [{ name := "A", tag := none,
                      ty := .choice [(none, .builtin .integer),
                                     (none, .choice [(none, .ref "A")] none)] none }]
      8 [] (.ref "A") = some none := by decide +kernel

end Asn1Verif.Props.C14
