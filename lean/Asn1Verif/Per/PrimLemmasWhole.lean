import Asn1Verif.Per.PrimLemmasNum
/-
  Whole numbers (11.4–11.8) and the enumeration / choice index against `X691/Prim.lean`.
-/
namespace Asn1Verif.Per
open Asn1Verif Outcome

/-! ### `nnbi(None, None)`: minimum octets with a length (the body of 11.7) -/

theorem nnOctets_le_8 {v : Nat} (hv : v ≤ U64_MAX) : 1 ≤ X691.nnOctets v ∧ X691.nnOctets v ≤ 8 := by
  have := bitWidth_le_64 hv
  unfold X691.nnOctets; omega

theorem nnbi_len_eq {v : Nat} (hv : v ≤ U64_MAX) : 8 - min (lz64 v / 8) 7 = X691.nnOctets v := by
  have := bitWidth_le_64 hv
  unfold X691.nnOctets lz64; omega

theorem lt_two_pow_nnOctets (v : Nat) : v < 2 ^ (8 * X691.nnOctets v) := by
  apply bitWidth_le_iff.1
  unfold X691.nnOctets; omega

theorem nnOctets_min (v k : Nat) (hk : 1 ≤ k) (h : v < 2 ^ (8 * k)) : X691.nnOctets v ≤ k := by
  have := bitWidth_le_of_lt h
  unfold X691.nnOctets; omega

theorem lenU_small {k : Nat} (hk : k ≤ 127) : X691.lenU k = (false :: natBits 7 k, none) := by
  unfold X691.lenU; simp [hk]

theorem wNNBI_unb (v : Nat) (hv : v ≤ U64_MAX) : wNNBI none none v = ok (X691.semiNat v) := by
  simp only [wNNBI]
  rw [nnbi_len_eq hv, wLen_unc]
  rfl

theorem rNNBI_unb (v : Nat) (post : Bits) (hv : v ≤ U64_MAX) :
    rNNBI none none (X691.semiNat v ++ post) = ok (v, post) := by
  have hk := nnOctets_le_8 hv
  simp only [rNNBI, X691.semiNat, List.append_assoc]
  rw [rLen_unc, lenU_small (by omega)]
  simp only [bind_ok, Option.getD_none]
  rw [if_pos hk.2, rdNat_natBits, Nat.mod_eq_of_lt (lt_two_pow_nnOctets v)]

theorem wNNBI_bounded (lb ub : Option Nat) (v : Nat) (h : lb.isSome ∨ ub.isSome) :
    wNNBI lb ub v = wNNBIc lb ub v := by
  cases lb <;> cases ub <;> simp_all [wNNBI]

theorem rNNBI_bounded (lb ub : Option Nat) (bs : Bits) (h : lb.isSome ∨ ub.isSome) :
    rNNBI lb ub bs = rNNBIc lb ub bs := by
  cases lb <;> cases ub <;> simp_all [rNNBI]

theorem wNNBI_field (range v : Nat) (h : v ≤ range) :
    wNNBI none (some range) v = ok (X691.offsetField range v) := by
  rw [wNNBI_bounded _ _ _ (Or.inr rfl), wNNBIc_field _ _ h, offsetField_eq]

theorem rNNBI_field (range v : Nat) (post : Bits) (h : v ≤ range) (hr : range ≤ U64_MAX) :
    rNNBI none (some range) (X691.offsetField range v ++ post) = ok (v, post) := by
  rw [rNNBI_bounded _ _ _ (Or.inr rfl), offsetField_eq, rNNBIc_field _ _ _ h hr]

/-! ### 11.4 2's-complement-binary-integer -/

theorem two_pow_int_pos (w : Nat) : (0 : Int) < (2 : Int) ^ w := Int.pow_pos (by decide)

theorem two_pow_cast (n : Nat) : (2 : Int) ^ n = ((2 ^ n : Nat) : Int) := by
  rw [Int.natCast_pow]; rfl

theorem i64AsU64_mod (w : Nat) (hw : w ≤ 64) (v : Int) :
    i64AsU64 v % 2 ^ w = (v % (2 : Int) ^ w).toNat := by
  unfold i64AsU64
  have h64 : (0 : Int) ≤ v % 2 ^ 64 := Int.emod_nonneg _ (Int.ne_of_gt (two_pow_int_pos 64))
  have hw0 : (0 : Int) ≤ v % 2 ^ w := Int.emod_nonneg _ (Int.ne_of_gt (two_pow_int_pos w))
  apply Int.natCast_inj.1
  rw [Int.natCast_emod, Int.toNat_of_nonneg h64, Int.toNat_of_nonneg hw0, Int.natCast_pow]
  apply Int.emod_emod_of_dvd
  have : (2 : Nat) ^ w ∣ 2 ^ 64 := Nat.pow_dvd_pow 2 hw
  have := Int.natCast_dvd_natCast.2 this
  simpa [Int.natCast_pow] using this

theorem natBits_i64AsU64 (w : Nat) (hw : w ≤ 64) (v : Int) :
    natBits w (i64AsU64 v) = X691.twos w v := by
  unfold X691.twos
  rw [← i64AsU64_mod w hw v, natBits_mod _ (Nat.le_refl w)]

theorem w2s_ok (w : Nat) (v : Int) (h1 : 1 ≤ w) (h2 : w ≤ 64) : w2s w v = ok (X691.twos w v) := by
  unfold w2s
  rw [if_neg (by omega), natBits_i64AsU64 w h2 v]

theorem w2s_err (w : Nat) (v : Int) (h : w = 0 ∨ 64 < w) : w2s w v = err .bitLenNotInRange :=
  if_pos h

theorem testBit_top (w n : Nat) (hw : 1 ≤ w) (hn : n < 2 ^ w) :
    n.testBit (w - 1) = decide (2 ^ (w - 1) ≤ n) := by
  by_cases h : 2 ^ (w - 1) ≤ n
  · simp only [h, decide_true]
    apply Nat.testBit_of_two_pow_le_and_two_pow_add_one_gt h
    rwa [Nat.sub_add_cancel hw]
  · simp only [h, decide_false]
    exact Nat.testBit_lt_two_pow (by omega)

theorem r2s_rt (w : Nat) (v : Int) (post : Bits) (hw1 : 1 ≤ w) (hw2 : w ≤ 64)
    (h1 : -(2 : Int) ^ (w - 1) ≤ v) (h2 : v < (2 : Int) ^ (w - 1)) :
    r2s w (X691.twos w v ++ post) = ok (v, post) := by
  -- the field holds `x = BitVec.ofInt w v`; the reader computes `x.toInt`, which is `v` again
  have hx : (BitVec.ofInt w v).toInt = v := by
    obtain ⟨k, rfl⟩ : ∃ k, w = k + 1 := ⟨w - 1, by omega⟩
    rw [Nat.add_sub_cancel, two_pow_cast] at h1 h2
    rw [BitVec.toInt_ofInt]
    apply Int.bmod_eq_of_le_mul_two <;> rw [Nat.pow_succ] <;> omega
  have hlt := (BitVec.ofInt w v).isLt
  simp only [r2s, X691.twos, if_neg (show ¬ (w = 0 ∨ w > 64) by omega), rdNat_natBits, bind_ok,
    two_pow_cast w, ← BitVec.toNat_ofInt, Nat.mod_eq_of_lt hlt, testBit_top w _ hw1 hlt,
    ← BitVec.msb_eq_decide]
  conv => rhs; rw [← hx, BitVec.toInt_eq_msb_cond]
  cases (BitVec.ofInt w v).msb <;> rfl

/-! ### 11.5 constrained whole number -/

theorem wConstrained_ok (lb ub v : Int) (h1 : lb ≤ v) (h2 : v ≤ ub) :
    wConstrained lb ub v = ok (X691.constrained lb ub v) := by
  unfold wConstrained X691.constrained
  rw [if_neg (by omega)]
  split
  · exact wNNBI_field _ _ (by omega)
  · rw [X691.offsetField, if_pos (by omega)]

theorem wConstrained_err (lb ub v : Int) (h : v < lb ∨ ub < v) :
    wConstrained lb ub v = err .valueNotInRange :=
  if_pos h

theorem rConstrained_rt (lb ub v : Int) (post : Bits) (h1 : lb ≤ v) (h2 : v ≤ ub)
    (hl : I64_MIN ≤ lb) (hu : ub ≤ I64_MAX) :
    rConstrained lb ub (X691.constrained lb ub v ++ post) = ok (v, post) := by
  simp only [rConstrained, X691.constrained]
  split
  · rw [rNNBI_field _ _ _ (by omega) (i64_range_le hl hu), bind_ok, if_neg (by omega),
      show lb + ((v - lb).toNat : Int) = v by omega]
  · rw [X691.offsetField, if_pos (by omega), show lb = v by omega]
    rfl

/-! ### 11.7 semi-constrained whole number -/

theorem wSemi_ok (lb v : Int) (h : lb ≤ v) (hl : I64_MIN ≤ lb) (hv : v ≤ I64_MAX) :
    wSemi lb v = ok (X691.semi lb v) := by
  unfold wSemi X691.semi
  rw [if_neg (by omega), wNNBI_unb _ (i64_range_le hl hv)]

theorem wSemi_err (lb v : Int) (h : v < lb) : wSemi lb v = err .valueNotInRange :=
  if_pos h

theorem rSemi_rt (lb v : Int) (post : Bits) (h : lb ≤ v) (hl : I64_MIN ≤ lb) (hv : v ≤ I64_MAX) :
    rSemi lb (X691.semi lb v ++ post) = ok (v, post) := by
  simp only [rSemi, X691.semi]
  rw [rNNBI_unb _ post (i64_range_le hl hv), bind_ok,
    show ((v - lb).toNat : Int) + lb = v by omega, if_pos]
  simp only [inI64, Bool.and_eq_true, decide_eq_true_eq]
  omega

/-! ### 11.8 unconstrained whole number -/

/-- `v`, or the complement `-v - 1` of a negative `v`: code and standard both count the octets of `v`
    from its significant bits -/
def mag (v : Int) : Nat := if 0 ≤ v then v.toNat else (-v - 1).toNat

theorem twosOctets_eq (v : Int) : X691.twosOctets v = bitWidth (mag v) / 8 + 1 := by
  unfold X691.twosOctets mag
  split <;> rfl

theorem bitWidth_mag_le (v : Int) (j : Nat) :
    bitWidth (mag v) ≤ j ↔ -(2 : Int) ^ j ≤ v ∧ v < (2 : Int) ^ j := by
  rw [bitWidth_le_iff, two_pow_cast]
  unfold mag
  split <;> omega

theorem bitWidth_mag_i64 {v : Int} (hl : I64_MIN ≤ v) (hu : v ≤ I64_MAX) : bitWidth (mag v) ≤ 63 :=
  (bitWidth_mag_le v 63).2 ⟨hl, Int.lt_of_le_sub_one hu⟩

theorem i64AsU64_nonneg {v : Int} (h0 : 0 ≤ v) (hv : v ≤ I64_MAX) : i64AsU64 v = v.toNat := by
  unfold i64AsU64; rw [I64_MAX_eq] at hv
  rw [show v % 2 ^ 64 = v by omega]

theorem i64AsU64_neg {v : Int} (h0 : v < 0) (hv : I64_MIN ≤ v) :
    U64_MAX - i64AsU64 v = (-v - 1).toNat := by
  unfold i64AsU64; rw [I64_MIN_eq] at hv; rw [U64_MAX_eq]
  rw [show v % 2 ^ 64 = v + 18446744073709551616 by omega]; omega

theorem lz64_mag {v : Int} (hl : I64_MIN ≤ v) (hu : v ≤ I64_MAX) :
    (if v < 0 then lo64 v - 1 else lz64 (i64AsU64 v) - 1) = lz64 (mag v) - 1 := by
  unfold mag
  split
  · rw [lo64, i64AsU64_neg ‹_› hl, if_neg (by omega)]
  · rw [i64AsU64_nonneg (by omega) hu, if_pos (by omega)]

theorem twosOctets_le_8 {v : Int} (hl : I64_MIN ≤ v) (hu : v ≤ I64_MAX) :
    1 ≤ X691.twosOctets v ∧ X691.twosOctets v ≤ 8 := by
  have := bitWidth_mag_i64 hl hu
  rw [twosOctets_eq]; omega

theorem unc_len_eq {v : Int} (hl : I64_MIN ≤ v) (hu : v ≤ I64_MAX) :
    8 - (if v < 0 then lo64 v - 1 else lz64 (i64AsU64 v) - 1) / 8 = X691.twosOctets v := by
  have := bitWidth_mag_i64 hl hu
  rw [lz64_mag hl hu, twosOctets_eq, lz64]
  omega

theorem twosOctets_range (v : Int) :
    -(2 : Int) ^ (8 * X691.twosOctets v - 1) ≤ v ∧ v < (2 : Int) ^ (8 * X691.twosOctets v - 1) :=
  (bitWidth_mag_le v _).1 (by rw [twosOctets_eq]; omega)

theorem twosOctets_min (v : Int) (k : Nat) (hk : 1 ≤ k)
    (h1 : -(2 : Int) ^ (8 * k - 1) ≤ v) (h2 : v < (2 : Int) ^ (8 * k - 1)) :
    X691.twosOctets v ≤ k := by
  have := (bitWidth_mag_le v _).2 ⟨h1, h2⟩
  rw [twosOctets_eq]; omega

theorem wUnconstrained_ok (v : Int) (hl : I64_MIN ≤ v) (hu : v ≤ I64_MAX) :
    wUnconstrained v = ok (X691.unconstrained v) := by
  have hk := twosOctets_le_8 hl hu
  simp only [wUnconstrained]
  rw [unc_len_eq hl hu, wLen_unc]
  simp only [bind_ok]
  rw [w2s_ok _ _ (by omega) (by omega)]
  simp only [bind_ok, X691.unconstrained, Nat.mul_comm]

theorem rUnconstrained_rt (v : Int) (post : Bits) (hl : I64_MIN ≤ v) (hu : v ≤ I64_MAX) :
    rUnconstrained (X691.unconstrained v ++ post) = ok (v, post) := by
  have hk := twosOctets_le_8 hl hu
  have hr := twosOctets_range v
  simp only [rUnconstrained, X691.unconstrained, List.append_assoc]
  rw [rLen_unc, lenU_small (by omega)]
  simp only [bind_ok, Option.getD_none]
  rw [Nat.mul_comm]
  exact r2s_rt _ v post (by omega) (by omega) hr.1 hr.2

/-! ### 11.6 normally small non-negative whole number -/

theorem wSmall_ok (v : Nat) (hv : v ≤ U64_MAX) : wSmall v = ok (X691.small v) := by
  unfold wSmall X691.small
  by_cases h : v ≥ 64
  · have h' : ¬ v ≤ 63 := by omega
    simp only [c_SMALL, h, h', if_true, if_false, wNNBI_unb v hv, bind_ok]
  · have h' : v ≤ 63 := by omega
    simp only [c_SMALL, h, h', if_true, if_false, wNNBI_field _ _ h', offsetField_eq, bind_ok,
      bitWidth_63]

theorem rSmall_rt (v : Nat) (post : Bits) (hv : v ≤ U64_MAX) :
    rSmall (X691.small v ++ post) = ok (v, post) := by
  simp only [rSmall, X691.small, c_SMALL]
  split
  · simp only [List.cons_append, rdBit_cons, bind_ok, Bool.false_eq_true, if_false]
    rw [← bitWidth_63, ← offsetField_eq]
    exact rNNBI_field _ _ _ ‹_› (by decide)
  · simp only [List.cons_append, rdBit_cons, bind_ok, if_true]
    exact rNNBI_unb v post hv

/-! ### enumeration / choice index -/

theorem wIndex_root (std : Nat) (ext : Bool) (i : Nat) (h : i < std) :
    wIndex std ext i = ok (X691.index std ext i) := by
  unfold wIndex X691.index X691.constrainedNat
  have c : ¬ i ≥ std := by omega
  simp only [c, decide_false, Bool.false_eq_true, if_false, h, if_true, Nat.sub_zero,
    wNNBI_field _ _ (show i ≤ std - 1 by omega), bind_ok]

theorem wIndex_ext (std : Nat) (i : Nat) (h : std ≤ i) (hi : i ≤ U64_MAX) :
    wIndex std true i = ok (X691.index std true i) := by
  unfold wIndex X691.index
  have c : i ≥ std := h
  have c' : ¬ i < std := by omega
  simp only [c, c', decide_true, if_true, if_false]
  rw [wSmall_ok _ (by omega)]
  simp

theorem wIndex_err (std : Nat) (i : Nat) (h : std ≤ i) :
    wIndex std false i = err .invalidChoiceIndex := by
  unfold wIndex
  have c : i ≥ std := h
  simp [c]

theorem rIndex_rt (std : Nat) (ext : Bool) (i : Nat) (post : Bits) (h : i < std ∨ ext = true)
    (hs : std ≤ U64_MAX) (hi : i ≤ U64_MAX) :
    rIndex std ext (X691.index std ext i ++ post) = ok (i, post) := by
  simp only [rIndex, X691.index]
  by_cases c : i < std
  · have hfield := rNNBI_field (std - 1) i post (by omega) (by omega)
    have hs0 : ¬ std = 0 := by omega
    rw [if_pos c]
    cases ext <;> simpa [hs0, X691.constrainedNat] using hfield
  · cases h.resolve_left c
    simp only [if_neg c, if_true, List.cons_append, rdBit_cons, bind_ok]
    rw [rSmall_rt _ post (by omega), bind_ok, Nat.sub_add_cancel (Nat.le_of_not_lt c),
      if_neg (Nat.not_lt.2 hi)]

end Asn1Verif.Per
