import Asn1Verif.Uper.ConformSeq
/-
  C02, writer side — the SEQUENCE node and the mutual structural induction over `Ty` / `Fields`:
  outside the known deviation classes the bits of the writer are the X.691 encoding.
-/
namespace Asn1Verif.Uper
open Asn1Verif Outcome Per

theorem cw_seq {so fc : Nat} {extAfter : Option Nat} {fields : Fields}
    (ih : ConformFields fields (rootCountOf extAfter fields)) :
    Conform (.seq so fc extAfter fields) := by
  intro v bits hr h
  unfold enc at h
  split at h
  case h_2 => cases h
  rename_i vs
  unfold rangeOk at hr
  simp only [Bool.and_eq_true, decide_eq_true_eq] at hr
  obtain ⟨acc', hacc, h⟩ := bind_eq_ok.1 h
  obtain ⟨rp, rb, ap, ab, he, hf⟩ := ih vs {} acc' hr.2 hacc
  have hcnt := encodeFields_addCount _ _ _ _ _ _ _ he
  unfold Frame at hf
  obtain ⟨h1, h2, h3⟩ := hf
  unfold X691.encode
  dsimp only at h1 h2 h3
  cases extAfter with
  | none =>
    dsimp only [rootCountOf] at he ⊢
    rw [he]
    cases h
    simp [h1, h2]
  | some k =>
    dsimp only [rootCountOf] at he hcnt h ⊢
    rw [he]
    rcases h3 with ⟨hst, hany, hp, hb⟩ | ⟨hst, hany⟩
    · -- some addition is present: extension bit, count, bitmap, open types
      rw [hst] at h
      dsimp only at h
      rw [wSmall_ok _ (by omega)] at h
      cases h
      simp [hany, h1, h2, hp, hb, hcnt]
    · have : (ok (false :: acc'.rootPres ++ acc'.rootBody) : Outcome Bits) = ok bits := by
        split at h
        · exact absurd ‹_› hst
        · exact h
      cases this
      simp [hany, h1, h2]

mutual
theorem cw : ∀ t : Ty, t.noDev = true → t.consistent = true → Conform t
  | .bool, _, _ => cw_bool
  | .null, _, _ => cw_null
  | .int .., hd, _ => cw_int hd
  | .enum .., _, _ => cw_enum
  | .str .., hd, _ => cw_str hd
  | .oct .., hd, _ => cw_oct hd
  | .bits .., hd, _ => cw_bits hd
  | .seqOf _ _ _ elem, hd, hc =>
    have hd := Bool.and_eq_true_iff.1 hd
    cw_seqOf hd.1 (cw elem hd.2 hc)
  | .seq _ _ extAfter fields, hd, hc =>
    have hd := Bool.and_eq_true_iff.1 hd
    have hc := Bool.and_eq_true_iff.1 hc
    cw_seq (cwFields fields (rootCountOf extAfter fields) hd.2 hc.2)
  | .choice _ _ _ alts, hd, hc => by
    simp only [Ty.consistent, Bool.and_eq_true, beq_iff_eq] at hc
    exact cw_choice hc.1.1 (cwAlt alts alts.length hd hc.2)
theorem cwAlt : ∀ (alts : Fields) (n : Nat), alts.noDev n = true → alts.consistent = true →
    ConformAlt alts
  | .nil, _, _, _ => fun _ _ _ _ h => by cases h
  | .cons _ t rest, n, hd, hc => by
    simp only [Fields.noDev, Fields.consistent, Bool.and_eq_true] at hd hc
    intro i
    cases i with
    | zero => exact cw t hd.1.1 hc.1
    | succ i => exact cwAlt rest (n - 1) hd.2 hc.2 i
theorem cwFields : ∀ (fs : Fields) (rootLeft : Nat), fs.noDev rootLeft = true →
    fs.consistent = true → ConformFields fs rootLeft
  | .nil, rootLeft, _, _ => cwFields_nil rootLeft
  | .cons _ t rest, rootLeft, hd, hc => by
    simp only [Fields.noDev, Fields.consistent, Bool.and_eq_true] at hd hc
    exact cwFields_cons (cw t hd.1.1 hc.1) (cwFields rest (rootLeft - 1) hd.2 hc.2) hd.1.2
end

end Asn1Verif.Uper
