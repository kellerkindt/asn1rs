import Asn1Verif.Uper.SeqPrimLemmas
/-
  The layout of the bits `enc (.seq …)` emits, as a function of the field list and the value tree, for field
  lists of any length.  `presentOf`, `rootPresence`, `additionPresence` are plain recursions over (fields,
  values), independent of the mirror's accumulator; its state machine (`ExtState`) is described by what it does
  to the presence pattern of the additions: `emitAdd` (bitmap written), `finalSt` (state reached), `refuses` /
  `Inconsistent` (pattern refused).  `step_add_run` ties one addition step to them, `encFields_frame` the walk.
-/
namespace Asn1Verif.Uper
open Asn1Verif Outcome Per

/-! ### independent layout functions -/

/-- `none`: the value does not fit the kind -/
def presentOf : Kind → Val → Option Bool
  | .m, _ => some true
  | .o, .none => some false
  | .o, .some _ => some true
  | .o, _ => none
  | .d dv, v => some (!(v == dv))

/-- the value the component's own encoder is run on -/
def contentOf : Kind → Val → Val
  | .o, .some x => x
  | _, v => v

def Vals.get? : Vals → Nat → Option Val
  | .nil, _ => none
  | .cons v _, 0 => some v
  | .cons _ vs, n + 1 => vs.get? n

/-- one bit per OPTIONAL/DEFAULT component among the first `rootCount`, in order -/
def rootPresence : Fields → Vals → Nat → Bits
  | .cons k _ rest, .cons v vs, n + 1 =>
    (if k.isOptional then [(presentOf k v).getD false] else []) ++ rootPresence rest vs n
  | _, _, _ => []

/-- one bit per component after the first `rootCount` -/
def additionPresence : Fields → Vals → Nat → Bits
  | .cons k _ rest, .cons v vs, 0 => (presentOf k v).getD false :: additionPresence rest vs 0
  | .cons _ _ rest, .cons _ vs, n + 1 => additionPresence rest vs n
  | _, _, _ => []

theorem optCount_zero (fields : Fields) : fields.optCount 0 = 0 := by
  cases fields <;> rfl

theorem rootPresence_zero (fields : Fields) (vs : Vals) : rootPresence fields vs 0 = [] := by
  cases fields <;> cases vs <;> rfl

theorem additionPresence_of_le : ∀ (fields : Fields) (vs : Vals) (n : Nat), fields.length ≤ n →
    additionPresence fields vs n = []
  | .nil, _, _, _ => by simp [additionPresence]
  | .cons _ _ _, .nil, _, _ => by simp [additionPresence]
  | .cons _ _ rest, .cons _ vs, n + 1, h => additionPresence_of_le rest vs n (Nat.le_of_succ_le_succ h)

/-! ### `==` on value trees is equality -/

mutual
theorem Val.beq_refl : ∀ v : Val, Val.beq v v = true
  | .bool _ | .null | .int _ | .enum _ | .str _ | .oct _ | .bits _ | .none => by simp [Val.beq]
  | .list vs | .seq vs => by simp [Val.beq, Vals.beq_refl vs]
  | .choice _ v | .some v => by simp [Val.beq, Val.beq_refl v]
theorem Vals.beq_refl : ∀ vs : Vals, Vals.beq vs vs = true
  | .nil => by simp [Vals.beq]
  | .cons v vs => by simp [Vals.beq, Val.beq_refl v, Vals.beq_refl vs]
end

mutual
theorem Val.eq_of_beq : ∀ a b : Val, Val.beq a b = true → a = b
  | .list a, b, h | .seq a, b, h => by
    cases b <;> simp [Val.beq] at h
    rw [Vals.eq_of_beq a _ h]
  | .choice i a, b, h => by
    cases b <;> simp [Val.beq] at h
    rw [h.1, Val.eq_of_beq a _ h.2]
  | .some a, b, h => by
    cases b <;> simp [Val.beq] at h
    rw [Val.eq_of_beq a _ h]
  | .bool a, b, h | .int a, b, h | .enum a, b, h | .str a, b, h | .oct a, b, h | .bits a, b, h => by
    cases b <;> simp [Val.beq] at h
    rw [h]
  | .null, b, h | .none, b, h => by
    cases b <;> simp [Val.beq] at h
    rfl
theorem Vals.eq_of_beq : ∀ a b : Vals, Vals.beq a b = true → a = b
  | .nil, .nil, _ => rfl
  | .cons a as, .cons b bs, h => by
    simp only [Vals.beq, Bool.and_eq_true] at h
    rw [Val.eq_of_beq a b h.1, Vals.eq_of_beq as bs h.2]
  | .nil, .cons _ _, h | .cons _ _, .nil, h => by simp [Vals.beq] at h
end

theorem Val.beq_iff (a b : Val) : (a == b) = true ↔ a = b :=
  ⟨Val.eq_of_beq a b, fun h => h ▸ Val.beq_refl a⟩

theorem presentOf_default_absent (dv v : Val) : presentOf (.d dv) v = some false ↔ v = dv := by
  simp [presentOf, ← Val.beq_iff]

theorem presentOf_default_present (dv v : Val) : presentOf (.d dv) v = some true ↔ v ≠ dv := by
  simp [presentOf, ← Val.beq_iff]

/-- nothing when absent, else its own encoding -/
def RootBody (k : Kind) (t : Ty) (v : Val) (b : Bits) : Prop :=
  match presentOf k v with
  | some true => enc t (contentOf k v) = ok b
  | some false => b = []
  | none => False

/-- nothing when absent, else its own encoding `c`, wrapped as an open type: always for OPTIONAL/DEFAULT
    additions; for a mandatory one when the type's own `write_*` goes through `with_buffer`, i.e.
    everything but CHOICE / SEQUENCE OF -/
def AddBody (k : Kind) (t : Ty) (v : Val) (b : Bits) : Prop :=
  match presentOf k v with
  | some true => ∃ c, enc t (contentOf k v) = ok c ∧
      (if k.isOptional || t.buffersOnWrite then openType c = ok b else b = c)
  | some false => b = []
  | none => False

/-- `rb`: one entry per root component (the first `rootCount`), `ab`: one entry per addition -/
def Layout : Fields → Vals → Nat → List Bits → List Bits → Prop
  | .nil, .nil, _, [], [] => True
  | .cons k t rest, .cons v vs, n + 1, b :: rb, ab => RootBody k t v b ∧ Layout rest vs n rb ab
  | .cons k t rest, .cons v vs, 0, [], b :: ab => AddBody k t v b ∧ Layout rest vs 0 [] ab
  | _, _, _, _, _ => False

theorem RootBody.cases {k : Kind} {t : Ty} {v : Val} {b : Bits} (h : RootBody k t v b) :
    (presentOf k v = some true ∧ enc t (contentOf k v) = ok b) ∨
    (presentOf k v = some false ∧ b = []) := by
  unfold RootBody at h
  split at h
  · rename_i hp; exact Or.inl ⟨hp, h⟩
  · rename_i hp; exact Or.inr ⟨hp, h⟩
  · exact h.elim

theorem AddBody.cases {k : Kind} {t : Ty} {v : Val} {b : Bits} (h : AddBody k t v b) :
    (presentOf k v = some true ∧ ∃ c, enc t (contentOf k v) = ok c ∧
      (if k.isOptional || t.buffersOnWrite then openType c = ok b else b = c)) ∨
    (presentOf k v = some false ∧ b = []) := by
  unfold AddBody at h
  split at h
  · rename_i hp; exact Or.inl ⟨hp, h⟩
  · rename_i hp; exact Or.inr ⟨hp, h⟩
  · exact h.elim

/-- wrapped as open type where the code does so -/
def addContent (k : Kind) (t : Ty) (c : Unit → Outcome Bits) : Outcome Bits :=
  c () >>= fun x => if k.isOptional || t.buffersOnWrite then openType x else ok x

theorem rootBody_of_ok {k : Kind} {t : Ty} {v : Val} {p : Bool} {b : Bits}
    (hp : presentOf k v = some p) (hb : (if p then enc t (contentOf k v) else ok []) = ok b) :
    RootBody k t v b := by
  unfold RootBody
  rw [hp]
  cases p
  · exact (ok.inj hb).symm
  · exact hb

theorem addBody_of_ok {k : Kind} {t : Ty} {v : Val} {p : Bool} {b : Bits}
    (hp : presentOf k v = some p)
    (hb : (if p then addContent k t fun _ => enc t (contentOf k v) else ok []) = ok b) :
    AddBody k t v b := by
  unfold AddBody
  rw [hp]
  cases p
  · exact (ok.inj hb).symm
  · obtain ⟨c, hc, hb⟩ := bind_eq_ok.1 hb
    refine ⟨c, hc, ?_⟩
    by_cases hw : (k.isOptional || t.buffersOnWrite) = true
    · rwa [if_pos hw] at hb ⊢
    · rw [if_neg hw] at hb ⊢
      exact (ok.inj hb).symm

/-! ### facts that follow from a layout -/

theorem Layout.lengths : ∀ {fields : Fields} {vs : Vals} {n : Nat} {rb ab : List Bits},
    Layout fields vs n rb ab →
    vs.length = fields.length ∧ rb.length = min n fields.length ∧ ab.length = fields.length - n := by
  intro fields vs n rb ab h
  fun_induction Layout fields vs n rb ab with
  | case1 n => exact ⟨rfl, (Nat.min_zero n).symm, (Nat.zero_sub n).symm⟩
  | case2 _ _ _ _ _ _ _ _ _ ih =>
    obtain ⟨h1, h2, h3⟩ := ih h.2
    exact ⟨congrArg (· + 1) h1, by rw [List.length_cons, h2]; exact (Nat.succ_min_succ ..).symm,
      by rw [h3]; exact (Nat.add_sub_add_right ..).symm⟩
  | case3 _ _ _ _ _ _ _ ih =>
    obtain ⟨h1, _, h3⟩ := ih h.2
    exact ⟨congrArg (· + 1) h1, (Nat.zero_min _).symm, congrArg (· + 1) h3⟩
  | case4 => exact h.elim

theorem Layout.presence_lengths {fields : Fields} {vs : Vals} {n : Nat} {rb ab : List Bits}
    (h : Layout fields vs n rb ab) :
    (rootPresence fields vs n).length = fields.optCount n ∧
    (additionPresence fields vs n).length = fields.length - n := by
  fun_induction Layout fields vs n rb ab with
  | case1 n => exact ⟨rfl, (Nat.zero_sub n).symm⟩
  | case2 k _ _ _ _ _ _ _ _ ih =>
    obtain ⟨h1, h2⟩ := ih h.2
    refine ⟨?_, h2.trans (Nat.add_sub_add_right ..).symm⟩
    rw [rootPresence, List.length_append, h1, Fields.optCount]
    cases k.isOptional <;> rfl
  | case3 _ _ _ _ _ _ _ ih => exact ⟨rfl, congrArg (· + 1) (ih h.2).2⟩
  | case4 => exact h.elim

theorem Layout.get : ∀ {fields : Fields} {vs : Vals} {n : Nat} {rb ab : List Bits},
    Layout fields vs n rb ab → ∀ {i : Nat} {k : Kind} {t : Ty}, fields.get? i = some (k, t) →
    ∃ v, vs.get? i = some v ∧
      if i < n then ∃ b, rb[i]? = some b ∧ RootBody k t v b
      else ∃ b, ab[i - n]? = some b ∧ AddBody k t v b := by
  intro fields vs n rb ab h
  fun_induction Layout fields vs n rb ab with
  | case1 => intro i k t hi; cases hi
  | case2 k0 t0 rest v vs n b rb ab ih =>
    intro i k t hi
    cases i with
    | zero => cases hi; exact ⟨v, rfl, by rw [if_pos n.succ_pos]; exact ⟨b, rfl, h.1⟩⟩
    | succ i =>
      simpa only [Vals.get?, Nat.succ_eq_add_one, Nat.add_lt_add_iff_right, Nat.add_sub_add_right,
        List.getElem?_cons_succ] using ih h.2 hi
  | case3 k0 t0 rest v vs b ab ih =>
    intro i k t hi
    cases i with
    | zero => cases hi; exact ⟨v, rfl, by rw [if_neg (Nat.lt_irrefl 0)]; exact ⟨b, rfl, h.1⟩⟩
    | succ i =>
      simpa only [Vals.get?, Nat.not_lt_zero, if_false, Nat.sub_zero, List.getElem?_cons_succ]
        using ih h.2 hi
  | case4 => exact h.elim

theorem Layout.addBodies_nil {fields : Fields} {vs : Vals} {n : Nat} {rb ab : List Bits}
    (h : Layout fields vs n rb ab) (ha : (additionPresence fields vs n).any id = false) :
    ab.flatten = [] := by
  fun_induction Layout fields vs n rb ab with
  | case1 => rfl
  | case2 _ _ _ _ _ _ _ _ _ ih => exact ih h.2 ha
  | case3 k _ _ v _ _ _ ih =>
    simp only [additionPresence, List.any_cons, id, Bool.or_eq_false_iff] at ha
    rcases h.1.cases with ⟨hp, _⟩ | ⟨_, rfl⟩
    · rw [hp] at ha
      cases ha.1
    · exact ih h.2 ha.2
  | case4 => exact h.elim

theorem Fields.get?_lt : ∀ {fields : Fields} {i : Nat} {x : Kind × Ty},
    fields.get? i = some x → i < fields.length
  | .cons _ _ _, 0, _, _ => Nat.succ_pos _
  | .cons _ _ rest, _ + 1, _, h => Nat.succ_lt_succ (Fields.get?_lt (fields := rest) h)

/-! ### the extension state machine over the presence pattern of the additions -/

/-- what the additions contribute to the bitmap, depending on the state at their start -/
def emitAdd : ExtState → Bits → Bits
  | .all, ap => ap
  | .root, true :: ap => true :: ap
  | _, _ => []

def finalSt : ExtState → Bits → ExtState
  | .root, true :: _ => .all
  | .root, false :: _ => .empty
  | st, _ => st

/-- a present addition is refused once the first addition was absent -/
def refuses : ExtState → Bool → Bool
  | .empty, true => true
  | _, _ => false

/-- the presence pattern `ap` of the additions still to come is refused from state `st`:
    the first addition was (or is) absent and a later one is present -/
def Inconsistent : ExtState → Bits → Prop
  | .all, _ => False
  | .empty, ap => ap.any id = true
  | .root, ap => ∃ rest, ap = false :: rest ∧ rest.any id = true

def AddsOk (st : ExtState) (ap : Bits) : Prop := ¬ Inconsistent st ap

@[simp] theorem emitAdd_nil (st : ExtState) : emitAdd st [] = [] := by cases st <;> rfl
@[simp] theorem finalSt_nil (st : ExtState) : finalSt st [] = st := by cases st <;> rfl

theorem emitAdd_cons (st : ExtState) (p : Bool) (ap : Bits) :
    emitAdd st (p :: ap) = emitAdd st [p] ++ emitAdd (finalSt st [p]) ap := by
  cases st <;> cases p <;> rfl

theorem finalSt_cons (st : ExtState) (p : Bool) (ap : Bits) :
    finalSt st (p :: ap) = finalSt (finalSt st [p]) ap := by
  cases st <;> cases p <;> rfl

theorem Inconsistent_cons (st : ExtState) (p : Bool) (ap : Bits) :
    Inconsistent st (p :: ap) ↔ refuses st p = true ∨ Inconsistent (finalSt st [p]) ap := by
  cases st <;> cases p <;> simp [Inconsistent, finalSt, refuses]

theorem AddsOk_nil (st : ExtState) : AddsOk st [] := by
  cases st <;> simp [AddsOk, Inconsistent]

theorem AddsOk_cons (st : ExtState) (p : Bool) (ap : Bits) :
    AddsOk st (p :: ap) ↔ refuses st p = false ∧ AddsOk (finalSt st [p]) ap := by
  simp [AddsOk, Inconsistent_cons]

/-- from the root state: the first addition is present (whole bitmap), or none is (no extension part) -/
theorem addsOk_root_cases (ap : Bits) (hok : AddsOk .root ap) :
    (ap.any id = true ↔ ap.head? = some true) ∧
    ((ap.any id = true ∧ finalSt .root ap = .all ∧ emitAdd .root ap = ap) ∨
     (ap.any id = false ∧ emitAdd .root ap = [] ∧
       (finalSt .root ap = .root ∨ finalSt .root ap = .empty))) := by
  cases ap with
  | nil => simp
  | cons b r =>
    cases b with
    | true => simp [finalSt, emitAdd]
    | false =>
      have : r.any id = false := by simpa [AddsOk, Inconsistent] using hok
      simp [finalSt, emitAdd, this]

theorem step_absent_irrel (acc : SeqAcc) (k : Kind) (t : Ty) (r : Bool)
    (c1 c2 : Unit → Outcome Bits) : acc.step k t r false c1 = acc.step k t r false c2 := by
  simp [SeqAcc.step]

theorem encFields_cons (k : Kind) (t : Ty) (rest : Fields) (v : Val) (vs : Vals) (rl : Nat)
    (acc : SeqAcc) :
    encFields (.cons k t rest) (.cons v vs) rl acc =
      match presentOf k v with
      | none => err .illTyped
      | some p =>
        acc.step k t (decide (rl > 0)) p (fun _ => enc t (contentOf k v)) >>= fun acc1 =>
          encFields rest vs (rl - 1) acc1 := by
  cases k with
  | m | d dv =>
    simp only [encFields, presentOf, contentOf]
    generalize acc.step _ _ _ _ _ = x; cases x <;> rfl
  | o =>
    cases v <;> simp only [encFields, presentOf, contentOf] <;> try rfl
    · rw [step_absent_irrel acc .o t _ (fun _ => ok []) (fun _ => enc t .none)]
      generalize acc.step _ _ _ _ _ = x; cases x <;> rfl
    · generalize acc.step _ _ _ _ _ = x; cases x <;> rfl

theorem step_root_eq (acc : SeqAcc) (k : Kind) (t : Ty) (p : Bool) (c : Unit → Outcome Bits) :
    acc.step k t true p c = ((if p then c () else ok []) >>= fun body =>
      ok { acc with rootPres := acc.rootPres ++ (if k.isOptional then [p] else []),
                    rootBody := acc.rootBody ++ body }) := by
  simp [SeqAcc.step]

theorem step_root_ok {acc acc1 : SeqAcc} {k : Kind} {t : Ty} {p : Bool} {c : Unit → Outcome Bits}
    (h : acc.step k t true p c = ok acc1) :
    ∃ body, (if p then c () else ok []) = ok body ∧
      acc1 = { acc with rootPres := acc.rootPres ++ (if k.isOptional then [p] else []),
                        rootBody := acc.rootBody ++ body } := by
  rw [step_root_eq] at h
  obtain ⟨body, hb, h⟩ := bind_eq_ok.1 h
  exact ⟨body, hb, (ok.inj h).symm⟩

theorem step_add_eq (acc : SeqAcc) (k : Kind) (t : Ty) (p : Bool) (c : Unit → Outcome Bits) :
    acc.step k t false p c =
      match acc.st, p with
      | .root, false => ok { acc with st := .empty }
      | .empty, false => ok acc
      | .empty, true => err .extensionInconsistent
      | _, p => ((if p then addContent k t c else ok []) >>= fun body =>
          ok { acc with addPres := acc.addPres ++ [p], addBody := acc.addBody ++ body, st := .all }) := by
  cases hs : acc.st <;> cases p <;> simp [SeqAcc.step, hs, addContent]

theorem step_add_run (acc : SeqAcc) (k : Kind) (t : Ty) (p : Bool) (c : Unit → Outcome Bits) :
    acc.step k t false p c =
      if refuses acc.st p then err .extensionInconsistent
      else (if p then addContent k t c else ok []) >>= fun body =>
        ok { acc with addPres := acc.addPres ++ emitAdd acc.st [p],
                      addBody := acc.addBody ++ body, st := finalSt acc.st [p] } := by
  rw [step_add_eq]
  obtain ⟨_, _, _, _, st⟩ := acc
  cases st <;> cases p <;> simp [emitAdd, finalSt, refuses]

theorem step_add_ok {acc acc1 : SeqAcc} {k : Kind} {t : Ty} {p : Bool} {c : Unit → Outcome Bits}
    (h : acc.step k t false p c = ok acc1) :
    ∃ body, (if p then addContent k t c else ok []) = ok body ∧
      acc1 = { acc with addPres := acc.addPres ++ emitAdd acc.st [p],
                        addBody := acc.addBody ++ body, st := finalSt acc.st [p] } ∧
      refuses acc.st p = false := by
  rw [step_add_run] at h
  split at h
  · cases h
  · obtain ⟨body, hb, h⟩ := bind_eq_ok.1 h
    exact ⟨body, hb, (ok.inj h).symm, Bool.eq_false_iff.2 ‹_›⟩

theorem step_add_err {acc : SeqAcc} {k : Kind} {t : Ty} {p : Bool} {c : Unit → Outcome Bits}
    {e : ErrKind} (h : acc.step k t false p c = err e) :
    p = true ∧ ((refuses acc.st p = true ∧ e = .extensionInconsistent) ∨ addContent k t c = err e) := by
  rw [step_add_run] at h
  cases p
  · cases hs : acc.st <;> simp [hs, refuses] at h
  · split at h
    · exact ⟨rfl, Or.inl ⟨‹_›, (err.inj h).symm⟩⟩
    · rcases bind_eq_err.1 h with h | ⟨_, _, h⟩
      · exact ⟨rfl, Or.inr h⟩
      · cases h

/-! ### the accumulator only ever appends -/

theorem encFields_frame {acc' : SeqAcc} : ∀ (fields : Fields) (vs : Vals) (rl : Nat) (acc : SeqAcc),
    encFields fields vs rl acc = ok acc' →
    ∃ rb ab, Layout fields vs rl rb ab ∧
      acc' = { rootPres := acc.rootPres ++ rootPresence fields vs rl,
               rootBody := acc.rootBody ++ rb.flatten,
               addPres := acc.addPres ++ emitAdd acc.st (additionPresence fields vs rl),
               addBody := acc.addBody ++ ab.flatten,
               st := finalSt acc.st (additionPresence fields vs rl) } ∧
      AddsOk acc.st (additionPresence fields vs rl)
  | .nil, .nil, rl, acc, h => by
    cases h
    exact ⟨[], [], trivial, by simp [rootPresence, additionPresence], AddsOk_nil _⟩
  | .nil, .cons _ _, _, _, h | .cons _ _ _, .nil, _, _, h => by simp [encFields] at h
  | .cons k t rest, .cons v vs, rl, acc, h => by
    rw [encFields_cons] at h
    cases hp : presentOf k v with
    | none => simp [hp] at h
    | some p =>
    simp only [hp] at h
    obtain ⟨acc1, h1, h2⟩ := bind_eq_ok.1 h
    cases rl with
    | succ n =>
      obtain ⟨rb, ab, hl, rfl, hok⟩ := encFields_frame rest vs n acc1 h2
      rw [decide_eq_true n.succ_pos] at h1
      obtain ⟨body, hb, rfl⟩ := step_root_ok h1
      refine ⟨body :: rb, ab, ⟨rootBody_of_ok hp hb, hl⟩, ?_, hok⟩
      simp only [rootPresence, additionPresence, hp, Option.getD_some, List.flatten_cons,
        List.append_assoc]
    | zero =>
      obtain ⟨rb, ab, hl, rfl, hok⟩ := encFields_frame rest vs 0 acc1 h2
      obtain ⟨body, hb, rfl, hr⟩ := step_add_ok h1
      cases List.eq_nil_of_length_eq_zero hl.lengths.2.1
      refine ⟨[], body :: ab, ⟨addBody_of_ok hp hb, hl⟩, ?_, ?_⟩
      · simp only [rootPresence_zero, additionPresence, hp, Option.getD_some, List.flatten_cons,
          List.append_assoc, ← emitAdd_cons, ← finalSt_cons]
      · rw [additionPresence, hp]
        exact (AddsOk_cons ..).2 ⟨hr, hok⟩

theorem encFields_init {fields : Fields} {vs : Vals} {rc : Nat} {acc' : SeqAcc}
    (h : encFields fields vs rc {} = ok acc') :
    ∃ rb ab, Layout fields vs rc rb ab ∧
      acc'.rootPres = rootPresence fields vs rc ∧ acc'.rootBody = rb.flatten ∧
      acc'.addPres = emitAdd .root (additionPresence fields vs rc) ∧ acc'.addBody = ab.flatten ∧
      acc'.st = finalSt .root (additionPresence fields vs rc) ∧
      AddsOk .root (additionPresence fields vs rc) := by
  obtain ⟨rb, ab, hl, hacc, hok⟩ := encFields_frame fields vs rc {} h
  refine ⟨rb, ab, hl, ?_⟩
  subst hacc
  simpa using hok

theorem encFields_length (fields : Fields) (vs : Vals) (rl : Nat) (acc fin : SeqAcc)
    (h : encFields fields vs rl acc = ok fin) : vs.length = fields.length :=
  let ⟨_, _, hl, _⟩ := encFields_frame fields vs rl acc h
  hl.lengths.1

/-! ### the whole SEQUENCE -/

/-- number of root components: all of them, or those up to the extension marker -/
def rootCountOf (ea : Option Nat) (fields : Fields) : Nat :=
  match ea with
  | none => fields.length
  | some k => k + 1

@[simp] theorem rootCountOf_none (fields : Fields) : rootCountOf none fields = fields.length := rfl
@[simp] theorem rootCountOf_some (k : Nat) (fields : Fields) : rootCountOf (some k) fields = k + 1 :=
  rfl

theorem enc_seq (so fc : Nat) (ea : Option Nat) (fields : Fields) (vs : Vals) :
    enc (.seq so fc ea fields) (.seq vs) =
      (encFields fields vs (rootCountOf ea fields) {} >>= fun acc =>
        match ea with
        | none => ok (acc.rootPres ++ acc.rootBody)
        | some k =>
          match acc.st with
          | .all => wSmall (fields.length - (k + 1) - 1) >>= fun n =>
              ok (true :: acc.rootPres ++ acc.rootBody ++ n ++ acc.addPres ++ acc.addBody)
          | _ => ok (false :: acc.rootPres ++ acc.rootBody)) := by
  simp only [enc]
  rfl

/-! ### layout of a successfully encoded SEQUENCE / SET -/

/-- extensible: extension bit, one presence bit per OPTIONAL/DEFAULT root component, the root
    bodies and — only when an addition is present, which is iff the first one is — the number of
    additions (`sm`: whatever the code writes for "number of additions − 1"), their bitmap, their bodies -/
theorem enc_seq_ext_layout {so fc k : Nat} {fields : Fields} {vs : Vals} {bits : Bits}
    (h : enc (.seq so fc (some k) fields) (.seq vs) = ok bits) :
    ∃ (rootBodies addBodies : List Bits) (sm : Bits),
      Layout fields vs (k + 1) rootBodies addBodies ∧
      wSmall (fields.length - (k + 1) - 1) = ok sm ∧
      bits = (additionPresence fields vs (k + 1)).any id ::
        rootPresence fields vs (k + 1) ++ rootBodies.flatten ++
        (if (additionPresence fields vs (k + 1)).any id then
          sm ++ additionPresence fields vs (k + 1) ++ addBodies.flatten
         else []) ∧
      ((additionPresence fields vs (k + 1)).any id = true ↔
        (additionPresence fields vs (k + 1)).head? = some true) := by
  rw [enc_seq, rootCountOf_some] at h
  obtain ⟨acc, ha, hb⟩ := bind_eq_ok.1 h
  obtain ⟨rb, ab, hl, h1, h2, h3, h4, h5, hok⟩ := encFields_init ha
  obtain ⟨sm, hsm⟩ := wSmall_total (fields.length - (k + 1) - 1)
  obtain ⟨hx, hc⟩ := addsOk_root_cases _ hok
  refine ⟨rb, ab, sm, hl, hsm, ?_, hx⟩
  rcases hc with ⟨a1, a3, a4⟩ | ⟨a1, _, a3⟩
  · simp only [h5, a3, hsm, bind_ok, ok.injEq] at hb
    simp [← hb, a1, h1, h2, h3, h4, a4]
  · have hb' : bits = false :: acc.rootPres ++ acc.rootBody := by
      rcases a3 with a3 | a3 <;> simp only [h5, a3, ok.injEq] at hb <;> exact hb.symm
    simp [hb', a1, h1, h2]

/-! ### when the SEQUENCE encoder refuses -/

/-- some present component's encoder fails with `e` — its own, or (additions only) the open-type
    wrapper around its encoding -/
def CompFails (fields : Fields) (vs : Vals) (rootCount : Nat) (e : ErrKind) : Prop :=
  ∃ i k t v, fields.get? i = some (k, t) ∧ vs.get? i = some v ∧ presentOf k v = some true ∧
    (enc t (contentOf k v) = err e ∨
      (rootCount ≤ i ∧ (k.isOptional || t.buffersOnWrite) = true ∧
        ∃ c, enc t (contentOf k v) = ok c ∧ openType c = err e))

theorem CompFails.succ {k0 : Kind} {t0 : Ty} {rest : Fields} {v0 : Val} {vs : Vals} {rl : Nat}
    {e : ErrKind} (h : CompFails rest vs (rl - 1) e) :
    CompFails (.cons k0 t0 rest) (.cons v0 vs) rl e := by
  obtain ⟨i, k, t, v, h1, h2, h3, h4⟩ := h
  refine ⟨i + 1, k, t, v, h1, h2, h3, ?_⟩
  rcases h4 with h4 | ⟨h4, h5⟩
  · exact Or.inl h4
  · exact Or.inr ⟨by omega, h5⟩

theorem addContent_err {k : Kind} {t : Ty} {c : Unit → Outcome Bits} {e : ErrKind}
    (h : addContent k t c = err e) :
    c () = err e ∨ ((k.isOptional || t.buffersOnWrite) = true ∧ ∃ x, c () = ok x ∧ openType x = err e) := by
  unfold addContent at h
  rcases bind_eq_err.1 h with h | ⟨x, hx, h⟩
  · exact Or.inl h
  · by_cases hw : (k.isOptional || t.buffersOnWrite) = true
    · rw [if_pos hw] at h
      exact Or.inr ⟨hw, x, hx, h⟩
    · rw [if_neg hw] at h
      cases h

/-- the value list fits the field list: one value per component, `none`/`some` for OPTIONAL ones -/
def Shaped : Fields → Vals → Prop
  | .nil, .nil => True
  | .cons k _ rest, .cons v vs => presentOf k v ≠ none ∧ Shaped rest vs
  | _, _ => False

theorem encFields_err {e : ErrKind} : ∀ (fields : Fields) (vs : Vals) (rl : Nat) (acc : SeqAcc),
    encFields fields vs rl acc = err e →
    (e = .extensionInconsistent ∧ Inconsistent acc.st (additionPresence fields vs rl)) ∨
      CompFails fields vs rl e ∨ (e = .illTyped ∧ ¬ Shaped fields vs)
  | .nil, .nil, _, _, h => by cases h
  | .nil, .cons _ _, _, _, h | .cons _ _ _, .nil, _, _, h =>
    Or.inr (Or.inr ⟨(err.inj h).symm, id⟩)
  | .cons k t rest, .cons v vs, rl, acc, h => by
    rw [encFields_cons] at h
    cases hp : presentOf k v with
    | none => exact Or.inr (Or.inr ⟨by simpa [hp] using h.symm, fun hs => hs.1 hp⟩)
    | some p =>
    simp only [hp] at h
    rcases bind_eq_err.1 h with h1 | ⟨acc1, h1, h2⟩
    · -- this component fails
      have here (hpt : p = true) (hf) : CompFails (.cons k t rest) (.cons v vs) rl e :=
        ⟨0, k, t, v, rfl, rfl, hpt ▸ hp, hf⟩
      cases rl with
      | succ n =>
        rw [decide_eq_true n.succ_pos, step_root_eq] at h1
        rcases bind_eq_err.1 h1 with h1 | ⟨_, _, h1⟩
        · cases p
          · cases h1
          · exact Or.inr (Or.inl (here rfl (Or.inl h1)))
        · cases h1
      | zero =>
        obtain ⟨rfl, h1⟩ := step_add_err h1
        rcases h1 with ⟨hr, he⟩ | h1
        · rw [additionPresence, hp]
          exact Or.inl ⟨he, (Inconsistent_cons ..).2 (Or.inl hr)⟩
        · rcases addContent_err h1 with h1 | ⟨hw, c, hc, ho⟩
          · exact Or.inr (Or.inl (here rfl (Or.inl h1)))
          · exact Or.inr (Or.inl (here rfl (Or.inr ⟨Nat.le_refl _, hw, c, hc, ho⟩)))
    · -- a later one does
      rcases encFields_err rest vs (rl - 1) acc1 h2 with ⟨he, hi⟩ | hc | he
      · refine Or.inl ⟨he, ?_⟩
        cases rl with
        | succ n =>
          rw [decide_eq_true n.succ_pos] at h1
          obtain ⟨_, _, rfl⟩ := step_root_ok h1
          exact hi
        | zero =>
          obtain ⟨_, _, rfl, _⟩ := step_add_ok h1
          rw [additionPresence, hp]
          exact (Inconsistent_cons ..).2 (Or.inr hi)
      · exact Or.inr (Or.inl hc.succ)
      · exact Or.inr (Or.inr ⟨he.1, fun hsh => he.2 hsh.2⟩)

/-- components `i < j` are well-typed and the root ones among them encode -/
def PrefixFine (fields : Fields) (vs : Vals) (rl j : Nat) : Prop :=
  ∀ i, i < j → ∀ k t, fields.get? i = some (k, t) →
    ∃ v p, vs.get? i = some v ∧ presentOf k v = some p ∧
      (p = true → i < rl → ∃ b, enc t (contentOf k v) = ok b)

theorem PrefixFine.tail {k0 : Kind} {t0 : Ty} {rest : Fields} {v0 : Val} {vs : Vals} {rl j : Nat}
    (h : PrefixFine (.cons k0 t0 rest) (.cons v0 vs) rl (j + 1)) : PrefixFine rest vs (rl - 1) j := by
  intro i hi k t hg
  obtain ⟨v, p, h1, h2, h3⟩ := h (i + 1) (by omega) k t hg
  exact ⟨v, p, h1, h2, fun hp hr => h3 hp (by omega)⟩

theorem PrefixFine.root_step {k0 : Kind} {t0 : Ty} {rest : Fields} {v0 : Val} {vs : Vals} {n j : Nat}
    (h : PrefixFine (.cons k0 t0 rest) (.cons v0 vs) (n + 1) (j + 1)) (acc : SeqAcc) :
    ∃ acc1, acc1.st = acc.st ∧
      encFields (.cons k0 t0 rest) (.cons v0 vs) (n + 1) acc = encFields rest vs n acc1 := by
  obtain ⟨_, p, h1, h2, h3⟩ := h 0 j.succ_pos k0 t0 rfl
  cases h1
  have hb : ∃ body, (if p then enc t0 (contentOf k0 v0) else ok []) = ok body := by
    cases p with
    | false => exact ⟨[], rfl⟩
    | true => exact h3 rfl n.succ_pos
  obtain ⟨body, hb⟩ := hb
  refine ⟨{ acc with rootPres := acc.rootPres ++ (if k0.isOptional then [p] else []),
                     rootBody := acc.rootBody ++ body }, rfl, ?_⟩
  rw [encFields_cons, h2]
  simp only [gt_iff_lt, Nat.zero_lt_succ, decide_true, step_root_eq, hb, bind_ok, Nat.add_sub_cancel]

/-- a present addition `j` is refused when the first addition was (state `.empty`) or is (state
    `.root`, component `rl`) absent — provided the encoder gets as far as component `j` -/
theorem encFields_inconsistent {kj : Kind} {tj : Ty} {vj : Val} (hp : presentOf kj vj = some true) :
    ∀ (fields : Fields) (vs : Vals) (rl : Nat) (acc : SeqAcc) (j : Nat),
    fields.get? j = some (kj, tj) → vs.get? j = some vj → PrefixFine fields vs rl j →
    ((acc.st = .empty ∧ rl = 0) ∨
     (acc.st = .root ∧ rl < j ∧ ∃ k t v, fields.get? rl = some (k, t) ∧ vs.get? rl = some v ∧
        presentOf k v = some false)) →
    encFields fields vs rl acc = err .extensionInconsistent
  | .cons k t rest, .cons v vs, rl, acc, 0, hf, hv, _, hst => by
    cases hf
    cases hv
    rcases hst with ⟨hs, rfl⟩ | ⟨_, hlt, _⟩
    · rw [encFields_cons, hp]
      simp [step_add_run, hs, refuses]
    · omega
  | .cons k t rest, .cons v vs, rl, acc, j + 1, hf, hv, hall, hst => by
    cases rl with
    | succ n =>
      -- a root component
      obtain ⟨hs, hlt, k1, t1, v1, g⟩ := hst.resolve_left fun h => nomatch h.2
      obtain ⟨acc1, h1, h⟩ := hall.root_step acc
      rw [h]
      exact encFields_inconsistent hp rest vs n acc1 j hf hv hall.tail
        (Or.inr ⟨h1.trans hs, by omega, k1, t1, v1, g⟩)
    | zero =>
      obtain ⟨v', p, h1, h2, _⟩ := hall 0 j.succ_pos k t rfl
      cases h1
      rw [encFields_cons, h2]
      rcases hst with ⟨hs, _⟩ | ⟨hs, _, k1, t1, v1, g1, g2, g3⟩
      · -- the first addition was absent
        cases p with
        | true => simp [step_add_run, hs, refuses]
        | false =>
          simp only [gt_iff_lt, Nat.lt_irrefl, decide_false, step_add_eq, hs, bind_ok]
          exact encFields_inconsistent hp rest vs 0 acc j hf hv hall.tail (Or.inl ⟨hs, rfl⟩)
      · -- the first addition, absent
        cases g1
        cases g2
        cases h2.symm.trans g3
        simp only [gt_iff_lt, Nat.lt_irrefl, decide_false, step_add_eq, hs, bind_ok]
        exact encFields_inconsistent hp rest vs 0 _ j hf hv hall.tail (Or.inl ⟨rfl, rfl⟩)

/-! ### no panic of its own -/

theorem addContent_ne_panic {k : Kind} {t : Ty} {c : Unit → Outcome Bits} (hc : c () ≠ panic) :
    addContent k t c ≠ panic :=
  bind_ne_panic hc fun x _ => ite_ne_panic (openType_ne_panic x) nofun

theorem step_ne_panic {acc : SeqAcc} {k : Kind} {t : Ty} {r p : Bool} {c : Unit → Outcome Bits}
    (hc : p = true → c () ≠ panic) : acc.step k t r p c ≠ panic := by
  cases r with
  | true =>
    rw [step_root_eq]
    refine bind_ne_panic ?_ fun _ _ => nofun
    cases p
    · nofun
    · exact hc rfl
  | false =>
    rw [step_add_run]
    refine ite_ne_panic nofun (bind_ne_panic ?_ fun _ _ => nofun)
    cases p
    · nofun
    · exact addContent_ne_panic (hc rfl)

theorem encFields_ne_panic : ∀ (fields : Fields) (vs : Vals) (rl : Nat) (acc : SeqAcc),
    (∀ i k t v, fields.get? i = some (k, t) → vs.get? i = some v → presentOf k v = some true →
      enc t (contentOf k v) ≠ panic) →
    encFields fields vs rl acc ≠ panic
  | .nil, vs, rl, acc, _ => by cases vs <;> simp [encFields]
  | .cons k t rest, .nil, rl, acc, _ => by simp [encFields]
  | .cons k t rest, .cons v vs, rl, acc, hc => by
    rw [encFields_cons]
    cases hp : presentOf k v with
    | none => nofun
    | some p =>
      exact bind_ne_panic (step_ne_panic fun hpt => hc 0 k t v rfl rfl (hpt ▸ hp)) fun acc1 _ =>
        encFields_ne_panic rest vs (rl - 1) acc1 fun i => hc (i + 1)

theorem enc_seq_ne_panic {so fc : Nat} {ea : Option Nat} {fields : Fields} {vs : Vals}
    (hc : ∀ i k t v, fields.get? i = some (k, t) → vs.get? i = some v →
      presentOf k v = some true → enc t (contentOf k v) ≠ panic) :
    enc (.seq so fc ea fields) (.seq vs) ≠ panic := by
  rw [enc_seq]
  refine bind_ne_panic (encFields_ne_panic _ _ _ _ hc) fun acc _ => ?_
  cases ea with
  | none => nofun
  | some k =>
    obtain ⟨b, hb⟩ := wSmall_total (fields.length - (k + 1) - 1)
    cases hs : acc.st <;> simp [hb]

end Asn1Verif.Uper
