import Asn1Verif.Proto.Wire
import Asn1Verif.Base.OutcomeLemmas
import Asn1Verif.Base.BigEndian
/-
  The protobuf wire primitives (C17).  Varints: `writeVarintSpec` is the writer's loop without its
  fuel; `readVarintLoop_write` follows the reader over its output from any shift, with the invariant
  `value < 2 ^ shift` (so `|||` is `+`).  Zig-zag is done for any width, the 32- and 64-bit
  functions of the code being instances; fixed-width numbers likewise, `be64` being width 8.
-/
namespace Asn1Verif.Proto
open Asn1Verif Outcome
open Asn1Verif.BigEndian (beBytes)

theorem map_ok_inv {α β : Type} {x : Outcome α} {f : α → β} {b : β} (h : f <$> x = ok b) :
    ∃ a, x = ok a ∧ f a = b := by
  cases x <;> cases h
  exact ⟨_, rfl, rfl⟩

theorem ite_ne {α : Type} {c : Prop} [Decidable c] {a b x : α} (ha : a ≠ x) (hb : b ≠ x) :
    (if c then a else b) ≠ x := ite_of (P := (· ≠ x)) ha hb

def writeVarintSpec (n : Nat) : List Byte :=
  if n > 0x7F then BitVec.ofNat 8 (n % 128 + 128) :: writeVarintSpec (n / 128)
  else [BitVec.ofNat 8 n]
termination_by n
decreasing_by omega

theorem writeVarintSpec_small {n : Nat} (h : n ≤ 0x7F) : writeVarintSpec n = [BitVec.ofNat 8 n] := by
  rw [writeVarintSpec]; simp; omega

theorem writeVarintSpec_big {n : Nat} (h : n > 0x7F) :
    writeVarintSpec n = BitVec.ofNat 8 (n % 128 + 128) :: writeVarintSpec (n / 128) := by
  rw [writeVarintSpec]; simp [h]

theorem writeVarintLoop_eq_spec (f n : Nat) (h : n < 128 ^ (f + 1)) :
    writeVarintLoop f n = writeVarintSpec n := by
  induction f generalizing n with
  | zero => rw [writeVarintSpec_small (Nat.le_of_lt_succ h)]; rfl
  | succ f ih =>
    rw [writeVarintLoop]
    by_cases hb : n > 0x7F
    · rw [if_pos hb, writeVarintSpec_big hb, ih]
      exact Nat.div_lt_of_lt_mul (by rwa [Nat.pow_succ, Nat.mul_comm] at h)
    · rw [if_neg hb, writeVarintSpec_small (Nat.le_of_not_lt hb)]

theorem writeVarint_eq_spec {n : Nat} (h : n < 2 ^ 64) : writeVarint n = writeVarintSpec n :=
  writeVarintLoop_eq_spec 9 n (Nat.lt_trans h (by decide))

theorem writeVarint_ne_nil (n : Nat) : writeVarint n ≠ [] := by
  rw [writeVarint, writeVarintLoop]; split <;> simp

theorem writeVarint_length_pos (n : Nat) : 0 < (writeVarint n).length :=
  List.length_pos_iff.2 (writeVarint_ne_nil n)

theorem writeVarintLoop_length_le (f n : Nat) : (writeVarintLoop f n).length ≤ f + 1 := by
  induction f generalizing n with
  | zero => simp [writeVarintLoop]
  | succ f ih =>
    rw [writeVarintLoop]; split
    · have := ih (n / 128); simp only [List.length_cons]; omega
    · simp

theorem writeVarint_length_le (n : Nat) : (writeVarint n).length ≤ 10 := writeVarintLoop_length_le 9 n

theorem lor_shift_eq_add {value x s : Nat} (hv : value < 2 ^ s) :
    value ||| (x * 2 ^ s) = value + x * 2 ^ s := by
  have := Nat.two_pow_add_eq_or_of_lt hv x
  rw [Nat.mul_comm (2 ^ s) x, Nat.or_comm] at this
  omega

theorem readVarintLoop_zero (shift value : Nat) (bs : List Byte) :
    readVarintLoop 0 shift value bs = ok (value, bs) := rfl

theorem readVarintLoop_nil (fuel shift value : Nat) :
    readVarintLoop (fuel + 1) shift value [] = if shift < 64 then err .endOfStream else ok (value, []) := rfl

theorem readVarintLoop_cons (fuel shift value : Nat) (b : Byte) (rest : List Byte) :
    readVarintLoop (fuel + 1) shift value (b :: rest) =
      if shift < 64 then
        if b.toNat < 128 then ok (value ||| (((b.toNat % 128) <<< shift) % 2 ^ 64), rest)
        else readVarintLoop fuel (shift + 7) (value ||| (((b.toNat % 128) <<< shift) % 2 ^ 64)) rest
      else ok (value, b :: rest) := rfl

theorem toNat_ofNat8 {n : Nat} (h : n < 256) : (BitVec.ofNat 8 n).toNat = n := by
  rw [BitVec.toNat_ofNat]; exact Nat.mod_eq_of_lt h

/-- peeling the low seven bits off `n`, placed at shift `s` behind the bits collected so far -/
theorem varint_peel {n s value : Nat} (hb : n > 0x7F) (hv : value < 2 ^ s) (hn : n * 2 ^ s < 2 ^ 64) :
    s + 7 < 64 ∧ n % 128 * 2 ^ s < 2 ^ 64 ∧ value + n % 128 * 2 ^ s < 2 ^ (s + 7) ∧
    n / 128 * 2 ^ (s + 7) < 2 ^ 64 ∧
    value + n % 128 * 2 ^ s + n / 128 * 2 ^ (s + 7) = value + n * 2 ^ s := by
  have hpow : 2 ^ (s + 7) = 128 * 2 ^ s := by rw [Nat.pow_add, Nat.mul_comm]
  have hsplit : n * 2 ^ s = n % 128 * 2 ^ s + n / 128 * (128 * 2 ^ s) := by
    rw [← Nat.mul_assoc, ← Nat.add_mul, Nat.mul_comm (n / 128), Nat.mod_add_div]
  have hlo : n % 128 * 2 ^ s ≤ 127 * 2 ^ s := Nat.mul_le_mul_right _ (Nat.le_of_lt_succ (Nat.mod_lt _ (by decide)))
  have hhi : 128 * 2 ^ s ≤ n / 128 * (128 * 2 ^ s) := Nat.le_mul_of_pos_left _ (Nat.div_pos hb (by decide))
  have h3 : value + n % 128 * 2 ^ s < 128 * 2 ^ s := by
    rw [Nat.succ_mul 127, Nat.add_comm]; exact Nat.add_lt_add_of_le_of_lt hlo hv
  rw [hsplit] at hn
  -- 128 ≤ n, so there is room for another round
  have h1 : 2 ^ (s + 7) < 2 ^ 64 := by
    rw [hpow]; exact Nat.lt_of_le_of_lt (Nat.le_trans hhi (Nat.le_add_left _ _)) hn
  rw [hpow, hsplit]
  exact ⟨(Nat.pow_lt_pow_iff_right (a := 2) (by decide)).1 h1, Nat.lt_of_le_of_lt (Nat.le_add_right _ _) hn, h3,
    Nat.lt_of_le_of_lt (Nat.le_add_left _ _) hn, Nat.add_assoc _ _ _⟩

theorem readVarintLoop_write (n : Nat) : ∀ (f s value : Nat) (post : List Byte),
    (writeVarintSpec n).length ≤ f → s < 64 → value < 2 ^ s → n * 2 ^ s < 2 ^ 64 →
    readVarintLoop f s value (writeVarintSpec n ++ post) = ok (value + n * 2 ^ s, post) := by
  induction n using writeVarintSpec.induct with
  | case1 n hb ih =>
    intro f s value post hf hs hv hn
    rw [writeVarintSpec_big hb] at hf ⊢
    obtain _ | f := f
    · exact absurd hf (Nat.not_succ_le_zero _)
    obtain ⟨h1, h2, h3, h4, h5⟩ := varint_peel hb hv hn
    rw [List.cons_append, readVarintLoop_cons, if_pos hs, toNat_ofNat8 (show n % 128 + 128 < 256 by omega),
      show (n % 128 + 128) % 128 = n % 128 by omega, if_neg (Nat.not_lt.2 (Nat.le_add_left _ _)),
      Nat.shiftLeft_eq, Nat.mod_eq_of_lt h2, lor_shift_eq_add hv,
      ih f (s + 7) _ post (Nat.le_of_succ_le_succ hf) h1 h3 h4, h5]
  | case2 n hb =>
    intro f s value post hf hs hv hn
    rw [writeVarintSpec_small (Nat.le_of_not_lt hb)] at hf ⊢
    obtain _ | f := f
    · exact absurd hf (Nat.not_succ_le_zero _)
    have h128 : n < 128 := Nat.lt_succ_of_le (Nat.le_of_not_lt hb)
    rw [List.cons_append, readVarintLoop_cons, if_pos hs, toNat_ofNat8 (Nat.lt_trans h128 (by decide)),
      Nat.mod_eq_of_lt h128, if_pos h128, Nat.shiftLeft_eq, Nat.mod_eq_of_lt hn, lor_shift_eq_add hv]
    rfl

theorem readVarint_writeVarint (n : Nat) (h : n < 2 ^ 64) (post : List Byte) :
    readVarint (writeVarint n ++ post) = ok (n, post) := by
  have hl := writeVarint_length_le n
  rw [writeVarint_eq_spec h] at hl ⊢
  rw [readVarint, readVarintLoop_write n 11 0 0 post (Nat.le_succ_of_le hl) (by decide) (Nat.two_pow_pos 0)
    (by rwa [Nat.pow_zero, Nat.mul_one]), Nat.pow_zero, Nat.mul_one, Nat.zero_add]

theorem readVarintLoop_ne_panic : ∀ (fuel shift value : Nat) (bs : List Byte),
    readVarintLoop fuel shift value bs ≠ panic
  | 0, _, _, _ => nofun
  | _ + 1, _, _, [] => ite_ne nofun nofun
  | f + 1, _, _, _ :: _ => ite_ne (ite_ne nofun (readVarintLoop_ne_panic f _ _ _)) nofun

theorem readVarintLoop_err : ∀ (fuel shift value : Nat) (bs : List Byte) (k : ErrKind),
    readVarintLoop fuel shift value bs = err k → k = .endOfStream
  | 0, _, _, _, _ => nofun
  | f + 1, shift, value, [], k => by
    rw [readVarintLoop_nil]
    split
    · intro h; cases h; rfl
    · nofun
  | f + 1, shift, value, b :: rest, k => by
    rw [readVarintLoop_cons]
    split
    · split
      · nofun
      · exact readVarintLoop_err f _ _ _ k
    · nofun

theorem readVarintLoop_ok : ∀ (fuel shift value : Nat) (bs : List Byte) (v : Nat) (rest : List Byte),
    readVarintLoop fuel shift value bs = ok (v, rest) →
    ∃ pre, bs = pre ++ rest ∧ pre.length ≤ fuel ∧ (shift < 64 → 0 < fuel → 0 < pre.length)
  | 0, _, _, _, _, _, h => by cases h; exact ⟨[], rfl, Nat.le_refl _, fun _ h => h⟩
  | f + 1, shift, value, [], v, rest, h => by
    rw [readVarintLoop_nil] at h
    split at h
    · cases h
    · rename_i hs; cases h; exact ⟨[], rfl, Nat.zero_le _, fun h => absurd h hs⟩
  | f + 1, shift, value, b :: tl, v, rest, h => by
    rw [readVarintLoop_cons] at h
    split at h
    · split at h
      · cases h; exact ⟨[b], rfl, Nat.succ_le_succ (Nat.zero_le _), fun _ _ => Nat.one_pos⟩
      · obtain ⟨pre, hpre, hl, _⟩ := readVarintLoop_ok f _ _ _ _ _ h
        exact ⟨b :: pre, by rw [hpre]; rfl, Nat.succ_le_succ hl, fun _ _ => Nat.succ_pos _⟩
    · rename_i hs; cases h; exact ⟨[], rfl, Nat.zero_le _, fun h => absurd h hs⟩

theorem readVarint_ok {bs : List Byte} {v : Nat} {rest : List Byte} (h : readVarint bs = ok (v, rest)) :
    ∃ pre, bs = pre ++ rest ∧ 0 < pre.length ∧ pre.length ≤ 11 := by
  obtain ⟨pre, h1, h2, h3⟩ := readVarintLoop_ok 11 0 0 bs v rest h
  exact ⟨pre, h1, h3 (by omega) (by omega), h2⟩

theorem readVarint_length {bs : List Byte} {v : Nat} {rest : List Byte} (h : readVarint bs = ok (v, rest)) :
    rest.length < bs.length := by
  obtain ⟨pre, h1, h2, _⟩ := readVarint_ok h
  rw [h1, List.length_append]; omega

/-- `zigzag32` is `zigzag 31`, `zigzag64` is `zigzag 63` -/
def zigzag (w : Nat) (v : BitVec (w + 1)) : BitVec (w + 1) := (v <<< 1) ^^^ (v.sshiftRight w)
def unzigzag (w : Nat) (x : BitVec (w + 1)) : BitVec (w + 1) := (x >>> 1) ^^^ (-(x &&& 1#(w + 1)))

theorem neg_and_one (w : Nat) (x : BitVec (w + 1)) :
    -(x &&& 1#(w + 1)) = if x.getLsbD 0 then BitVec.allOnes (w + 1) else 0#(w + 1) := by
  rw [BitVec.and_one_eq_setWidth_ofBool_getLsbD]
  cases x.getLsbD 0
  · simp
  · simp [BitVec.neg_one_eq_allOnes]

theorem zigzag_lsb (w : Nat) (v : BitVec (w + 1)) : (zigzag w v).getLsbD 0 = v.msb := by
  rw [zigzag, BitVec.getLsbD_xor, BitVec.getLsbD_shiftLeft, BitVec.getLsbD_sshiftRight,
    BitVec.msb_eq_getLsbD_last]
  simp [-BitVec.getLsbD_eq_getElem]

theorem unzigzag_zigzag (w : Nat) (v : BitVec (w + 1)) : unzigzag w (zigzag w v) = v := by
  apply BitVec.eq_of_getLsbD_eq
  intro i hi
  rw [unzigzag, neg_and_one, zigzag_lsb, BitVec.getLsbD_xor, BitVec.getLsbD_ushiftRight, zigzag,
    BitVec.getLsbD_xor, BitVec.getLsbD_shiftLeft, BitVec.getLsbD_sshiftRight]
  have hmsb : v.msb = v.getLsbD w := by rw [BitVec.msb_eq_getLsbD_last]; simp
  rcases Nat.lt_or_ge i w with hw | hw
  · have h1 : 1 + i < w + 1 := by omega
    have h2 : ¬ (1 + i < 1) := by omega
    have h3 : ¬ (w + 1 ≤ 1 + i) := by omega
    have h4 : ¬ (w + (1 + i) < w + 1) := by omega
    have h5 : 1 + i - 1 = i := by omega
    simp only [h1, h2, h3, h4, h5, decide_true, decide_false, Bool.not_false, Bool.true_and, if_false,
      Bool.and_true]
    cases hm : v.msb <;> cases hb : v.getLsbD i <;> simp [hi]
  · have : i = w := by omega
    subst this
    have h1 : ¬ (1 + i < i + 1) := by omega
    have h3 : (i + 1 ≤ 1 + i) := by omega
    simp only [h1, h3, decide_true, decide_false, Bool.false_and, Bool.not_true]
    rw [← hmsb]
    cases hm : v.msb <;> simp

theorem unzigzag32_zigzag32 (v : BitVec 32) : unzigzag32 (zigzag32 v) = v := unzigzag_zigzag 31 v
theorem unzigzag64_zigzag64 (v : BitVec 64) : unzigzag64 (zigzag64 v) = v := unzigzag_zigzag 63 v

theorem sshiftRight_full (w : Nat) (x : BitVec (w + 1)) :
    x.sshiftRight w = if x.msb then BitVec.allOnes (w + 1) else 0#(w + 1) := by
  apply BitVec.eq_of_getLsbD_eq
  intro i hi
  -- every bit of the result is the sign bit
  have h : (x.sshiftRight w).getLsbD i = x.msb := by
    rw [BitVec.getLsbD_sshiftRight, BitVec.msb_eq_getLsbD_last, Nat.add_sub_cancel]
    by_cases h0 : i = 0
    · subst h0; simp [-BitVec.getLsbD_eq_getElem]
    · simp [-BitVec.getLsbD_eq_getElem, show ¬ (w + 1 ≤ i) by omega, show ¬ (w + i < w + 1) by omega]
  rw [h]
  cases x.msb <;> simp [hi]

/-- `2·x` for a non-negative, `-2·x - 1` for a negative two's-complement `x` -/
theorem zigzag_toNat (w : Nat) (x : BitVec (w + 1)) :
    (zigzag w x).toNat = if x.msb then 2 ^ (w + 1) - 1 - (2 * x.toNat) % 2 ^ (w + 1) else (2 * x.toNat) % 2 ^ (w + 1) := by
  rw [zigzag, sshiftRight_full]
  cases hm : x.msb
  · simp only [Bool.false_eq_true, if_false, BitVec.xor_zero, BitVec.toNat_shiftLeft, Nat.shiftLeft_eq, Nat.pow_one]
    rw [Nat.mul_comm]
  · simp only [if_true, BitVec.xor_allOnes, BitVec.toNat_not, BitVec.toNat_shiftLeft, Nat.shiftLeft_eq, Nat.pow_one]
    rw [Nat.mul_comm]

theorem ofInt_toNat_msb (n : Nat) (v : Int) :
    (BitVec.ofInt (n + 1) v).toNat = (v % 2 ^ (n + 1)).toNat ∧
    (BitVec.ofInt (n + 1) v).msb = decide (2 ^ n ≤ (v % 2 ^ (n + 1)).toNat) := by
  have h : (BitVec.ofInt (n + 1) v).toNat = (v % 2 ^ (n + 1)).toNat := by
    rw [BitVec.toNat_ofInt]; norm_cast
  refine ⟨h, ?_⟩
  rw [BitVec.msb_eq_decide, h]
  simp

theorem zigzag_ofInt (w : Nat) (v : Int) (h0 : -(2 ^ w) ≤ v) (h1 : v < 2 ^ w) :
    (zigzag w (BitVec.ofInt (w + 1) v)).toNat = (if 0 ≤ v then 2 * v else -2 * v - 1).toNat := by
  obtain ⟨t, m⟩ := ofInt_toNat_msb w v
  have hp : (0 : Int) < 2 ^ w := Int.pow_pos (by decide)
  have hn : (2 : Nat) ^ (w + 1) = 2 * 2 ^ w := Nat.pow_succ'
  have hi : (2 : Int) ^ (w + 1) = 2 * 2 ^ w := Int.pow_succ' ..
  have hc : ((2 ^ w : Nat) : Int) = 2 ^ w := by norm_cast
  rw [zigzag_toNat, m, t]
  by_cases hv : 0 ≤ v
  · have e : v % 2 ^ (w + 1) = v := Int.emod_eq_of_lt hv (by omega)
    rw [e, if_pos hv, if_neg (by simp only [decide_eq_true_eq]; omega), hn, Nat.mod_eq_of_lt (by omega)]
    omega
  · have e : v % 2 ^ (w + 1) = v + 2 ^ (w + 1) := by
      rw [← Int.add_mul_emod_self_left v (2 ^ (w + 1)) 1, Int.mul_one]
      exact Int.emod_eq_of_lt (by omega) (by omega)
    rw [e, if_neg hv, if_pos (by simp only [decide_eq_true_eq]; omega), hn]
    have : 2 * (v + 2 ^ (w + 1)).toNat % (2 * 2 ^ w) = 2 * (v + 2 ^ (w + 1)).toNat - 2 * 2 ^ w := by
      rw [Nat.mod_eq_sub_mod (by omega), Nat.mod_eq_of_lt (by omega)]
    omega

/-- `(x as i32 as u64) as u32 = x` -/
theorem ofNat32_signExtend64 (x : BitVec 32) : BitVec.ofNat 32 (x.signExtend 64).toNat = x := by
  rw [BitVec.ofNat_toNat]
  apply BitVec.eq_of_getLsbD_eq
  intro i hi
  rw [BitVec.getLsbD_setWidth, BitVec.getLsbD_signExtend]
  have : i < 64 := by omega
  simp [-BitVec.getLsbD_eq_getElem, hi, this]

theorem varintToSint32_sint32ToVarint (v : BitVec 32) : varintToSint32 (sint32ToVarint v) = v := by
  rw [varintToSint32, sint32ToVarint, ofNat32_signExtend64, unzigzag32_zigzag32]

theorem varintToSint64_sint64ToVarint (v : BitVec 64) : varintToSint64 (sint64ToVarint v) = v := by
  rw [varintToSint64, sint64ToVarint, BitVec.ofNat_toNat, BitVec.setWidth_eq, unzigzag64_zigzag64]

theorem sint32ToVarint_lt (v : BitVec 32) : sint32ToVarint v < 2 ^ 64 := BitVec.isLt _
theorem sint64ToVarint_lt (v : BitVec 64) : sint64ToVarint v < 2 ^ 64 := BitVec.isLt _

theorem Fmt.code_lt (f : Fmt) : f.code < 8 := by cases f <;> decide

theorem Fmt.ofCode_code (f : Fmt) : Fmt.ofCode f.code = ok f := by cases f <;> rfl

theorem tagValue_eq {field : Nat} (h : field < 2 ^ 29) (f : Fmt) : tagValue field f = field * 8 + f.code := by
  have hc := Fmt.code_lt f
  rw [tagValue, Nat.shiftLeft_eq, Nat.mod_eq_of_lt (by omega)]
  have := Nat.two_pow_add_eq_or_of_lt (i := 3) (b := f.code) hc field
  rw [Nat.mul_comm (2 ^ 3) field] at this
  rw [← this]

theorem tagValue_lt {field : Nat} (h : field < 2 ^ 29) (f : Fmt) : tagValue field f < 2 ^ 32 := by
  have hc := Fmt.code_lt f
  rw [tagValue_eq h]; omega

theorem readTag_writeTag {field : Nat} (h : field < 2 ^ 29) (f : Fmt) (post : List Byte) :
    readTag (writeTag field f ++ post) = ok ((field, f), post) := by
  have hc := Fmt.code_lt f
  have h7 : (field * 8 + f.code) &&& 7 = f.code := by
    rw [show 7 = 2 ^ 3 - 1 from rfl, Nat.and_two_pow_sub_one_eq_mod, Nat.mul_add_mod_self_right, Nat.mod_eq_of_lt hc]
  have h3 : (field * 8 + f.code) >>> 3 = field := by
    rw [Nat.shiftRight_eq_div_pow, Nat.mul_comm, Nat.mul_add_div (by decide), Nat.div_eq_of_lt hc, Nat.add_zero]
  rw [readTag, writeTag, readVarint_writeVarint _ (Nat.lt_trans (tagValue_lt h f) (by decide))]
  simp only [bind_ok]
  rw [Nat.mod_eq_of_lt (tagValue_lt h f), tagValue_eq h, h7, h3, Fmt.ofCode_code]
  rfl

theorem Fmt.ofCode_ne_panic (id : Nat) : Fmt.ofCode id ≠ panic :=
  ite_ne nofun (ite_ne nofun (ite_ne nofun (ite_ne nofun nofun)))

theorem readVarint_ne_panic (bs : List Byte) : readVarint bs ≠ panic := readVarintLoop_ne_panic _ _ _ _

theorem readTag_ne_panic (bs : List Byte) : readTag bs ≠ panic :=
  bind_ne_panic (readVarint_ne_panic bs) fun _ _ => bind_ne_panic (Fmt.ofCode_ne_panic _) fun _ _ => nofun

theorem readTag_length {bs : List Byte} {r : (Nat × Fmt)} {rest : List Byte}
    (h : readTag bs = ok (r, rest)) : rest.length < bs.length := by
  obtain ⟨p, hv, h1⟩ := bind_eq_ok.1 h
  obtain ⟨f, _, h2⟩ := bind_eq_ok.1 h1
  cases h2
  exact readVarint_length hv

theorem readBool_writeBool (b : Bool) (post : List Byte) :
    readBool (writeBool b ++ post) = ok (b, post) := by
  rw [readBool, writeBool, readVarint_writeVarint _ (by cases b <;> decide)]
  cases b <;> rfl

theorem contentOffLen_writeBytes (b post : List Byte) (h : b.length < 2 ^ 64) :
    contentOffLen (writeBytes b ++ post) .lenDelim =
      ok ((writeVarint b.length).length, b.length) := by
  rw [contentOffLen, writeBytes, List.append_assoc, readVarint_writeVarint _ h]
  simp only [bind_ok, List.length_append, Nat.add_sub_cancel]

theorem contentOffLen_varint (n : Nat) (post : List Byte) (h : n < 2 ^ 64) :
    contentOffLen (writeVarint n ++ post) .varint = ok (0, (writeVarint n).length) := by
  rw [contentOffLen, readVarint_writeVarint _ h]
  simp only [bind_ok, List.length_append, Nat.add_sub_cancel]

theorem contentOffLen_ne_panic (bs : List Byte) (f : Fmt) : contentOffLen bs f ≠ panic := by
  cases f with
  | varint | lenDelim => exact bind_ne_panic (readVarint_ne_panic bs) fun _ _ => nofun
  | fixed64 | fixed32 => nofun

theorem be64_length (n : Nat) : (be64 n).length = 8 := rfl

theorem beToNat_beBytes (k n : Nat) (h : n < 256 ^ k) : beToNat (beBytes k n) = n :=
  (BigEndian.value_beBytes k n).trans (Nat.mod_eq_of_lt h)

theorem be64_eq_beBytes (n : Nat) : be64 n = beBytes 8 n := by
  simp only [BigEndian.beBytes_succ, Nat.pow_zero, Nat.div_one]
  rfl

theorem beToNat_be64 (n : Nat) (h : n < 2 ^ 64) : beToNat (be64 n) = n := by
  rw [be64_eq_beBytes, beToNat_beBytes 8 n h]

theorem byteBits_pack8 (b0 b1 b2 b3 b4 b5 b6 b7 : Bool) :
    byteBits (BitVec.ofNat 8 (b0.toNat * 128 + b1.toNat * 64 + b2.toNat * 32 + b3.toNat * 16 + b4.toNat * 8 +
      b5.toNat * 4 + b6.toNat * 2 + b7.toNat)) = [b0, b1, b2, b3, b4, b5, b6, b7] := by
  -- the octet is the bit list read as a big-endian numeral
  have h : b0.toNat * 128 + b1.toNat * 64 + b2.toNat * 32 + b3.toNat * 16 + b4.toNat * 8 +
      b5.toNat * 4 + b6.toNat * 2 + b7.toNat = (BitVec.ofBoolListBE [b0, b1, b2, b3, b4, b5, b6, b7]).toNat := by
    simp only [BitVec.ofBoolListBE, BitVec.toNat_cons', Nat.shiftLeft_eq, List.length_cons, List.length_nil,
      BitVec.toNat_ofNat]
    omega
  rw [h, BitVec.ofNat_toNat, BitVec.setWidth_eq (n := 8)]
  simp only [byteBits, BitVec.getMsbD_ofBoolListBE]
  rfl

theorem byteBits_pack7 (b0 b1 b2 b3 b4 b5 b6 : Bool) :
    byteBits (BitVec.ofNat 8 (b0.toNat * 128 + b1.toNat * 64 + b2.toNat * 32 + b3.toNat * 16 + b4.toNat * 8 +
      b5.toNat * 4 + b6.toNat * 2)) = [b0, b1, b2, b3, b4, b5, b6, false] := by
  have h := byteBits_pack8 b0 b1 b2 b3 b4 b5 b6 false
  rwa [Bool.toNat_false, Nat.add_zero] at h

/-- a last group of fewer than eight bits, padded with zeros to an octet -/
theorem take_length_pad8 : ∀ (bs : List Bool),
    (∀ b0 b1 b2 b3 b4 b5 b6 b7 rest, bs = b0 :: b1 :: b2 :: b3 :: b4 :: b5 :: b6 :: b7 :: rest → False) →
    [bs.getD 0 false, bs.getD 1 false, bs.getD 2 false, bs.getD 3 false, bs.getD 4 false, bs.getD 5 false,
      bs.getD 6 false, false].take bs.length = bs ∧ bs.length ≤ 8
  | [], _ | [_], _ | [_, _], _ | [_, _, _], _ | [_, _, _, _], _ | [_, _, _, _, _], _ | [_, _, _, _, _, _], _
  | [_, _, _, _, _, _, _], _ => ⟨rfl, Nat.le_of_ble_eq_true rfl⟩
  | _ :: _ :: _ :: _ :: _ :: _ :: _ :: _ :: _, h => (h _ _ _ _ _ _ _ _ _ rfl).elim

theorem packBits_spec (bs : List Bool) :
    (unpackBits (packBits bs)).take bs.length = bs ∧ bs.length ≤ 8 * (packBits bs).length := by
  induction bs using packBits.induct with
  | case1 => exact ⟨rfl, Nat.le_refl _⟩
  | case2 b0 b1 b2 b3 b4 b5 b6 b7 rest ih =>
    rw [packBits, unpackBits, byteBits_pack8]
    exact ⟨congrArg (fun l => b0 :: b1 :: b2 :: b3 :: b4 :: b5 :: b6 :: b7 :: l) ih.1, Nat.add_le_add_right ih.2 8⟩
  | case3 bs h0 h8 =>
    rw [packBits.eq_3 bs h0 h8, unpackBits, unpackBits, List.append_nil, byteBits_pack7]
    exact take_length_pad8 bs h8

end Asn1Verif.Proto
