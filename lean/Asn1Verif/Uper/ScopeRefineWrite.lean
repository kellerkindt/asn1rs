import Asn1Verif.Uper.ScopeRefineW
/-
  Refinement, writer side: the position-patching writer of `Uper/Scope.lean` computes, for every consistent
  descriptor, what the compositional mirror `Impl.enc` computes — in any enclosing scope (`write_eq_comp`),
  by mutual structural induction over `Ty` / `Fields`.
-/
namespace Asn1Verif.Uper
open Asn1Verif Outcome Per

namespace Scope

/-- outside of any scope: the callee appends its encoding -/
def Plain (f : W → Outcome W) (g : Outcome Bits) : Prop :=
  ∀ b st, f (W.of b none st) = g >>= fun c => ok (W.of (b ++ c) none st)

theorem plain_of_comp {f : W → Outcome W} {g : Outcome Bits} {wrap : Bool}
    (h : ∀ w, f w = comp false true wrap g w) : Plain f g := by
  intro b st
  rw [h, comp_none]

theorem writeListWith_eq (f : Val → W → Outcome W) (g : Val → Outcome Bits)
    (hf : ∀ v, Plain (f v) (g v)) : ∀ vs, Plain (writeListWith f vs) (encListWith g vs)
  | .nil => by intro b st; simp [writeListWith, encListWith]
  | .cons v vs => by
    intro b st
    simp only [writeListWith, encListWith, hf v b st, bind_assoc, bind_ok,
      writeListWith_eq f g hf vs _ st, List.append_assoc]

theorem writeOptBody_eq (f : W → Outcome W) (g : Outcome Bits) (hf : Plain f g) (w1 : W) :
    writeOptBody f w1 = g >>= fun c => w1.leave (w1.enter.append c) := by
  obtain ⟨X, sc, st, hX⟩ : ∃ X sc st, w1.enter = W.of X sc st := ⟨_, _, _, eq_of _⟩
  simp only [writeOptBody, hX, hf X st, bind_assoc, bind_ok, of_scope, mk_of_rbits, of_strict, of_append]

theorem writeFields_cons (k : Kind) (t : Ty) (rest : Fields) (v : Val) (vs : Vals) (w : W)
    (hw : ∀ v w, write t v w = comp false true t.buffersOnWrite (enc t v) w) :
    writeFields (.cons k t rest) (.cons v vs) w =
      match presentOf k v with
      | none => err .illTyped
      | some p =>
        comp k.isOptional p (k.isOptional || t.buffersOnWrite) (enc t (contentOf k v)) w >>= fun w' =>
          writeFields rest vs w' := by
  have hopt : ∀ x, (writeBitFieldEntry w true true >>= fun w1 => writeOptBody (write t x) w1) =
      comp true true true (enc t x) w := by
    intro x
    unfold comp
    refine bind_congr fun w1 _ => ?_
    simp only [writeOptBody_eq _ _ (plain_of_comp (hw x)), if_true, Bool.true_and, bind_assoc,
      leave_enter_append]
  have habs : writeBitFieldEntry w true false = comp true false true (enc t v) w := by
    simp only [comp, Bool.false_eq_true, if_false, bind_ok, append_nil, bind_ok_right]
  cases k with
  | m =>
    simp only [writeFields, presentOf, contentOf, Kind.isOptional, Bool.false_or, hw]
    generalize comp _ _ _ _ _ = x; cases x <;> rfl
  | d dv =>
    simp only [writeFields, presentOf, contentOf, Kind.isOptional, Bool.true_or]
    cases (!(v == dv)) <;> simp only [if_true, Bool.false_eq_true, if_false, hopt v, habs] <;>
      (generalize comp _ _ _ _ _ = x; cases x <;> rfl)
  | o =>
    cases v with
    | none | some x =>
      simp only [writeFields, presentOf, contentOf, Kind.isOptional, Bool.true_or, habs, hopt]
      generalize comp _ _ _ _ _ = x; cases x <;> rfl
    | _ => rfl

mutual
/-- `T::write_value` is one component call whose content is the compositional encoding -/
theorem write_eq_comp : ∀ (t : Ty), t.consistent = true → ∀ (v : Val) (w : W),
    write t v w = comp false true t.buffersOnWrite (enc t v) w
  | .bool, _, _, _ | .null, _, _, _ | .int .., _, _, _ | .enum .., _, _, _ | .str .., _, _, _
  | .oct .., _, _, _ | .bits .., _, _, _ => writeLeaf_eq_comp
  | .seqOf min max ext elem, hc, v, w => by
    have hl := writeListWith_eq (write elem) (enc elem)
      (fun v => plain_of_comp (write_eq_comp elem (by simpa [Ty.consistent] using hc) v))
    simp only [write, comp, Ty.buffersOnWrite, Bool.false_and, Bool.false_eq_true, if_false, if_true,
      bind_ok_right]
    refine bind_congr fun w1 _ => ?_
    obtain ⟨X, sc, st, rfl⟩ : ∃ X sc st, w1 = W.of X sc st := ⟨_, _, _, eq_of w1⟩
    cases v <;> simp only [enc, bind_err] <;> try rfl
    simp only [of_append, of_with_scope, of_scope, bind_assoc, bind_ok, hl _ _ st, List.append_assoc]
  | .choice std total ext alts, hc, v, w => by
    have hA := writeAlt_eq alts (by simp only [Ty.consistent, Bool.and_eq_true] at hc; exact hc.2)
    simp only [write, comp, Ty.buffersOnWrite, Bool.false_and, Bool.false_eq_true, if_false, if_true,
      bind_ok_right]
    refine bind_congr fun w1 _ => ?_
    obtain ⟨X, sc, st, rfl⟩ : ∃ X sc st, w1 = W.of X sc st := ⟨_, _, _, eq_of w1⟩
    cases v <;> simp only [enc, bind_err] <;> try rfl
    rename_i i x
    simp only [bind_assoc]
    refine bind_congr fun idx _ => ?_
    split <;>
      simp only [fresh_eq, of_strict, of_append, of_scope, of_bits, mk_of_rbits, bind_assoc, bind_ok,
        hA i x _ st, List.nil_append, List.append_assoc]
  | .seq so fc ea fields, hc, v, w => by
    have hc' : fields.consistent = true := by
      simp only [Ty.consistent, Bool.and_eq_true] at hc; exact hc.2
    simp only [write, comp, Ty.buffersOnWrite, Bool.true_and, if_true]
    refine bind_congr fun w1 _ => ?_
    cases v with
    | seq vs =>
      exact writeSeqBody_eq so fc ea fields vs hc _
        (fun e hsm rl acc hinv => writeFields_sim fields hc' e hsm vs rl acc hinv) w1
    | _ => simp only [enc, bind_err]

theorem writeAlt_eq : ∀ (alts : Fields), alts.consistent = true → ∀ (i : Nat) (v : Val),
    Plain (writeAlt alts i v) (encAlt alts i v)
  | .nil, _, i, v => by intro b st; simp [writeAlt, encAlt]
  | .cons k t rest, hc, 0, v => by
    have hc' : t.consistent = true := by
      simp only [Fields.consistent, Bool.and_eq_true] at hc; exact hc.1
    intro b st
    simp only [writeAlt, encAlt]
    exact plain_of_comp (write_eq_comp t hc' v) b st
  | .cons k t rest, hc, i + 1, v => by
    have hc' : rest.consistent = true := by
      simp only [Fields.consistent, Bool.and_eq_true] at hc; exact hc.2
    intro b st
    simp only [writeAlt, encAlt]
    exact writeAlt_eq rest hc' i v b st

theorem writeFields_sim : ∀ (fields : Fields), fields.consistent = true → ∀ (e : SeqEnv),
    wSmall (e.nExt - 1) = ok e.sm → ∀ (vs : Vals) (rl : Nat) (acc : SeqAcc), e.Inv acc fields rl →
    writeFields fields vs (e.w acc rl) =
      encFields fields vs rl acc >>= fun acc' => ok (e.w acc' (rl - fields.length))
  | .nil, _, e, _, vs, rl, acc, _ => by
    cases vs <;> simp [writeFields, encFields, Fields.length]
  | .cons k t rest, hc, e, hsm, vs, rl, acc, hinv => by
    simp only [Fields.consistent, Bool.and_eq_true] at hc
    cases vs with
    | nil => simp [writeFields, encFields]
    | cons v vs =>
      rw [writeFields_cons k t rest v vs _ (write_eq_comp t hc.1), encFields_cons]
      cases hp : presentOf k v with
      | none => rfl
      | some p =>
        simp only
        rw [comp_sim hsm hinv, bind_assoc, bind_assoc]
        refine bind_congr fun acc1 hstep => ?_
        rw [bind_ok, writeFields_sim rest hc.2 e hsm vs (rl - 1) acc1
          (step_inv e acc acc1 k t rest rl p _ hinv hstep)]
        simp only [Fields.length, Nat.sub_sub, Nat.add_comm]
end

end Scope
end Asn1Verif.Uper
