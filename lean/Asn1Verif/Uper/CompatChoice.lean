import Asn1Verif.Uper.CompatDefs
/-
  C05 — CHOICE and ENUMERATED across schema versions.
-/
namespace Asn1Verif.Uper
open Asn1Verif Outcome Per

theorem encAlt_append : ∀ (alts adds : Fields) (i : Nat) (x : Val), i < alts.length →
    encAlt (alts.append adds) i x = encAlt alts i x
  | .nil, _, _, _, h => by cases h
  | .cons .., _, 0, _, _ => rfl
  | .cons _ _ r, adds, i + 1, x, h => encAlt_append r adds i x (Nat.lt_of_succ_lt_succ h)

theorem decAlt_append : ∀ (alts adds : Fields) (i : Nat), i < alts.length →
    decAlt (alts.append adds) i = decAlt alts i
  | .nil, _, _, h => by cases h
  | .cons .., _, 0, _ => rfl
  | .cons _ _ r, adds, i + 1, h => decAlt_append r adds i (Nat.lt_of_succ_lt_succ h)

theorem enc_choice_append (std total total' : Nat) (ext : Bool) (alts adds : Fields) (i : Nat)
    (x : Val) (h : i < alts.length) :
    enc (.choice std total' ext (alts.append adds)) (.choice i x)
      = enc (.choice std total ext alts) (.choice i x) := by
  unfold enc
  dsimp only
  rw [encAlt_append alts adds i x h]

/-- forward, reader only -/
theorem choice_read_mono (std total n : Nat) (ext : Bool) (alts adds : Fields) (inp : Bits) (pos : Nat)
    (r : Val × Nat) (hc : total = alts.length) (hs : std ≤ total)
    (h : dec (.choice std total ext alts) inp pos = ok r) :
    dec (.choice std (total + n) ext (alts.append adds)) inp pos = ok r := by
  unfold dec at h ⊢
  obtain ⟨⟨i, p0⟩, hi, h⟩ := bind_eq_ok.1 h
  rw [hi]
  dsimp only [bind_ok] at h ⊢
  -- an index V1 accepts is below `total`, where the two lists of alternatives agree
  split at h
  next c =>
    rw [if_pos c]
    obtain ⟨⟨len, p1⟩, hl, h⟩ := bind_eq_ok.1 h
    rw [hl]
    dsimp only [bind_ok] at h ⊢
    split at h
    · cases h
    · rw [if_neg (by omega), decAlt_append alts adds i (by omega)]
      exact h
  next c =>
    rw [if_neg c, decAlt_append alts adds i (by omega)]
    exact h

/-- backward, an alternative V1 does not know: the index and the length determinant of the open
    type are read, then `InvalidChoiceIndex` — never a value -/
theorem choice_unknown (std total total' : Nat) (alts alts' : Fields) (i : Nat) (x : Val)
    (bits : Bits) (hs : std ≤ total) (hi : total ≤ i) (hstd : std ≤ U64_MAX) (hi64 : i ≤ U64_MAX)
    (h : enc (.choice std total' true alts') (.choice i x) = ok bits) (inp : Bits) (pos : Nat)
    (post : Bits) (hat : At inp pos bits post) :
    dec (.choice std total true alts) inp pos = err .invalidChoiceIndex := by
  unfold enc at h
  obtain ⟨idx, hidx, h⟩ := bind_eq_ok.1 h
  obtain ⟨content, _, h⟩ := bind_eq_ok.1 h
  rw [if_pos (show i ≥ std by omega)] at h
  obtain ⟨o, ho, h⟩ := bind_eq_ok.1 h
  cases h
  obtain ⟨rfl, hadm⟩ := wIndex_index hidx hi64
  -- the open type starts with an unconstrained length determinant
  obtain ⟨n, tail, rfl⟩ : ∃ n tail, o = (X691.lenU n).1 ++ tail := by
    rw [openType_conform _ _ ho]
    unfold X691.openType
    generalize (if content.isEmpty = true then [0#8] else padToBytes content) = X
    by_cases hl : X.length < 16384
    · exact ⟨_, _, fragU_lt _ _ hl⟩
    · rw [fragU_ge _ _ (by omega), List.append_assoc]; exact ⟨_, _, rfl⟩
  unfold dec
  rw [hat.left.lift _ _ (rIndex_rt std true i _ hadm hstd hi64)]
  dsimp only [bind_ok]
  rw [if_pos (show i ≥ std by omega), hat.right.left.lift _ _ (rLen_unc n (tail ++ post))]
  exact if_pos hi

theorem enum_known (std total total' : Nat) (ext : Bool) (i : Nat) (bits : Bits)
    (hi : i < total) (hstd : std ≤ U64_MAX) (hi64 : i ≤ U64_MAX)
    (h : enc (.enum std total' ext) (.enum i) = ok bits) :
    ReadsBack (dec (.enum std total ext)) bits (.enum i) :=
  rt_enum std total ext (decide_eq_true hstd) (.enum i) bits
    (Bool.and_eq_true_iff.2 ⟨decide_eq_true hi, decide_eq_true hi64⟩) h

theorem enum_unknown (std total total' : Nat) (ext : Bool) (i : Nat) (bits : Bits)
    (hi : total ≤ i) (hstd : std ≤ U64_MAX) (hi64 : i ≤ U64_MAX)
    (h : enc (.enum std total' ext) (.enum i) = ok bits) (inp : Bits) (pos : Nat) (post : Bits)
    (hat : At inp pos bits post) :
    dec (.enum std total ext) inp pos = err .invalidChoiceIndex := by
  obtain ⟨rfl, hadm⟩ := wIndex_index (show wIndex std ext i = ok bits from h) hi64
  unfold dec
  rw [hat.lift _ _ (rIndex_rt std ext i post hadm hstd hi64)]
  exact if_neg (by omega)

end Asn1Verif.Uper
