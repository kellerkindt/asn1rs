import Asn1Verif.Codegen.ConstsModel
/-
  `Codegen/ConstsModel.lean`, structural part: the Rust field list keeps length and order of the
  component list, and STD_OPTIONAL_FIELDS as coded is `Fields.optCount` of the prefix `Ty.consistent`
  asks for.
-/
namespace Asn1Verif.Codegen.ConstsModel
open Asn1Verif Asn1Verif.Uper

theorem fieldsOf_length (ea : Option Nat) : ∀ (cs : Comps) (i : Nat), (fieldsOf ea i cs).length = cs.length
  | .nil, i => by simp only [fieldsOf, Fields.length, Comps.length]
  | .cons p t r, i => by simp only [fieldsOf, Fields.length, Comps.length, fieldsOf_length ea r (i + 1)]

theorem altsOf_length : ∀ (as : Alts), (altsOf as).length = as.length
  | .nil => by simp only [altsOf, Fields.length, Alts.length]
  | .cons t r => by simp only [altsOf, Fields.length, Alts.length, altsOf_length r]

theorem Comps.length_append : ∀ (a b : Comps), (a.append b).length = a.length + b.length
  | .nil, b => by simp only [Comps.append, Comps.length, Nat.zero_add]
  | .cons p t r, b => by simp only [Comps.append, Comps.length, Comps.length_append r b]; omega

theorem Alts.length_append : ∀ (a b : Alts), (a.append b).length = a.length + b.length
  | .nil, b => by simp only [Alts.append, Alts.length, Nat.zero_add]
  | .cons t r, b => by simp only [Alts.append, Alts.length, Alts.length_append r b]; omega

theorem Comps.get?_append_left : ∀ (a b : Comps) (j : Nat), j < a.length → (a.append b).get? j = a.get? j
  | .nil, _, j, h => absurd h (Nat.not_lt_zero j)
  | .cons p t r, b, 0, _ => by simp only [Comps.append, Comps.get?]
  | .cons p t r, b, j + 1, h => by
    simp only [Comps.append, Comps.get?]
    exact Comps.get?_append_left r b j (Nat.lt_of_succ_lt_succ h)

theorem Comps.get?_append_right : ∀ (a b : Comps) (j : Nat), (a.append b).get? (a.length + j) = b.get? j
  | .nil, b, j => by simp only [Comps.append, Comps.length, Nat.zero_add]
  | .cons p t r, b, j => by
    simp only [Comps.append, Comps.length, show r.length + 1 + j = (r.length + j) + 1 by omega,
      Comps.get?, Comps.get?_append_right r b j]

theorem Fields.optCount_zero (fs : Fields) : fs.optCount 0 = 0 := by
  cases fs <;> simp only [Fields.optCount]

theorem Comps.optCount_zero (cs : Comps) : cs.optCount 0 = 0 := by
  cases cs <;> simp only [Comps.optCount]

theorem Comps.optCount_append_left : ∀ (a b : Comps) (n : Nat), n ≤ a.length →
    (a.append b).optCount n = a.optCount n
  | .nil, b, n, h => by
    cases Nat.le_zero.mp h
    exact b.optCount_zero
  | .cons p t r, b, 0, _ => by simp only [Comps.append, Comps.optCount]
  | .cons p t r, b, n + 1, h => by
    simp only [Comps.append, Comps.optCount]
    rw [Comps.optCount_append_left r b n (Nat.le_of_succ_le_succ h)]

theorem fieldsOf_get? (ea : Option Nat) : ∀ (cs : Comps) (i j : Nat), (fieldsOf ea i cs).get? j =
      (cs.get? j).map fun pt => (convKind ea (i + j) pt.1, constsOf pt.2)
  | .nil, i, j => by simp only [fieldsOf, Fields.get?, Comps.get?, Option.map]
  | .cons p t r, i, 0 => by simp only [fieldsOf, Fields.get?, Comps.get?, Option.map, Nat.add_zero]
  | .cons p t r, i, j + 1 => by
    simp only [fieldsOf, Fields.get?, Comps.get?]
    rw [fieldsOf_get? ea r (i + 1) j, show i + 1 + j = i + (j + 1) by omega]

theorem toKind_isOptional (p : Presence) : p.toKind.isOptional = p.isOptional := by
  cases p <;> rfl

theorem convKind_declared (ea : Option Nat) (i : Nat) (p : Presence) (hp : p.isOptional = true) :
    convKind ea i p = p.toKind := by
  cases p with
  | mandatory => exact absurd hp (by decide)
  | optional => rfl
  | default v => rfl

theorem convKind_isOptional_of_declared (ea : Option Nat) (i : Nat) (p : Presence)
    (h : p.isOptional = true) : (convKind ea i p).isOptional = true := by
  rw [convKind_declared ea i p h, toKind_isOptional, h]

theorem convKind_root (ea : Option Nat) (i : Nat) (p : Presence) (h : ∀ e, ea = some e → i ≤ e) :
    convKind ea i p = p.toKind := by
  cases p with
  | mandatory =>
    cases ea with
    | none => rfl
    | some e =>
      simp only [convKind, Presence.toKind, decide_eq_true_eq]
      rw [if_neg (Nat.not_lt.mpr (h e rfl))]
  | optional => rfl
  | default v => rfl

theorem convKind_addition (e i : Nat) (p : Presence) (h : e < i) :
    (convKind (some e) i p).isOptional = true := by
  cases p with
  | mandatory =>
    simp only [convKind, decide_eq_true_eq]
    rw [if_pos h]
    rfl
  | optional => rfl
  | default v => rfl

/-- `take_while(index <= usize::MAX)` takes everything -/
theorem stdOptCount_none : ∀ (fs : Fields) (i : Nat), stdOptCount none i fs = fs.optCount fs.length
  | .nil, i => by simp only [stdOptCount, Fields.optCount]
  | .cons k t r, i => by
    simp only [stdOptCount, if_true, Fields.length, Fields.optCount, stdOptCount_none r (i + 1)]

theorem stdOptCount_some (e : Nat) : ∀ (fs : Fields) (i n : Nat), i + n = e + 1 →
    stdOptCount (some e) i fs = fs.optCount n
  | .nil, _, _, _ => by simp only [stdOptCount, Fields.optCount]
  | .cons k t r, i, 0, h => by
    simp only [stdOptCount, decide_eq_true_eq, if_neg (show ¬ i ≤ e by omega), Fields.optCount]
  | .cons k t r, i, n + 1, h => by
    simp only [stdOptCount, decide_eq_true_eq, if_pos (show i ≤ e by omega), Fields.optCount,
      stdOptCount_some e r (i + 1) n (by omega)]

/-- conversion touches additions only, and the counted prefix ends at or before the marker -/
theorem fieldsOf_optCount (ea : Option Nat) : ∀ (cs : Comps) (i n : Nat),
    (∀ e, ea = some e → i + n ≤ e + 1) → (fieldsOf ea i cs).optCount n = cs.optCount n
  | .nil, i, n, _ => by simp only [fieldsOf, Fields.optCount, Comps.optCount]
  | .cons p t r, i, 0, _ => by simp only [fieldsOf, Fields.optCount, Comps.optCount]
  | .cons p t r, i, n + 1, h => by
    simp only [fieldsOf, Fields.optCount, Comps.optCount]
    rw [fieldsOf_optCount ea r (i + 1) n (fun e he => by have := h e he; omega),
      convKind_root ea i p (fun e he => by have := h e he; omega), toKind_isOptional]

theorem stdOptCount_root (ea : Option Nat) (fs : Fields) :
    stdOptCount ea 0 fs = fs.optCount (match ea with | some k => k + 1 | none => fs.length) := by
  cases ea with
  | none => exact stdOptCount_none fs 0
  | some k => exact stdOptCount_some k fs 0 (k + 1) (Nat.zero_add _)

/-- STD_OPTIONAL_FIELDS in terms of the source: the OPTIONAL / DEFAULT components among the first
    `k + 1` (marker after index `k`), or among all (no marker) -/
theorem stdOpt_declared (ea : Option Nat) (cs : Comps) :
    stdOptCount ea 0 (fieldsOf ea 0 cs) =
      cs.optCount (match ea with | some k => k + 1 | none => cs.length) := by
  rw [stdOptCount_root]
  cases ea with
  | none => rw [fieldsOf_length]; exact fieldsOf_optCount none cs 0 _ (fun _ he => nomatch he)
  | some k => exact fieldsOf_optCount (some k) cs 0 (k + 1) (by intro e he; cases he; omega)

theorem wrapTuple_consistent (t : Ty) (h : t.consistent = true) : (wrapTuple t).consistent = true := by
  simp only [wrapTuple, Ty.consistent, Fields.consistent, Fields.length, Fields.optCount, h,
    Bool.and_true, beq_self_eq_true, Nat.zero_add, Kind.isOptional, Bool.false_eq_true,
    if_false, Nat.add_zero]

theorem seq_consistent (ea : Option Nat) (fs : Fields) (hm : markerOk ea fs.length = true)
    (hf : fs.consistent = true) : (Ty.seq (stdOptCount ea 0 fs) fs.length ea fs).consistent = true := by
  rw [stdOptCount_root]
  cases ea with
  | none => simp only [Ty.consistent, hf, beq_self_eq_true, Bool.and_true]
  | some k => simp only [Ty.consistent, hf, beq_self_eq_true, Bool.and_true, Bool.true_and]; exact hm

theorem stdVariants_le (ea : Option Nat) (n : Nat) (hm : markerOk ea n = true) :
    stdVariants ea n ≤ n := by
  cases ea with
  | none => simp only [stdVariants]; omega
  | some k => simp only [markerOk, decide_eq_true_eq] at hm; simp only [stdVariants]; omega

mutual
theorem constsOf_consistent : (s : Src) → s.wf = true → (constsOf s).consistent = true
  | .boolean, _ | .null, _ | .integer .., _ | .string .., _ | .octetString .., _ | .bitString .., _ => rfl
  | .enumerated n ea, h => by
    simp only [Src.wf] at h
    simp only [constsOf, Ty.consistent, decide_eq_true_eq]
    exact stdVariants_le ea n h
  | .sequenceOf _ e, h | .setOf _ e, h => by
    simp only [Src.wf] at h
    simp only [constsOf, Ty.consistent]
    exact constsOf_consistent e h
  | .sequence cs ea, h | .set cs ea, h => by
    simp only [Src.wf, Bool.and_eq_true] at h
    simp only [constsOf]
    exact seq_consistent ea _ (by rw [fieldsOf_length]; exact h.1) (fieldsOf_consistent ea cs 0 h.2)
  | .choice as ea, h => by
    simp only [Src.wf, Bool.and_eq_true] at h
    simp only [constsOf, Ty.consistent, beq_self_eq_true, Bool.true_and, Bool.and_eq_true,
      decide_eq_true_eq]
    exact ⟨stdVariants_le ea _ (by rw [altsOf_length]; exact h.1), altsOf_consistent as h.2⟩
  | .ref t, h => by
    simp only [Src.wf] at h
    simp only [constsOf]
    split
    · exact constsOf_consistent t h
    · exact wrapTuple_consistent _ (constsOf_consistent t h)
theorem fieldsOf_consistent (ea : Option Nat) : (cs : Comps) → (i : Nat) → cs.wf = true →
    (fieldsOf ea i cs).consistent = true
  | .nil, _, _ => rfl
  | .cons _ t r, i, h => by
    simp only [Comps.wf, Bool.and_eq_true] at h
    simp only [fieldsOf, Fields.consistent, Bool.and_eq_true]
    exact ⟨constsOf_consistent t h.1, fieldsOf_consistent ea r (i + 1) h.2⟩
theorem altsOf_consistent : (as : Alts) → as.wf = true → (altsOf as).consistent = true
  | .nil, _ => rfl
  | .cons t r, h => by
    simp only [Alts.wf, Bool.and_eq_true] at h
    simp only [altsOf, Fields.consistent, Bool.and_eq_true]
    exact ⟨constsOf_consistent t h.1, altsOf_consistent r h.2⟩
end

theorem defConstsOf_consistent (s : Src) (h : s.wf = true) : (defConstsOf s).consistent = true := by
  unfold defConstsOf
  split
  · exact constsOf_consistent s h
  · exact wrapTuple_consistent _ (constsOf_consistent s h)

end Asn1Verif.Codegen.ConstsModel
