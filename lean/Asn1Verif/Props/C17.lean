import Asn1Verif.Proto.WireLemmas
import Asn1Verif.Proto.Codec
import Asn1Verif.Proto.CodecLemmas
import Asn1Verif.Proto.ReaderLemmas
import Asn1Verif.Proto.RoundTripLemmas
import Asn1Verif.Proto.IntWidthLemmas
/-
  C17 — Protobuf round trip preserves values up to proto3 default equivalence.

  Models: `Proto/Wire.lean` (mirror of src/protocol/protobuf/mod.rs), `Proto/Codec.lean` (mirror of
  src/rw/proto_write.rs, src/rw/proto_read.rs, peq.rs).  Lemmas: `Proto/WireLemmas.lean` (wire
  primitives), `Proto/CodecLemmas.lean` (back ends, counters), `Proto/ReaderLemmas.lean` (reader on
  untrusted input), `Proto/RoundTripLemmas.lean` (index of a written message, round trip),
  `Proto/IntWidthLemmas.lean` (the integer encoding against the Rust type of the converter).
  Tie to the code: `./check C17` (streams proto-rt, proto-peq, proto-dec over the compiled zoo).
-/
namespace Asn1Verif.Props.C17
open Asn1Verif Asn1Verif.Proto Outcome
open Asn1Verif.Uper (Ty Val Vals Fields Kind)

/-! ### wire primitives (all unbounded) -/

/-- every `u64` survives `write_varint` / `read_varint`, whatever follows in the buffer -/
theorem varint_roundtrip (n : Nat) (h : n < 2 ^ 64) (post : List Byte) :
    readVarint (writeVarint n ++ post) = ok (n, post) :=
  readVarint_writeVarint n h post

/-- `read_varint` is total: on every input it returns a value or `Err(Io(UnexpectedEof))`; it
    cannot overflow (the shift is a plain `<<` that drops bits; at most ten octets are read) -/
theorem varint_read_total (bs : List Byte) : readVarint bs ≠ panic :=
  readVarintLoop_ne_panic _ _ _ _

/-- the only error of `read_varint` is the end of the input -/
theorem varint_read_err (bs : List Byte) (k : ErrKind) (h : readVarint bs = err k) : k = .endOfStream :=
  readVarintLoop_err _ _ _ _ _ h

/-- a successful `read_varint` consumed at least one octet.  The upper bound proved, 11, is the fuel
    of the loop; the loop stops reading at `shift = 70`, so 10 is the true bound. -/
theorem varint_read_consumes (bs : List Byte) (v : Nat) (rest : List Byte)
    (h : readVarint bs = ok (v, rest)) : ∃ pre, bs = pre ++ rest ∧ 0 < pre.length ∧ pre.length ≤ 11 :=
  readVarint_ok h

/-- over-long input: the eleventh octet is not looked at (ten continuation octets are accepted and
    the bits beyond 64 are dropped) — not a panic, but also not an error -/
example : readVarint (List.replicate 10 0xff#8 ++ [0x01#8]) = ok (2 ^ 64 - 1, [0x01#8]) := by decide +kernel

/-- `sint32`: zig-zag, `as u64` (sign extension), varint, `as u32`, un-zig-zag is the identity on
    every `i32` -/
theorem zigzag32_roundtrip (v : BitVec 32) (post : List Byte) :
    (readVarint (writeVarint (sint32ToVarint v) ++ post)).bind
      (fun (n, rest) => ok (varintToSint32 n, rest)) = ok (v, post) := by
  rw [readVarint_writeVarint _ (sint32ToVarint_lt v)]
  simp [Outcome.bind, varintToSint32_sint32ToVarint]

/-- `sint64` on every `i64` -/
theorem zigzag64_roundtrip (v : BitVec 64) (post : List Byte) :
    (readVarint (writeVarint (sint64ToVarint v) ++ post)).bind
      (fun (n, rest) => ok (varintToSint64 n, rest)) = ok (v, post) := by
  rw [readVarint_writeVarint _ (sint64ToVarint_lt v)]
  simp [Outcome.bind, varintToSint64_sint64ToVarint]

/-- the pure part: un-zig-zag inverts zig-zag for both widths -/
theorem unzigzag_zigzag (v32 : BitVec 32) (v64 : BitVec 64) :
    unzigzag32 (zigzag32 v32) = v32 ∧ unzigzag64 (zigzag64 v64) = v64 :=
  ⟨unzigzag32_zigzag32 v32, unzigzag64_zigzag64 v64⟩

/-- field numbers below 2^29 and the four wire types survive `write_tag` / `read_tag` -/
theorem tag_roundtrip (field : Nat) (h : field < 2 ^ 29) (f : Fmt) (post : List Byte) :
    readTag (writeTag field f ++ post) = ok ((field, f), post) :=
  readTag_writeTag h f post

/-- … and the bound is sharp: `field << 3` is a `u32` shift, field 2^29 is written as field 0 -/
example : readTag (writeTag (2 ^ 29) .varint) = ok ((0, .varint), []) := by decide +kernel

/-- `write_bytes`/`write_string` then `read_content_offset_and_length`: the content range announced
    is exactly the octets written -/
theorem bytes_roundtrip (b post : List Byte) (h : b.length < 2 ^ 64) :
    ∃ off, contentOffLen (writeBytes b ++ post) .lenDelim = ok (off, b.length) ∧
      ((writeBytes b ++ post).drop off).take b.length = b := by
  refine ⟨(writeVarint b.length).length, contentOffLen_writeBytes b post h, ?_⟩
  rw [writeBytes, List.append_assoc, List.drop_left, List.take_left]

theorem bool_roundtrip (b : Bool) (post : List Byte) :
    readBool (writeBool b ++ post) = ok (b, post) :=
  readBool_writeBool b post

/-! ### the two writer back ends -/

/-- `ProtobufWriter::default()` (growable `Vec`) and `ProtobufWriter::from(&mut [u8])` (fixed slice of
    `n` octets) produce the same octets whenever the slice is long enough; a slice that is too short
    yields the I/O error (`WriteZero`), never a partial success.  For every type and value. -/
theorem backends_agree (t : Ty) (v : Val) (bytes : List Byte) (h : encode t v = ok bytes) (n : Nat) :
    encodeTo ⟨none, []⟩ t v = ok bytes ∧
    encodeTo ⟨some n, []⟩ t v = (if bytes.length ≤ n then ok bytes else err .insufficientSpace) := by
  rcases encode_split t v with ⟨s, tot, e, i, rfl, rfl⟩ | ⟨h1, h2⟩
  · -- root ENUMERATED: one bare varint
    simp only [encode] at h
    simp only [encodeTo]
    split at h
    · rename_i hi
      simp only [ok.injEq] at h
      subst h
      simp only [hi, if_true, Sink.write, List.length_nil, Nat.zero_add, List.nil_append, map_ok, true_and]
      split <;> rfl
    · simp at h
  · rw [h1] at h
    rw [h2, h2]
    cases hI : encodeI t v with
    | panic => rw [hI] at h; simp at h
    | err k => rw [hI] at h; simp at h
    | ok l =>
      rw [hI] at h
      simp only [map_ok, ok.injEq] at h
      subst h
      simp only [bind_ok, writeItems_vec, List.nil_append, true_and]
      rw [writeItems_slice n [] l (by simp)]
      simp only [List.length_nil, Nat.zero_add, List.nil_append]
      by_cases hn : (itemsBytes l).length ≤ n
      · simp only [if_pos hn, bind_ok]
      · simp only [if_neg hn, bind_err]

/-- the hypothesis is satisfiable: SEQUENCE { a INTEGER (0..15), b BOOLEAN OPTIONAL } -/
example : encode (.seq 1 2 none (.cons .m (.int (some 0) (some 15) false 8 false) (.cons .o .bool .nil)))
    (.seq (.cons (.int 7) (.cons (.some (.bool true)) .nil))) = ok [0x08#8, 0x07#8, 0x10#8, 0x01#8] := by
  decide +kernel

/-! ### field numbers: writer and reader count alike -/

/-- the full statement: writer and reader assign the same field number to every component of every
    message type — after any `n` components the writer's `tag_counter` (started at 0) plus one and
    the reader's `tag_counter` (started at 1) are both `(number of non-NULL components among them)
    + 1`, whatever the value / the input -/
def counter_agree : Prop :=
  ∀ (fs : Fields) (n : Nat),
    (∀ vs ls c', encFieldsI (Fields.take fs n) vs 0 = ok (ls, c') → c' + 1 = Fields.countTo fs n + 1) ∧
    (∀ fx src tags vs st', decFields fx src (Fields.take fs n) (.enclosed 1 tags) = ok (vs, st') →
      ∃ tags', st' = .enclosed (Fields.countTo fs n + 1) tags')

/-- Field numbers are not stored anywhere: writer and reader each *count* while they walk the
    components.  For every component list and every position `n` such that no OPTIONAL NULL lies in
    front of it: after the first `n` components the writer's `tag_counter` (started at 0) is the
    number of non-NULL components among them — the next component is written with that number plus
    one — and the reader's `tag_counter` (started at 1) is the same number plus one, whatever the
    input was.  Absent OPTIONALs, lists (one step, however many elements), nested messages, CHOICEs
    count one; a mandatory NULL counts zero on both sides.  Induction over the component list. -/
theorem counter_agree_partial (fs : Fields) (n : Nat) (h : Fields.noOptNull (Fields.take fs n) = true) :
    (∀ vs ls c', encFieldsI (Fields.take fs n) vs 0 = ok (ls, c') → c' + 1 = Fields.countTo fs n + 1) ∧
    (∀ fx src tags vs st', decFields fx src (Fields.take fs n) (.enclosed 1 tags) = ok (vs, st') →
      ∃ tags', st' = .enclosed (Fields.countTo fs n + 1) tags') := by
  constructor
  · intro vs ls c' he
    have := encFieldsI_counter _ vs 0 ls c' h he
    rw [countTo_take] at this
    omega
  · intro fx src tags vs st' hd
    obtain ⟨tags', ht⟩ := decFields_counter fx src _ 1 tags vs st' h hd
    rw [countTo_take] at ht
    exact ⟨tags', by rw [ht, Nat.add_comm]⟩

/-- … and every field a component writes carries the writer's counter plus one -/
theorem writer_number (t : Ty) (v : Val) (c : Nat) (l : List Item) (c' : Nat) (h : encI t v c = ok (l, c')) :
    (c' = c + if Ty.counts t then 1 else 0) ∧ ∀ it ∈ l, it.num = c + 1 :=
  encI_num h

/-- non-vacuity: SEQUENCE { a NULL, b BOOLEAN OPTIONAL, c INTEGER (0..3) }, position 2 -/
example : Fields.noOptNull (Fields.take
    (.cons .m .null (.cons .o .bool (.cons .m (.int (some 0) (some 3) false 8 false) .nil))) 2) = true ∧
    Fields.countTo (.cons .m .null (.cons .o .bool (.cons .m (.int (some 0) (some 3) false 8 false) .nil))) 2 = 1 := by
  decide +kernel

/-- SEQUENCE { n NULL OPTIONAL, x BOOLEAN OPTIONAL, y BOOLEAN } -/
def optNullTy : Ty := .seq 2 3 none (.cons .o .null (.cons .o .bool (.cons .m .bool .nil)))
def optNullVal : Val := .seq (.cons (.some .null) (.cons .none (.cons (.bool true) .nil)))

/-- the full statement is false: an absent OPTIONAL NULL advances the writer's counter (`None` counts
    one), a present one does not, so the counter after it is not a function of the type -/
theorem counter_agree_false : ¬ counter_agree := by
  intro h
  have := (h (.cons .o .null .nil) 1).1 (.cons .none .nil) [[]] 1 (by decide +kernel)
  simp [Fields.countTo, Ty.counts] at this

/-- The hypothesis cannot be dropped.  An OPTIONAL NULL that is present does not count on the
    writer's side, an absent one does; the reader decides which one it was by looking for the
    *next* component's number.  `{ n present, x absent, y TRUE }` is written as field 2 = 1 and
    read back as `{ n absent, x TRUE, y FALSE }`: the counters disagree after the first component,
    and the values are not protobuf-equal. -/
theorem counter_disagree_opt_null :
    encode optNullTy optNullVal = ok [0x10#8, 0x01#8] ∧
    (match decode none optNullTy [0x10#8, 0x01#8] with
     | .ok v => v == Val.seq (.cons .none (.cons (.some (.bool true)) (.cons (.bool false) .nil))) &&
                !Val.protoEq optNullTy optNullVal v
     | _ => false) = true := by
  decide +kernel

/-! ### round trip up to proto3 default equivalence -/

/-- decidable forms of "the result is …" (`Val` has no decidable equality, only `==`) -/
def unwinds (o : Outcome Val) : Bool := o.isPanic
def yields (o : Outcome Val) (v : Val) : Bool :=
  match o with
  | .ok x => x == v
  | _ => false
def fails (o : Outcome Val) (k : ErrKind) : Bool :=
  match o with
  | .err e => e == k
  | _ => false

theorem eq_panic_of_unwinds {o : Outcome Val} (h : unwinds o = true) : o = panic := by
  cases o <;> simp [unwinds, Outcome.isPanic] at h ⊢

/-- SEQUENCE { i SEQUENCE { a INTEGER (0..15) } } -/
def nestedTy : Ty := .seq 0 1 none (.cons .m (.seq 0 1 none (.cons .m (.int (some 0) (some 15) false 8 false) .nil)) .nil)
/-- SEQUENCE { b BIT STRING } -/
def bitsTy : Ty := .seq 0 1 none (.cons .m (.bits none none false) .nil)
/-- SEQUENCE { l SEQUENCE OF SEQUENCE OF INTEGER (0..3) } (`Vec<Vec<u8>>`) -/
def listListTy : Ty :=
  .seq 0 1 none (.cons .m (.seqOf none none false (.seqOf none none false (.int (some 0) (some 3) false 8 false))) .nil)

/-- the full statement of C17 on the mirror: whatever the writer accepts is read back to a
    protobuf-equal value (`ProtobufEq`: identical, except that an absent OPTIONAL and a present
    value equal to `T::default()` are not told apart) -/
def proto_roundtrip : Prop :=
  ∀ (t : Ty) (v : Val) (bytes : List Byte), encode t v = ok bytes →
    ∃ v', decode none t bytes = ok v' ∧ Val.protoEq t v v' = true

/-- **Round trip**, proved by structural induction over the type for every value in the decidable
    region `rtOK t v` (`Proto/RoundTripLemmas.lean`), for the present reader (`fx = none`) and for
    every repaired one:
      * flat messages of scalars — BOOLEAN, INTEGER of all four wire classes (uint32, uint64, sint32,
        sint64; every `u64`/`i64`), ENUMERATED, the five string types, OCTET STRING, BIT STRING,
        mandatory NULL —, OPTIONAL and DEFAULT components of all of them in any combination,
      * SEQUENCE OF / SET OF of every such type and of nested messages and CHOICEs, also OPTIONAL
        (where `Some(vec![])` comes back as `None` — the one place where `ProtobufEq` is weaker
        than equality),
      * nested SEQUENCE / SET to any depth, transparent wrappers, CHOICE, CHOICE in CHOICE, CHOICE of
        SEQUENCE, at the root and as components.
    `rtOK` excludes exactly the shapes in which the code does NOT round-trip (counterexamples below,
    each reproduced on the real crate by `./check C17`):
      * an INTEGER value outside the range of the wire class selected from the constraint constants:
        not reachable for any INTEGER type the converter generates (`int_in_region_generated`,
        `int_roundtrip_generated` below — since the repair of F-proto-int-ext an extensible
        constraint selects the 64-bit class of its 64-bit Rust type), only for a hand-written
        `#[asn(integer(0..255))] x: u64`, i.e. a value that violates a non-extensible constraint,
      * SEQUENCE OF whose element is itself a SEQUENCE OF or NULL (F-proto-nested-list),
      * a CHOICE alternative that is NULL or a SEQUENCE OF (F-proto-choice-empty, F-proto-choice-list),
      * an OPTIONAL NULL component (`counter_disagree_opt_null`),
    and sizes the wire format cannot carry (2^29 or more components, an ENUMERATED index or a bit
    length of 2^32 / 2^64 or more; the output fits a `usize`). -/
theorem proto_roundtrip_partial (fx : Option Fix) (t : Ty) (v : Val) (bytes : List Byte)
    (hok : rtOK t v = true) (henc : encode t v = ok bytes) (hlen : bytes.length ≤ U64_MAX) :
    ∃ v', decode fx t bytes = ok v' ∧ Val.protoEq t v v' = true :=
  roundtrip fx t v bytes hok henc hlen

/-- SEQUENCE { a INTEGER (-5..5), b INTEGER OPTIONAL, l SEQUENCE OF SEQUENCE { x BOOLEAN OPTIONAL,
    s IA5String }, p CHOICE { q CHOICE { n INTEGER (0..100), f BOOLEAN }, t IA5String } OPTIONAL,
    z NULL, e ENUMERATED {..3} DEFAULT 1, o SEQUENCE OF INTEGER (0..255) OPTIONAL, bs BIT STRING } -/
def richTy : Ty :=
  .seq 3 8 none
    (.cons .m (.int (some (-5)) (some 5) false 8 true)
    (.cons .o (.int none none false 64 true)
    (.cons .m (.seqOf none none false
        (.seq 1 2 none (.cons .o .bool (.cons .m (.str .ia5 none none false) .nil))))
    (.cons .o (.choice 2 2 false
        (.cons .m (.choice 2 2 false
            (.cons .m (.int (some 0) (some 100) false 8 false) (.cons .m .bool .nil)))
        (.cons .m (.str .ia5 none none false) .nil)))
    (.cons .m .null
    (.cons (.d (.enum 1)) (.enum 3 3 false)
    (.cons .o (.seqOf none none false (.int (some 0) (some 255) false 8 false))
    (.cons .m (.bits none none false) .nil))))))))

def richVal : Val :=
  .seq (.cons (.int (-3)) (.cons (.some (.int (-1)))
    (.cons (.list (.cons (.seq (.cons .none (.cons (.str [0x41#8]) .nil)))
                  (.cons (.seq (.cons (.some (.bool false)) (.cons (.str []) .nil))) .nil)))
    (.cons (.some (.choice 0 (.choice 1 (.bool true))))
    (.cons .null (.cons (.enum 2) (.cons (.some (.list .nil))
    (.cons (.bits [true, false, true]) .nil))))))))

/-- non-vacuity: the rich value lies in the region, is written, and comes back protobuf-equal but
    not equal (`o = Some(vec![])` is read as `None`) -/
example : rtOK richTy richVal = true ∧
    (match encode richTy richVal with
     | .ok bytes =>
       (match decode none richTy bytes with
        | .ok v' => Val.protoEq richTy richVal v' && !(richVal == v')
        | _ => false)
     | _ => false) = true := by decide +kernel

/-! #### INTEGER: nothing is excluded for the types of the converter (F-proto-int-ext repaired) -/

/-- The INTEGER clause of `rtOK` is never reached by converter output: for every constraint
    `(min..max)` / `(min..max, ...)` with `i64` bounds (`none` = `MIN`/`MAX`; empty root included)
    the descriptor the generated code shows — constants of `write_integer_constraint_type`, Rust
    type of `asn_fixed_integer_to_rust_type` / `asn_extensible_integer_to_rust` — and every value
    the writer accepts for it (every value of that Rust type) lie in the region. -/
theorem int_in_region_generated (min max : Option Int) (ext : Bool)
    (hmin : Codegen.IntType.OptInI64 min) (hmax : Codegen.IntType.OptInI64 max) (i : Int) (c : Nat)
    (r : List Item × Nat) (henc : encI (generatedTy min max ext) (.int i) c = ok r) :
    rtOK (generatedTy min max ext) (.int i) = true := by
  simp only [generatedTy, encI] at henc
  split at henc
  · simp at henc
  · rename_i hc
    simp only [generatedTy, rtOK]
    exact generatedTy_fits min max ext hmin hmax i (Decidable.not_not.mp hc)

/-- **INTEGER round trip, unconditional.**  `X ::= INTEGER (min..max[, ...])` for every constraint
    with `i64` bounds — the one-component message the converter generates for it — and every value
    of its Rust type: what the writer emits is read back to the very same number, by the present
    reader and every repaired one.  No excluded region. -/
theorem int_roundtrip_generated (fx : Option Fix) (min max : Option Int) (ext : Bool)
    (hmin : Codegen.IntType.OptInI64 min) (hmax : Codegen.IntType.OptInI64 max) (i : Int) (bytes : List Byte)
    (henc : encode (wrap (generatedTy min max ext)) (wrapV (.int i)) = ok bytes) :
    decode fx (wrap (generatedTy min max ext)) bytes = ok (wrapV (.int i)) := by
  simp only [generatedTy] at henc ⊢
  exact wrap_int_roundtrip fx _ _ _ _ _ i bytes (generatedTy_fits min max ext hmin hmax i) henc

/-- … and for every extensible constraint on a 64-bit Rust type whatever its bounds (hand-written
    attributes included): `MIN`/`MAX` bound the root only, every `u64`/`i64` is written in full -/
theorem int_roundtrip_extensible (fx : Option Fix) (min max : Option Int) (signed : Bool) (i : Int)
    (bytes : List Byte)
    (henc : encode (wrap (.int min max true 64 signed)) (wrapV (.int i)) = ok bytes) :
    decode fx (wrap (.int min max true 64 signed)) bytes = ok (wrapV (.int i)) :=
  wrap_int_roundtrip fx min max true 64 signed i bytes
    (fun hc => intFits_ext min max i (castInt64_range signed i hc).1 (castInt64_range signed i hc).2) henc

/-- non-vacuity: INTEGER (-100..100, ...) (`i64`) holds -2^40, which is written (sint64) -/
example : generatedTy (some (-100)) (some 100) true = .int (some (-100)) (some 100) true 64 true ∧
    encode (wrap (generatedTy (some (-100)) (some 100) true)) (wrapV (.int (-1099511627776))) =
      ok [0x08#8, 0xff#8, 0xff#8, 0xff#8, 0xff#8, 0xff#8, 0x3f#8] := ⟨by rfl, by decide +kernel⟩

/-- regression (former witness of F-proto-int-ext): INTEGER (0..255, ...)
    is held in a `u64`; 2^32 + 5 was written `as u32` and came back as 5.  It is now inside the
    region, written as the uint64 varint `85 80 80 80 10` and read back unchanged; so is -1 (the
    `i64` view of `u64::MAX`), which came back as 4294967295. -/
example :
    let t : Ty := .seq 0 1 none (.cons .m (.int (some 0) (some 255) true 64 true) .nil)
    let v : Val := .seq (.cons (.int 4294967301) .nil)
    let w : Val := .seq (.cons (.int (-1)) .nil)
    rtOK t v = true ∧ rtOK t w = true ∧
    encode t v = ok [0x08#8, 0x85#8, 0x80#8, 0x80#8, 0x80#8, 0x10#8] ∧
    (match encode t v with
     | .ok bytes => yields (decode none t bytes) v && Val.protoEq t v v
     | _ => false) = true ∧
    (match encode t w with
     | .ok bytes => yields (decode none t bytes) w
     | _ => false) = true := by decide +kernel

/-- the in-root values keep their octets: 200 is `08 c8 01` as before (uint32 and uint64 varints
    coincide); a negative lower bound: zig-zag of `|v| < 2^30` is the same in 32 and 64 bits, above
    that the old code sign-extended the 32-bit zig-zag value to ten octets -/
example : intToVarint .u32 200 = intToVarint .u64 200 ∧
    intToVarint .s32 (2 ^ 30 - 1) = intToVarint .s64 (2 ^ 30 - 1) ∧
    intToVarint .s32 (-(2 ^ 30)) = intToVarint .s64 (-(2 ^ 30)) ∧
    intToVarint .s32 (2 ^ 30) = 2 ^ 64 - 2 ^ 31 ∧ intToVarint .s64 (2 ^ 30) = 2 ^ 31 := by decide +kernel

/-- F-proto-choice-empty: CHOICE { only NULL } is written as no octet at all and cannot be read -/
theorem roundtrip_fails_choice_null :
    let t : Ty := .choice 1 1 false (.cons .m .null .nil)
    let v : Val := .choice 0 .null
    rtOK t v = false ∧
    (match encode t v with
     | .ok bytes => bytes.isEmpty && fails (decode none t bytes) .endOfStream
     | _ => false) = true := by decide +kernel

/-- F-proto-choice-list: a SEQUENCE OF alternative with two elements comes back with one -/
theorem roundtrip_fails_choice_list :
    let t : Ty := .choice 1 1 false (.cons .m (.seqOf none none false .bool) .nil)
    let v : Val := .choice 0 (.list (.cons (.bool true) (.cons (.bool false) .nil)))
    rtOK t v = false ∧
    (match encode t v with
     | .ok bytes => yields (decode none t bytes) (.choice 0 (.list (.cons (.bool true) .nil)))
     | _ => false) = true := by decide +kernel

/-- F-proto-nested-list: `[[1, 2], [3]]` is written as three elements of one repeated field; the
    reader does not return.  `[[]]` (one empty inner list) is written as nothing and read as `[]`. -/
theorem roundtrip_fails_nested_list :
    (match encode listListTy (.seq (.cons (.list (.cons (.list (.cons (.int 1) (.cons (.int 2) .nil)))
        (.cons (.list (.cons (.int 3) .nil)) .nil))) .nil)) with
     | .ok bytes => bytes == [0x08#8, 0x01#8, 0x08#8, 0x02#8, 0x08#8, 0x03#8] && unwinds (decode none listListTy bytes)
     | _ => false) = true ∧
    (match encode listListTy (.seq (.cons (.list (.cons (.list .nil) .nil)) .nil)) with
     | .ok bytes => bytes.isEmpty && yields (decode none listListTy bytes) (.seq (.cons (.list .nil) .nil))
     | _ => false) = true := by decide +kernel

/-- SEQUENCE OF NULL: the elements write nothing, their number is lost (predicted by the mirror,
    confirmed on the real crate in a scratch harness; the zoo has no such type) -/
theorem roundtrip_fails_list_null :
    let t : Ty := .seq 0 1 none (.cons .m (.seqOf none none false .null) .nil)
    let v : Val := .seq (.cons (.list (.cons .null (.cons .null .nil))) .nil)
    rtOK t v = false ∧
    (match encode t v with
     | .ok bytes => bytes.isEmpty && yields (decode none t bytes) (.seq (.cons (.list .nil) .nil))
     | _ => false) = true := by decide +kernel

theorem proto_roundtrip_false : ¬ proto_roundtrip := by
  intro h
  obtain ⟨v', hd, _⟩ := h (.choice 1 1 false (.cons .m .null .nil)) (.choice 0 .null) [] (by decide +kernel)
  have : fails (decode none (.choice 1 1 false (.cons .m .null .nil)) []) .endOfStream = true := by decide +kernel
  rw [hd] at this
  simp [fails] at this

/-! ### the reader on untrusted input (protobuf part of C04) -/

/-- the full statement: the reader never unwinds -/
def proto_reader_total : Prop := ∀ (t : Ty) (bytes : List Byte), decode none t bytes ≠ panic

/-- F-proto-oob: a truncated nested message — field 1 announces four octets, one is present:
    `&self.source[position..range.end]` in `index_enclosed` is out of range -/
theorem reader_panics_truncated_nested : decode none nestedTy [0x0a#8, 0x04#8, 0x08#8] = panic :=
  eq_panic_of_unwinds (by decide +kernel)

/-- the valid message `0a 02 08 07` cut after two octets panics, after three (inner varint missing)
    it is an error: every cut inside the *announced* nested content panics -/
example : unwinds (decode none nestedTy [0x0a#8, 0x02#8]) = true ∧
    unwinds (decode none nestedTy [0x0a#8, 0x02#8, 0x08#8]) = true ∧
    fails (decode none nestedTy [0x0a#8]) .endOfStream = true := by decide +kernel

/-- F-proto-len-ovf: a ten-octet length varint (2^64 − 1): `content_position + content_length`
    overflows `usize` -/
theorem reader_panics_len_overflow :
    decode none nestedTy ([0x0a#8] ++ List.replicate 9 0xff#8 ++ [0x01#8]) = panic :=
  eq_panic_of_unwinds (by decide +kernel)

/-- F-proto-bits: a BIT STRING content shorter than the eight octets of the trailing bit length,
    and an absent mandatory BIT STRING: `bytes.len() - U64_SIZE` underflows -/
theorem reader_panics_bitstring_short :
    decode none bitsTy [0x0a#8, 0x03#8, 0x01#8, 0x02#8, 0x03#8] = panic ∧ decode none bitsTy [] = panic :=
  ⟨eq_panic_of_unwinds (by decide +kernel), eq_panic_of_unwinds (by decide +kernel)⟩

/-- F-proto-nested-list: any element in a SEQUENCE OF SEQUENCE OF: `read_set_or_sequence_of` in the
    `Root` state never leaves its loop (modelled as `panic`; the process dies by allocation failure) -/
theorem reader_diverges_nested_list : decode none listListTy [0x08#8, 0x01#8] = panic :=
  eq_panic_of_unwinds (by decide +kernel)

theorem proto_reader_total_false : ¬ proto_reader_total :=
  fun h => h nestedTy _ reader_panics_truncated_nested

/-- The reader with the proposed repairs — `checked_add` and `content_end ≤ range.end` in
    `index_enclosed`, a length check in the BIT STRING reader (either variant for the absent
    field), an error instead of the loop in the `Root` state — never unwinds: for every type and
    every input. -/
theorem proto_reader_total_fixed (f : Fix) (t : Ty) (bytes : List Byte) : decode (some f) t bytes ≠ panic :=
  bind_ne_panic (dec_fixed_good f bytes t (.root 0 bytes.length) ⟨Nat.zero_le _, Nat.le_refl _⟩).ne_panic
    fun _ _ => nofun

/-- The present reader under the exact guard: run the repaired reader whose new checks fail with a
    class the reader uses nowhere else (`guardFix`).  If none of them fires — every announced length
    fits the enclosing range, every BIT STRING content has at least eight octets, no SEQUENCE OF is
    read in the `Root` state — the present reader returns the very same result, in particular it
    does not unwind.  (The buffer length fits a `usize`.) -/
theorem proto_reader_total_partial (t : Ty) (bytes : List Byte) (hlen : bytes.length ≤ U64_MAX)
    (hguard : decode (some guardFix) t bytes ≠ err .lengthExceedsLimit) :
    decode none t bytes = decode (some guardFix) t bytes ∧ decode none t bytes ≠ panic := by
  have ha := dec_agree bytes hlen t (.root 0 bytes.length) ⟨Nat.zero_le _, Nat.le_refl _⟩
  have heq : decode none t bytes = decode (some guardFix) t bytes := by
    simp only [decode] at hguard ⊢
    rcases ha with h | h
    · rw [h] at hguard; exact absurd rfl hguard
    · rw [h]
  exact ⟨heq, by rw [heq]; exact proto_reader_total_fixed _ _ _⟩

/-- non-vacuity: a valid message passes the guard; an invalid one that is merely *rejected* passes
    it as well -/
example : yields (decode (some guardFix) nestedTy [0x0a#8, 0x02#8, 0x08#8, 0x07#8])
      (.seq (.cons (.seq (.cons (.int 7) .nil)) .nil)) = true ∧
    fails (decode (some guardFix) nestedTy [0x0a#8]) .endOfStream = true := by decide +kernel

/-- the guard is sufficient, not necessary: an unknown trailing field whose announced length
    exceeds the input is never sliced by the present reader (it is ignored), the guard refuses it -/
example : yields (decode none nestedTy [0x0a#8, 0x02#8, 0x08#8, 0x07#8, 0x12#8, 0x05#8])
      (.seq (.cons (.seq (.cons (.int 7) .nil)) .nil)) = true ∧
    fails (decode (some guardFix) nestedTy [0x0a#8, 0x02#8, 0x08#8, 0x07#8, 0x12#8, 0x05#8])
      .lengthExceedsLimit = true := by decide +kernel

end Asn1Verif.Props.C17
