import Asn1Verif.Uper.RoundTripFrag
/-
  C02 — finding F-frag against X.691, symbolically: for `n ≥ 16K` booleans the X.691 encoding
  carries at least two length determinants (11.9.3.8), the writer's bits exactly one.
-/
namespace Asn1Verif.Uper
open Asn1Verif Outcome Per

theorem lenU_fst_length_ge8 (n : Nat) : 8 ≤ (X691.lenU n).1.length := by
  unfold X691.lenU
  split
  · simp
  · split <;> simp

theorem flatten_singletons (xs : List Bits) (h : ∀ x ∈ xs, x.length = 1) :
    xs.flatten.length = xs.length := by
  rw [flatten_length_const 1 xs h, Nat.mul_one]

theorem fragU_length_ge : ∀ (n : Nat) (xs : List Bits), xs.length = n → (∀ x ∈ xs, x.length = 1) →
    xs.length + 8 ≤ (X691.fragU List.flatten xs).length ∧
      (16384 ≤ xs.length → xs.length + 16 ≤ (X691.fragU List.flatten xs).length) := by
  intro n
  induction n using Nat.strongRecOn with
  | ind n ih =>
    intro xs hn h1
    have h8 := lenU_fst_length_ge8 xs.length
    by_cases h : xs.length < 16384
    · rw [fragU_lt _ _ h, List.length_append, flatten_singletons xs h1]
      exact ⟨by omega, fun hge => by omega⟩
    · have hge : 16384 ≤ xs.length := by omega
      have hb := frag_bounds hge
      rw [fragU_ge _ _ hge, List.length_append, List.length_append]
      have ht : (xs.take (min (xs.length / 16384) 4 * 16384)).flatten.length
          = min (xs.length / 16384) 4 * 16384 := by
        rw [flatten_singletons _ (fun x hx => h1 x (List.mem_of_mem_take hx)), List.length_take]
        omega
      have hd := (ih (xs.length - min (xs.length / 16384) 4 * 16384) (by omega)
        (xs.drop (min (xs.length / 16384) 4 * 16384)) (by simp)
        (fun x hx => h1 x (List.mem_of_mem_drop hx))).1
      rw [List.length_drop] at hd
      rw [ht]
      exact ⟨by omega, fun _ => by omega⟩

theorem encodeList_bools : ∀ (bs : List Bool),
    X691.encodeListWith (X691.encode .bool) (boolVals bs) = some (bs.map fun b => [b])
  | [] => rfl
  | b :: r => by
    simp only [boolVals, X691.encodeListWith, encodeList_bools r, List.map_cons]
    rfl

theorem x691_bools (bs : List Bool) :
    X691.encode (.seqOf none none false .bool) (.list (boolVals bs))
      = some (X691.fragU List.flatten (bs.map fun b => [b])) := by
  rw [X691.encode, encodeList_bools]
  simp [X691.inSize, X691.inRoot, X691.ubNat, X691.sized]

theorem frag_not_conform (bs : List Bool) (hn : 16384 ≤ bs.length) :
    X691.encode (.seqOf none none false .bool) (.list (boolVals bs))
      ≠ some ((X691.lenU bs.length).1 ++ bs) := by
  rw [x691_bools]
  intro h
  injection h with h
  -- the lengths differ: the standard's bits are at least 16 longer than the items, these only 8
  have hl := congrArg List.length h
  have h1 : ∀ x ∈ bs.map (fun b => [b]), x.length = 1 := by
    intro x hx
    rw [List.mem_map] at hx
    obtain ⟨b, _, rfl⟩ := hx
    rfl
  have := (fragU_length_ge _ _ rfl h1).2 (by rw [List.length_map]; exact hn)
  rw [List.length_map] at this
  rw [hl, List.length_append] at this
  have h8 : (X691.lenU bs.length).1.length = 8 := by
    unfold X691.lenU
    have c1 : ¬ bs.length ≤ 127 := by omega
    have c2 : ¬ bs.length < 16384 := by omega
    simp [c1, c2]
  omega

end Asn1Verif.Uper
