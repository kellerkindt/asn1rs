import Asn1Verif.Front.TotalBase
/-
  Totality (see TotalBase) for `( WITH COMPONENTS { … } )`, literals and the tail of a field (`OPTIONAL` /
  `DEFAULT …`).  `valueConstraint` and `stringLoop` recurse on the token list itself (no budget).
-/
namespace Asn1Verif.Front.Syn
open Except

theorem valueConstraint_post (ts : List Token) (level : Nat) :
    Post (valueConstraint ts level) (fun r => r.length ≤ ts.length) := by
  induction ts generalizing level with
  | nil => exact .error
  | cons t r ih =>
    unfold valueConstraint
    have ih' : ∀ l, Post (valueConstraint r l) (fun x => x.length ≤ (t :: r).length) :=
      fun l => (ih l).mono fun x hx => Nat.le_succ_of_le hx
    exact .ite (.ok (Nat.le_refl _)) (.ite (ih' _) (.ite (ih' _) (ih' _)))

theorem presenceConstraint_post (ts : List Token) :
    Post (presenceConstraint ts) (fun r => r.length + 1 = ts.length) :=
  (nextOrErr_post ts).bind₂ fun _ _ h1 => .ite (.pure h1) .error

theorem innerEntries_post₂ (fuel : Nat) (ts : List Token) (h : ts.length < fuel) :
    Post₂ (innerEntries (fuel + 1) ts) (innerEntries fuel ts) (fun r => r.length ≤ ts.length) := by
  induction fuel generalizing ts with
  | zero => omega
  | succ fuel ih =>
    unfold innerEntries
    refine .ite (.ok (Nat.le_refl _)) ?_
    refine (nextTextOrErr_post ts).same.bind₂ fun _ ts1 h1 => ?_
    refine Post₂.bind (P := fun r => r.length ≤ ts1.length) (Post.same ?_) fun ts2 h2 => ?_
    · refine .ite ?_ (.pure (Nat.le_refl _))
      refine (nextSepEq_post '(' ts1).bind fun ts' h' => ?_
      refine (valueConstraint_post ts' 0).bind fun ts'' h'' => ?_
      exact (nextSepEq_post ')' ts'').mono fun r hr => by omega
    refine (peekOrErr_post ts2).same.bind fun _ _ => ?_
    refine Post₂.bind (P := fun r => r.length ≤ ts2.length) (Post.same ?_) fun ts3 h3 => ?_
    · exact .ite ((presenceConstraint_post ts2).mono fun r hr => by omega) (.pure (Nat.le_refl _))
    refine .ite ?_ (.pure (by omega))
    refine (nextSepEq_post ',' ts3).same.bind fun ts4 h4 => ?_
    exact (ih ts4 (by omega)).mono fun r hr => by omega

theorem innerTypeConstraints_post₂ (fuel : Nat) (ts : List Token) (h : ts.length ≤ fuel) :
    Post₂ (innerTypeConstraints (fuel + 1) ts) (innerTypeConstraints fuel ts)
      (fun r => r.length ≤ ts.length) := by
  unfold innerTypeConstraints
  refine (nextTextEqIC_post "WITH" ts).same.bind fun ts1 h1 => ?_
  refine (nextTextEqIC_post "COMPONENTS" ts1).same.bind fun ts2 h2 => ?_
  refine (nextSepEq_post '{' ts2).same.bind fun ts3 h3 => ?_
  refine Post₂.bind (P := fun r => r.length ≤ ts3.length) (Post.same ?_) fun ts4 h4 => ?_
  · refine .ite ?_ (.pure (Nat.le_refl _))
    refine (dots_post 3 ts3).bind fun ts' h' => .ite ?_ (.pure (by omega))
    exact (nextSepEq_post ',' ts').mono fun r hr => by omega
  refine (innerEntries_post₂ fuel ts4 (by omega)).bind fun ts5 h5 => Post.same ?_
  exact (nextSepEq_post '}' ts5).mono fun r hr => by omega

theorem maybeReadWithComponents_post₂ (fuel : Nat) (ts : List Token) (h : ts.length ≤ fuel) :
    Post₂ (maybeReadWithComponents (fuel + 1) ts) (maybeReadWithComponents fuel ts)
      (fun r => r.length ≤ ts.length) := by
  unfold maybeReadWithComponents
  refine nextIsSep_cases '(' ts (fun ts1 h1 => ?_) (.ok (Nat.le_refl _))
  refine (innerTypeConstraints_post₂ fuel ts1 (by omega)).bind fun ts2 h2 => Post.same ?_
  exact (nextSepEq_post ')' ts2).mono fun r hr => by omega

theorem stringLoop_post (delim : Char) (ts : List Token) (gap : Nat) :
    Post (stringLoop delim ts gap) (fun (_, r) => r.length < ts.length) := by
  induction ts generalizing gap with
  | nil => exact .error
  | cons t r ih =>
    unfold stringLoop
    exact .ite (.ok (Nat.lt_succ_self _))
      ((ih 1).bind₂ fun _ _ h' => .pure (Nat.lt_succ_of_lt h'))

theorem readStringLiteral_post (delim : Char) (ts : List Token) :
    Post (readStringLiteral delim ts) (fun (_, r) => r.length < ts.length) :=
  (nextSepEq_post delim ts).bind fun ts1 h1 =>
  (peekOrErr_post ts1).bind fun _ _ =>
  (stringLoop_post delim ts1 0).bind₂ fun _ ts2 h2 => .pure (by omega)

theorem readHexOrBitStringLiteral_post (ts : List Token) :
    Post (readHexOrBitStringLiteral ts) (fun (_, r) => r.length < ts.length) := by
  unfold readHexOrBitStringLiteral
  refine (readStringLiteral_post '\'' ts).bind₂ fun _ ts1 h1 => ?_
  cases ts1 with
  | nil => exact .error
  | cons t r =>
    cases t with
    | text s => exact .ite (.pure (Nat.lt_of_succ_lt h1)) .error
    | sep c => exact .error

theorem readLiteral_post (ts : List Token) :
    Post (readLiteral ts) (fun (_, r) => r.length ≤ ts.length) := by
  unfold readLiteral
  refine (peekOrErr_post ts).bind fun _ _ =>
    .ite ?_ (.ite ?_ (.ite ?_ (.ite (.pure (Nat.le_refl _)) .error)))
  -- in the three literal forms the text read is handed to `tryFromAsnStr`
  · refine (nextTextOrErr_post ts).bind fun r h1 => ?_
    split
    split
    · exact .pure (by omega)
    · exact .error
  · refine (readStringLiteral_post '"' ts).bind fun r h1 => ?_
    split
    split
    · exact .pure (by omega)
    · exact .error
  · refine (readHexOrBitStringLiteral_post ts).bind fun r h1 => ?_
    split
    split
    · exact .pure (by omega)
    · exact .error

theorem fieldTail_post (ts : List Token) :
    Post (fieldTail ts) (fun (_, r) => r.length < ts.length) := by
  unfold fieldTail
  refine (nextOrErr_post ts).bind₂ fun _ ts1 h1 => ?_
  refine Post.bind (P := fun (_, r) => r.length ≤ ts1.length) (.ite ?_ (.ite ?_ (.pure (Nat.le_refl _))))
    fun r h2 => ?_
  · exact (nextOrErr_post ts1).bind₂ fun _ ts2 h2 => .pure (by omega)
  · refine (readLiteral_post ts1).bind₂ fun l ts2 h2 => ?_
    cases l with
    | lit v => exact (nextOrErr_post ts2).bind₂ fun _ ts3 h3 => .pure (by omega)
    | unsupportedText =>
      refine (nextTextOrErr_post ts2).bind₂ fun _ ts3 h3 => ?_
      exact (nextOrErr_post ts3).bind₂ fun _ ts4 h4 => .pure (by omega)
  · split
    exact .ite (.pure (by omega)) (.ite (.pure (by omega)) .error)

end Asn1Verif.Front.Syn
