import Asn1Verif.Uper.ConformNode
import Asn1Verif.Uper.SeqLemmas
/-
  C01 — basic facts for the round trip: readers at a position of a fixed input (`liftL1`, `bitAt`),
  padding of open-type contents, UTF-8 of 7-bit text.
-/
namespace Asn1Verif.Uper
open Asn1Verif Outcome Per

/-- at position `pos` the input continues with `bits` and then `post` -/
def At (inp : Bits) (pos : Nat) (bits post : Bits) : Prop :=
  inp.drop pos = bits ++ post ∧ pos ≤ inp.length

theorem At.of_append (pre bits post : Bits) : At (pre ++ (bits ++ post)) pre.length bits post :=
  ⟨List.drop_left, by simp⟩

theorem At.bound {inp : Bits} {pos : Nat} {bits post : Bits} (h : At inp pos bits post) :
    pos + bits.length + post.length = inp.length := by
  have := congrArg List.length h.1
  simp only [List.length_drop, List.length_append] at this
  have := h.2
  omega

theorem At.left {inp : Bits} {pos : Nat} {a b post : Bits} (h : At inp pos (a ++ b) post) :
    At inp pos a (b ++ post) := ⟨by rw [h.1, List.append_assoc], h.2⟩

theorem At.right {inp : Bits} {pos : Nat} {a b post : Bits} (h : At inp pos (a ++ b) post) :
    At inp (pos + a.length) b post := by
  have hb := h.bound
  simp only [List.length_append] at hb
  refine ⟨?_, by omega⟩
  rw [← List.drop_drop, h.1, List.append_assoc, List.drop_left]

theorem At.skip {inp : Bits} {pos : Nat} {a post : Bits} (h : At inp pos a post) :
    At inp (pos + a.length) [] post := by
  have : At inp pos (a ++ []) post := by rw [List.append_nil]; exact h
  exact this.right

theorem At.assoc {inp : Bits} {pos : Nat} {a b post : Bits} (h : At inp pos a (b ++ post)) :
    At inp pos (a ++ b) post := ⟨by rw [h.1, List.append_assoc], h.2⟩

theorem At.lift {α : Type} {inp : Bits} {pos : Nat} {bs post : Bits} (h : At inp pos bs post)
    (r : Rd α) (a : α) (hr : r (bs ++ post) = ok (a, post)) :
    liftL1 r inp pos = ok (a, pos + bs.length) := by
  have hb := h.bound
  unfold liftL1
  rw [h.1, hr]
  simp only
  congr 2
  omega

theorem At.bit {inp : Bits} {pos : Nat} {bits post : Bits} (h : At inp pos bits post) (i : Nat)
    (b : Bool) (hi : bits[i]? = some b) : bitAt inp (pos + i) = ok b := by
  obtain ⟨hlt, _⟩ := List.getElem?_eq_some_iff.1 hi
  unfold bitAt
  rw [← List.getElem?_drop, h.1, List.getElem?_append_left hlt, hi]

/-- `r` reads `a` back from `bits`, wherever they stand in an input -/
def ReadsBack {α : Type} (r : RdP α) (bits : Bits) (a : α) : Prop :=
  ∀ inp pos post, At inp pos bits post → r inp pos = ok (a, pos + bits.length)

theorem ReadsBack.between {α : Type} {r : RdP α} {bits : Bits} {a : α} (h : ReadsBack r bits a)
    (pre post : Bits) : r (pre ++ bits ++ post) pre.length = ok (a, pre.length + bits.length) := by
  rw [List.append_assoc]
  exact h _ _ post (At.of_append pre bits post)

def RT (f : Val → Outcome Bits) (r : RdP Val) (p : Val → Bool) : Prop :=
  ∀ v bits, p v = true → f v = ok bits → ReadsBack r bits v

theorem Vals.beq_eq : ∀ (a b : Vals), Vals.beq a b = true → a = b := Vals.eq_of_beq

theorem bytesBits_bitsBytes : ∀ (n : Nat) (b : Bits), b.length = 8 * n → bytesBits (bitsBytes b) = b := by
  intro n
  induction n with
  | zero =>
    intro b hb
    have : b = [] := List.eq_nil_of_length_eq_zero (by omega)
    subst this; rw [bitsBytes_nil]; rfl
  | succ n ih =>
    intro b hb
    rw [bitsBytes]
    have hne : ¬ b.isEmpty = true := by
      intro he; rw [List.isEmpty_iff] at he; subst he; simp at hb
    rw [dif_neg hne]
    simp only [bytesBits]
    rw [ih (b.drop 8) (by simp only [List.length_drop]; omega)]
    have h8 : (b.take 8).length = 8 := by simp only [List.length_take]; omega
    have : (BitVec.ofNat 8 (bitsToNat (b.take 8))).toNat = bitsToNat (b.take 8) := by
      simp only [BitVec.toNat_ofNat]
      have := bitsToNat_lt (b.take 8)
      rw [h8] at this
      exact Nat.mod_eq_of_lt this
    rw [this]
    have := natBits_bitsToNat (b.take 8)
    rw [h8] at this
    rw [this, List.take_append_drop]

theorem padToBytes_bits (c : Bits) :
    bytesBits (padToBytes c) = c ++ List.replicate ((8 - c.length % 8) % 8) false :=
  bytesBits_bitsBytes ((c.length + (8 - c.length % 8) % 8) / 8) _ (by
    simp only [List.length_append, List.length_replicate]; omega)

theorem openOctets_bits (c : Bits) : ∃ pad, bytesBits (openOctets c) = c ++ pad := by
  unfold openOctets
  split
  · rename_i h
    rw [List.isEmpty_iff] at h; subst h
    exact ⟨_, rfl⟩
  · exact ⟨_, padToBytes_bits c⟩

theorem openType_lt (c o : Bits) (ho : openType c = ok o) (hl : (openOctets c).length < 16384) :
    o = (X691.lenU (openOctets c).length).1 ++ bytesBits (openOctets c) := by
  rw [wOctets_unc_ok _ _ ho]
  exact fragU_lt _ _ hl

/-- an unfragmented open type: the length determinant, then `read_whole_sub_slice` -/
theorem open_at {α : Type} (r : RdP α) (inp : Bits) (pos : Nat) (c post o : Bits) (a : α)
    (hat : At inp pos o post)
    (ho : openType c = ok o) (hl : (openOctets c).length < 16384)
    (hr : ∀ pos' post', At inp pos' c post' → ∃ q, r inp pos' = ok (a, q)) :
    ∃ n p1, liftL1 (rLen none none) inp pos = ok (n, p1) ∧
      subSlice n r inp p1 = ok (a, pos + o.length) := by
  obtain ⟨pad, hpad⟩ := openOctets_bits c
  have hn : 8 * (openOctets c).length = (c ++ pad).length := by rw [← hpad, bytesBits_length]
  rw [openType_lt c o ho hl, hpad] at hat ⊢
  have hb := hat.bound
  obtain ⟨q, hq⟩ := hr _ _ hat.right.left
  refine ⟨_, _, hat.left.lift _ (openOctets c).length (by rw [rLen_unc, lenU_snd_lt hl]; rfl), ?_⟩
  unfold subSlice
  rw [hq]
  simp only [List.length_append] at hn hb ⊢
  exact congrArg (fun p => ok (a, p)) (by omega)

theorem readOpen_at {α : Type} (r : RdP α) (inp : Bits) (pos : Nat) (c post o : Bits) (a : α)
    (hat : At inp pos o post)
    (ho : openType c = ok o) (hl : (openOctets c).length < 16384)
    (hr : ∀ pos' post', At inp pos' c post' → ∃ q, r inp pos' = ok (a, q)) :
    readOpen r inp pos = ok (a, pos + o.length) := by
  obtain ⟨n, p1, h1, h2⟩ := open_at r inp pos c post o a hat ho hl hr
  unfold readOpen
  rw [h1]
  exact h2

/-- `skip_unknown_extension_additions` on an unfragmented open type -/
theorem skipOpen_at (inp : Bits) (pos : Nat) (c post o : Bits) (hat : At inp pos o post)
    (ho : openType c = ok o) (hl : (openOctets c).length < 16384) :
    readOpen (fun _ p => ok ((), p)) inp pos = ok ((), pos + o.length) :=
  readOpen_at _ inp pos c post o () hat ho hl (fun pos' _ _ => ⟨pos', rfl⟩)

theorem map_some_cons {x : Nat} {o : Option (List Nat)} {chars : List Nat}
    (h : o.map (x :: ·) = some chars) : ∃ r, o = some r ∧ chars = x :: r := by
  cases o with
  | none => cases h
  | some r => exact ⟨r, rfl, by injection h with h; exact h.symm⟩

/-- every multi-byte form yields a character of at least 128 -/
theorem utf8_ascii (bytes : List Byte) : ∀ (chars : List Nat), utf8Decode bytes = some chars →
    (∀ c ∈ chars, c < 128) → chars.map (BitVec.ofNat 8) = bytes := by
  fun_induction utf8Decode bytes
  all_goals intro chars h hall
  case case1 => injection h with h; subst h; rfl
  case case2 b0 r x hx ih =>
    obtain ⟨r', h1, rfl⟩ := map_some_cons h
    rw [List.map_cons, ih r' h1 (fun c hc => hall c (List.mem_cons_of_mem _ hc)),
      BitVec.ofNat_toNat, BitVec.setWidth_eq]
  all_goals first
    | cases h
    | (obtain ⟨_, _, rfl⟩ := map_some_cons h
       have := hall _ List.mem_cons_self
       omega)
    -- three and four bytes: the lower bound of the second byte depends on the first
    | (rename_i lo _ hc _
       obtain ⟨_, _, rfl⟩ := map_some_cons h
       have := hall _ List.mem_cons_self
       have : lo = if _ then _ else _ := rfl
       split at this <;> omega)

end Asn1Verif.Uper
