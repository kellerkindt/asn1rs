import Asn1Verif.Props.C15
/- GENERATED by tools/vlib.py: axiom audit of every property theorem -/
#print axioms Asn1Verif.Props.C15.holds_partial
#print axioms Asn1Verif.Props.C15.holds_ext_min_negative_max
#print axioms Asn1Verif.Props.C15.holds_fails
#print axioms Asn1Verif.Props.C15.holds_fails_unconstrained
#print axioms Asn1Verif.Props.C15.holds_iff
#print axioms Asn1Verif.Props.C15.signedness_partial
#print axioms Asn1Verif.Props.C15.signedness_fails
#print axioms Asn1Verif.Props.C15.signedness_policy_fixed
#print axioms Asn1Verif.Props.C15.narrowest
#print axioms Asn1Verif.Props.C15.narrower_cannot_hold
#print axioms Asn1Verif.Props.C15.extensible_is_64bit
#print axioms Asn1Verif.Props.C15.fixed_stays_fixed
#print axioms Asn1Verif.Props.C15.extensible_holds_window_partial
#print axioms Asn1Verif.Props.C15.constants_partial
#print axioms Asn1Verif.Props.C15.constants_fails
#print axioms Asn1Verif.Props.C15.accessors_partial
#print axioms Asn1Verif.Props.C15.accessors_fails
#print axioms Asn1Verif.Props.C15.accessors_in_type
#print axioms Asn1Verif.Props.C15.declared_bounds_everywhere
