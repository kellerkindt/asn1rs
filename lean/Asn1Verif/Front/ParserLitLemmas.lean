import Asn1Verif.Front.ParserLemmas
/-
  parse ∘ print for literals (`read_literal`, `LiteralValue::try_from_asn_str`): TRUE/FALSE, integers,
  one-word strings, octet strings in hex notation.
-/
namespace Asn1Verif.Front.Syn
open Except

theorem hexDigitVal_hexChar : ∀ n, n < 16 → hexDigitVal (hexChar n) = n := by decide +kernel
theorem isHex_hexChar : ∀ n, n < 16 → isAsciiHexDigit (hexChar n) = true := by decide +kernel

theorem hexPairs_hexOfBytes (bs : List Nat) (h : bs.all (fun b => decide (b < 256)) = true) :
    hexPairs (hexOfBytes bs) = bs := by
  induction bs with
  | nil => rfl
  | cons b tl ih =>
    simp only [List.all_cons, Bool.and_eq_true, decide_eq_true_eq] at h
    simp only [hexOfBytes, hexPairs, ih h.2, hexDigitVal_hexChar (b / 16) (by omega),
      hexDigitVal_hexChar (b % 16) (by omega)]
    congr 1
    omega

theorem hexOfBytes_all_hex (bs : List Nat) (h : bs.all (fun b => decide (b < 256)) = true) :
    (hexOfBytes bs).all isAsciiHexDigit = true := by
  induction bs with
  | nil => rfl
  | cons b tl ih =>
    simp only [List.all_cons, Bool.and_eq_true, decide_eq_true_eq] at h
    simp only [hexOfBytes, List.all_cons, ih h.2, isHex_hexChar (b / 16) (by omega),
      isHex_hexChar (b % 16) (by omega), Bool.and_self]

theorem hexOfBytes_length (bs : List Nat) : (hexOfBytes bs).length = 2 * bs.length := by
  induction bs with
  | nil => rfl
  | cons b tl ih => simp only [hexOfBytes, List.length_cons, ih]; omega

theorem hexOfBytes_ne_nil (bs : List Nat) (h : bs ≠ []) : hexOfBytes bs ≠ [] := by
  cases bs with
  | nil => exact absurd rfl h
  | cons b tl => simp [hexOfBytes]

theorem eqICL_bool (c : Char) (r : List Char) (ht : c.toLower ≠ 't') (hf : c.toLower ≠ 'f') :
    eqICL (c :: r) "true" = false ∧ eqICL (c :: r) "false" = false :=
  ⟨eqICL_false_of_heads c r "true" 't' "rue".toList (by decide +kernel) ht,
    eqICL_false_of_heads c r "false" 'f' "alse".toList (by decide +kernel) hf⟩

theorem tryFromAsnStr_string (s : String) :
    tryFromAsnStr ('"' :: (s.toList ++ ['"'])) = some (.string s) := by
  obtain ⟨h1, h2⟩ := eqICL_bool '"' (s.toList ++ ['"']) (by decide) (by decide)
  simp [tryFromAsnStr, h1, h2, endsWith1]

theorem tryFromAsnStr_hex (bs : List Nat) (hb : bs.all (fun b => decide (b < 256)) = true) :
    tryFromAsnStr ('\'' :: (hexOfBytes bs ++ ['\'', 'H'])) = some (.octetString bs) := by
  obtain ⟨h1, h2⟩ := eqICL_bool '\'' (hexOfBytes bs ++ ['\'', 'H']) (by decide) (by decide)
  have h3 : looksLikeInt ('\'' :: (hexOfBytes bs ++ ['\'', 'H'])) = false := by
    simp [looksLikeInt, isAsciiDigit]
  have hlen : (hexOfBytes bs).length % 2 = 0 := by rw [hexOfBytes_length]; omega
  simp [tryFromAsnStr, h1, h2, h3, endsWith2, hexOfBytes_all_hex bs hb, hlen,
    hexPairs_hexOfBytes bs hb]

theorem tryFromAsnStr_num (s : String) (i : Int) (h1 : eqIC s "true" = false)
    (h2 : eqIC s "false" = false) (h3 : looksLikeInt s.toList = true)
    (h4 : parseI64L s.toList = some i) (h5 : s.toList.head? ≠ some '"') :
    tryFromAsnStr s.toList = some (.integer i) := by
  have h1' : eqICL s.toList "true" = false := h1
  have h2' : eqICL s.toList "false" = false := h2
  simp [tryFromAsnStr, h1', h2', h3, h4, h5]

theorem toString_int_head_ne_quote (i : Int) : (toString i).toList.head? ≠ some '"' := by
  obtain ⟨c, r, hs, hc⟩ := toString_int_head i
  rw [hs]
  simp only [List.head?_cons, ne_eq, Option.some.injEq]
  intro h
  subst h
  cases hc with
  | inl h => exact absurd h (by decide)
  | inr h => exact absurd h (by decide)

theorem tryFromAsnStr_int (i : Int) (h : inI64 i = true) :
    tryFromAsnStr (toString i).toList = some (.integer i) := by
  have h' : I64_MIN ≤ i ∧ i ≤ I64_MAX := by simpa [inI64] using h
  exact tryFromAsnStr_num (toString i) i (eqIC_int_kw i _ (by decide +kernel))
    (eqIC_int_kw i _ (by decide +kernel))
    (looksLikeInt_toString i) (parseI64_toString i h'.1 h'.2) (toString_int_head_ne_quote i)

theorem tryFromAsnStr_TRUE : tryFromAsnStr "TRUE".toList = some (.boolean true) := by
  decide +kernel
theorem tryFromAsnStr_FALSE : tryFromAsnStr "FALSE".toList = some (.boolean false) := by
  decide +kernel

theorem readLiteral_plain (s : String) (v : LiteralValue) (rest : List Token)
    (hp : (eqIC s "true" || eqIC s "false" || looksLikeInt s.toList) = true)
    (hv : tryFromAsnStr s.toList = some v) :
    readLiteral (.text s :: rest) = .ok (.lit v, rest) := by
  simp only [tok, readLiteral, hp, hv]

/-- every token is kept, separator or not, with `gap` blanks before the first and one before each of
    the others -/
theorem stringLoop_tokens (delim : Char) (ws : List Token) (hws : ∀ t ∈ ws, t.eqSep delim = false)
    (gap : Nat) (rest : List Token) :
    stringLoop delim (ws ++ .sep delim :: rest) gap =
      .ok (if ws.isEmpty then [] else List.replicate gap ' ' ++ litText ws, rest) := by
  induction ws generalizing gap with
  | nil => simp [stringLoop]
  | cons t tl ih =>
    have ht : t.eqSep delim = false := hws t (by simp)
    have htl : ∀ x ∈ tl, x.eqSep delim = false := fun x hx => hws x (by simp [hx])
    simp only [tok, stringLoop, ht, ih htl 1, List.isEmpty_cons]
    cases tl with
    | nil => simp [litText]
    | cons u tl' => simp [litText]

/-- string literals of any number of tokens (words and separator characters other than the delimiter,
    none at all for the empty literal): the tokens joined by single blanks, between the delimiters -/
theorem readStringLiteral_tokens (delim : Char) (ws : List Token)
    (hws : ∀ t ∈ ws, t.eqSep delim = false) (rest : List Token) :
    readStringLiteral delim (.sep delim :: (ws ++ .sep delim :: rest)) =
      .ok (delim :: (litText ws ++ [delim]), rest) := by
  have hp : ∃ t, peekOrErr (ws ++ .sep delim :: rest) = .ok t := by
    cases ws with
    | nil => exact ⟨_, rfl⟩
    | cons t tl => exact ⟨_, rfl⟩
  obtain ⟨t0, hp⟩ := hp
  simp only [tok, readStringLiteral, hp, stringLoop_tokens delim ws hws 0 rest]
  cases ws with
  | nil => rfl
  | cons t tl => simp

theorem printWord_noDelim (delim : Char) (cs : List Char) :
    ∀ t ∈ printWord cs, t.eqSep delim = false := by
  intro t ht
  unfold printWord at ht
  split at ht
  · simp at ht
  · simp only [List.mem_singleton] at ht; subst ht; rfl

theorem litText_printWord (cs : List Char) : litText (printWord cs) = cs := by
  unfold printWord
  split
  · rename_i h; simp only [List.isEmpty_iff] at h; subst h; rfl
  · simp [litText, Token.chars]

theorem readLiteral_quote (ts : List Token) :
    readLiteral (.sep '"' :: ts) =
      (readStringLiteral '"' (.sep '"' :: ts) >>= fun r =>
        match tryFromAsnStr r.1 with
        | some v => .ok (.lit v, r.2)
        | none => .error .invalidLiteral) := rfl

theorem readLiteral_apostrophe (ts : List Token) :
    readLiteral (.sep '\'' :: ts) =
      (readHexOrBitStringLiteral (.sep '\'' :: ts) >>= fun r =>
        match tryFromAsnStr r.1 with
        | some v => .ok (.lit v, r.2)
        | none => .error .invalidLiteral) := rfl

/-- DEFAULT and value literals -/
theorem readLiteral_print (v : LiteralValue) (hw : litWf v = true) (rest : List Token) :
    readLiteral (printLit v ++ rest) = .ok (.lit v, rest) := by
  cases v with
  | boolean b =>
    cases b with
    | true => exact readLiteral_plain "TRUE" _ rest (by decide +kernel) tryFromAsnStr_TRUE
    | false => exact readLiteral_plain "FALSE" _ rest (by decide +kernel) tryFromAsnStr_FALSE
  | integer i =>
    exact readLiteral_plain (toString i) _ rest
      (by rw [looksLikeInt_toString, Bool.or_true]) (tryFromAsnStr_int i hw)
  | string s =>
    have h := readStringLiteral_tokens '"' (printWord s.toList) (printWord_noDelim _ _) rest
    rw [litText_printWord] at h
    simp only [tok, printLit, readLiteral_quote, h, tryFromAsnStr_string s]
  | octetString bs =>
    have h := readStringLiteral_tokens '\'' (printWord (hexOfBytes bs)) (printWord_noDelim _ _)
      (.text "H" :: rest)
    rw [litText_printWord] at h
    simp only [tok, printLit, readLiteral_apostrophe, readHexOrBitStringLiteral, h, Bool.true_or,
      show "H".toList = ['H'] from rfl, tryFromAsnStr_hex bs hw]
  | enumeratedVariant t x => cases hw

end Asn1Verif.Front.Syn
