import Asn1Verif.Codegen.NamesLemmas
/-
  C09 — every accepted module yields Rust code that rustc accepts.

  What is *proved* here is the naming logic: which identifiers the generator prints for an ASN.1
  identifier (model `Codegen/Names.lean`, both mangling layers of the crate), that they always
  have the lexical shape of a Rust identifier, exactly when they are Rust keywords, and when two
  different ASN.1 names are forced onto the same Rust name.  rustc itself is not modelled: whether
  the generated file compiles is decided by `cargo check` in `tools/checks/c09.py` (exploration).

  `ident_legal` (the full statement) is FALSE for the current code: `KEYWORDS` of
  generate/rust.rs is consulted for struct fields only (the table itself is complete since the
  `fix:` commit R6: `uncoveredKeywords` evaluates to `[]`).  It is stated as a
  `def … : Prop`, refuted on concrete witnesses, and proved under explicit hypotheses as
  `ident_legal_partial`; the hypotheses are sharp (`field_keyword_iff`, `variant_keyword_iff`,
  `const_never_keyword`).
-/
namespace Asn1Verif.Props.C09
open Asn1Verif.Codegen.Names

/-- a legal, non-keyword Rust identifier: `[A-Za-z_][A-Za-z0-9_]*` (so non-empty) and not in
    `RustKeywords2021` -/
def Legal (m : Name) : Prop := RustIdentShape m = true ∧ isRustKeyword m = false

/-- FULL statement: every X.680 identifier gives legal names in all five roles. -/
def ident_legal : Prop :=
  ∀ n : Name, AsnIdent n = true →
    Legal (emitField n) ∧ Legal (emitVariant n) ∧ Legal (emitType n) ∧ Legal (emitConst n) ∧
    Legal (emitModule n)

/-! ### the full statement is false -/

/-- not a counterexample: component `match` is escaped (`pub match_: bool`) since the `fix:` commit
    that completed `KEYWORDS` (R6); before, it was printed verbatim. -/
theorem field_keyword_escaped :
    AsnIdent "match".toList = true ∧ emitField "match".toList = "match_".toList ∧
    isRustKeyword (emitField "match".toList) = false := by names_eval

/-- ENUMERATED item / CHOICE alternative `self` becomes the variant `Self` -/
theorem variant_self_is_keyword :
    AsnIdent "self".toList = true ∧ emitVariant "self".toList = "Self".toList ∧
    isRustKeyword (emitVariant "self".toList) = true := by names_eval

/-- refuted on a witness that no completion of `KEYWORDS` repairs: ENUMERATED item / CHOICE
    alternative `self` is printed as the variant `Self` (variants are never checked) -/
theorem ident_legal_false : ¬ ident_legal := fun h =>
  Bool.false_ne_true
    ((h _ variant_self_is_keyword.1).2.1.2.symm.trans variant_self_is_keyword.2.2)

/-- type assignment `Self ::= …` is printed as `pub struct Self` -/
theorem type_Self_is_keyword :
    AsnIdent "Self".toList = true ∧ isRustKeyword (emitType "Self".toList) = true := by names_eval

/-- module `Module` loses its whole name (`make_name_nice`): file `.rs`, `use super::::{…}`;
    module `Match` is imported as `use super::match::{…}` -/
theorem module_names_illegal :
    AsnIdent "Module".toList = true ∧ emitModule "Module".toList = [] ∧
    AsnIdent "Match".toList = true ∧ isRustKeyword (emitModule "Match".toList) = true := by names_eval

/-! ### lexical shape: unconditional, for every identifier the tokenizer lets through -/

theorem weak_of_asn {n : Name} (h : AsnIdent n = true) : WeakIdent n = true := by
  cases n with
  | nil => simp [AsnIdent] at h
  | cons c cs =>
    simp only [AsnIdent, Bool.and_eq_true, List.all_eq_true] at h
    simp only [WeakIdent, Bool.and_eq_true, List.all_eq_true]
    exact ⟨h.1.1, fun d hd => by rw [h.1.2 d hd, Bool.true_or]⟩

private theorem weak_cases {n : Name} (h : WeakIdent n = true) :
    ∃ c cs, n = c :: cs ∧ c.isAlpha = true ∧ ∀ d ∈ n, inc d = true := by
  cases n with
  | nil => simp [WeakIdent] at h
  | cons c cs =>
    simp only [WeakIdent, Bool.and_eq_true, List.all_eq_true] at h
    exact ⟨c, cs, rfl, h.1, List.forall_mem_cons.mpr
      ⟨by rw [inc, alnum_of_alpha _ h.1]; rfl, h.2⟩⟩

/-- Every name the generator prints for a struct field, an enum variant, a type or a constant is
    non-empty and matches `[A-Za-z_][A-Za-z0-9_]*` — for every identifier made of a letter followed
    by letters, digits, hyphens and underscores (a superset of X.680 12.2/12.3).  Induction over
    the character list (lemmas `moduleA_shape`, `variantA_go_alnum`). -/
theorem ident_shape (n : Name) (h : WeakIdent n = true) :
    RustIdentShape (emitField n) = true ∧ RustIdentShape (emitVariant n) = true ∧
    RustIdentShape (emitType n) = true ∧ RustIdentShape (emitConst n) = true := by
  obtain ⟨c, cs, rfl, hc, hall⟩ := weak_cases h
  have hv : RustIdentShape (variantA (c :: cs)) = true := by
    rw [variantA_cons_alpha cs hc]
    exact shape_cons (alpha_toUpper hc) fun d hd => idc_of_alnum
      (variantA_go_alnum cs false true (fun x hx => hall x (List.mem_cons_of_mem _ hx)) d hd)
  obtain ⟨x, r, e, hx, hr⟩ := moduleA_shape false hc hall
  obtain ⟨x1, r1, e1, hx1, hr1⟩ := moduleA_shape true hc hall
  refine ⟨?_, by rw [emitVariant_eq]; exact hv, hv, ?_⟩
  · rw [emitField_eq, fieldA, e]
    split
    · refine shape_cons hx fun d hd => (List.mem_append.mp hd).elim (hr d) fun hd => ?_
      rw [List.mem_singleton.mp hd]; rfl
    · exact shape_cons hx hr
  · rw [emitConst, constantA, e1, List.map_cons]
    refine shape_cons (alpha_toUpper hx1) fun d hd => ?_
    obtain ⟨d0, hd0, rfl⟩ := List.mem_map.mp hd
    exact idc_toUpper (hr1 d0 hd0)

/-- … and for a module name, provided `make_name_nice` leaves anything of it -/
theorem module_shape (n : Name) (h : WeakIdent n = true) (hne : makeNameNice n ≠ []) :
    RustIdentShape (emitModule n) = true := by
  obtain ⟨c, cs, rfl, hc, hall⟩ := weak_cases h
  -- what is left is a prefix, so it starts with the same letter
  have hp := makeNameNice_prefix (c :: cs)
  rcases List.prefix_cons_iff.mp hp with h0 | ⟨t, h0, _⟩
  · exact absurd h0 hne
  · rw [h0] at hp
    obtain ⟨x, r, e, hx, hr⟩ := moduleA_shape false hc fun d hd => hall d (hp.subset hd)
    rw [emitModule_eq, h0, e]
    exact shape_cons hx hr

/-! ### keywords: exactly which names are affected -/

/-- a printed field name is a Rust keyword iff the snake-cased component name is one of the
    keywords missing from the generator's `KEYWORDS` (no hypothesis on `n`) -/
theorem field_keyword_iff (n : Name) :
    isRustKeyword (emitField n) = true ↔ fieldA n ∈ uncoveredKeywords := by
  rw [emitField_eq, mem_uncoveredKeywords]
  cases keywordsB.contains (fieldA n)
  · exact ⟨fun h => ⟨h, rfl⟩, fun h => h.1⟩
  · exact ⟨fun h => (nomatch (escaped_not_keyword _).symm.trans h), fun h => nomatch h.2⟩

/-- a printed variant / type name is a keyword iff it is `Self` -/
theorem variant_keyword_iff (n : Name) (h : WeakIdent n = true) :
    isRustKeyword (emitVariant n) = true ↔ emitVariant n = "Self".toList := by
  obtain ⟨c, cs, rfl, hc, _⟩ := weak_cases h
  rw [emitVariant_eq, variantA_cons_alpha cs hc]
  exact ⟨fun hk => (rustKeyword_facts hk).2.2 (upper_toUpper_of_alpha hc),
    fun he => by rw [he]; exact variant_self_is_keyword.2.1 ▸ variant_self_is_keyword.2.2⟩

theorem emitType_eq_emitVariant (n : Name) : emitType n = emitVariant n := by
  rw [emitVariant_eq]; rfl

/-- a printed constant name is never a keyword, whatever the input: it contains no lower-case
    letter, every Rust keyword does -/
theorem const_never_keyword (n : Name) : isRustKeyword (emitConst n) = false :=
  Bool.eq_false_iff.mpr fun hk => by
    obtain ⟨d, hd, hlow⟩ := List.any_eq_true.mp (rustKeyword_facts hk).1
    obtain ⟨d0, _, rfl⟩ := List.mem_map.mp hd
    rw [not_lower_toUpper] at hlow
    cases hlow

/-- PARTIAL form of `ident_legal`: legal in every role, provided the name is not in one of the
    (exactly characterised) keyword gaps and is not eaten by `make_name_nice`.  Module names are
    never escaped by the code, hence the unrestricted keyword hypothesis for that role. -/
theorem ident_legal_partial (n : Name) (h : AsnIdent n = true)
    (hf : fieldA n ∉ uncoveredKeywords)
    (hv : emitVariant n ≠ "Self".toList)
    (hm : makeNameNice n ≠ [] ∧ isRustKeyword (emitModule n) = false) :
    Legal (emitField n) ∧ Legal (emitVariant n) ∧ Legal (emitType n) ∧ Legal (emitConst n) ∧
    Legal (emitModule n) := by
  have hw := weak_of_asn h
  obtain ⟨s1, s2, s3, s4⟩ := ident_shape n hw
  have kf : isRustKeyword (emitField n) = false :=
    Bool.eq_false_iff.mpr fun hk => hf ((field_keyword_iff n).mp hk)
  have kv : isRustKeyword (emitVariant n) = false :=
    Bool.eq_false_iff.mpr fun hk => hv ((variant_keyword_iff n hw).mp hk)
  exact ⟨⟨s1, kf⟩, ⟨s2, kv⟩, ⟨s3, by rw [emitType_eq_emitVariant]; exact kv⟩,
    ⟨s4, const_never_keyword n⟩, ⟨module_shape n hw hm.1, hm.2⟩⟩

/-! ### the two mangling layers -/

/-- The generator's own mangling (layer B) is the identity on everything `convert_asn_to_rust`
    (layer A) hands to it, except for the keyword suffix of fields — for every input. -/
theorem layerB_identity (n : Name) :
    emitVariant n = variantA n ∧ emitModule n = moduleA false (makeNameNice n) ∧
    emitField n = (if keywordsB.contains (fieldA n) then fieldA n ++ ['_'] else fieldA n) :=
  ⟨emitVariant_eq n, emitModule_eq n, emitField_eq n⟩

/-! ### collisions -/

/-- `RustCodeGenerator::rust_field_name(_, false)` identifies exactly the names that are equal up
    to exchanging `-` and `_` position by position (`foo-bar ~ foo_bar`) -/
theorem collision_char (a b : Name) : fieldB false a = fieldB false b ↔ SepEq a b :=
  replHyphen_eq_iff a b

/-- names differing only in the separator are forced onto the same Rust name in every role
    (field, variant, type, constant, helper type) — whatever else they contain -/
theorem sep_must_collide (a b : Name) (h : SepEq a b) :
    emitField a = emitField b ∧ emitVariant a = emitVariant b ∧ emitType a = emitType b ∧
    emitConst a = emitConst b ∧ emitHelper a = emitHelper b := by
  have hm0 : moduleA false a = moduleA false b := moduleA_go_sepEq false h _ _ _ _
  have hm1 : moduleA true a = moduleA true b := moduleA_go_sepEq true h _ _ _ _
  have hv : variantA a = variantA b := variantA_go_sepEq h _ _
  exact ⟨congrArg (fieldB true) hm0, congrArg variantB hv, hv,
    congrArg (List.map Char.toUpper) hm1, congrArg variantB hm0⟩

/-- … with the keyword check switched on as well -/
theorem sep_must_collide_checked (a b : Name) (h : SepEq a b) : fieldB true a = fieldB true b := by
  unfold fieldB
  rw [(replHyphen_eq_iff a b).mpr h]

/-- Exactness on the conventional spelling: two X.680 identifiers written with lower-case letters,
    digits and single hyphens (`secret-message`) get the same struct field name only if they are
    the same identifier — every field collision involves a capital letter or an underscore. -/
theorem field_collision_lower_hyphen (a b : Name) (ha : AsnIdent a = true) (hb : AsnIdent b = true)
    (la : LowerHyphen a = true) (lb : LowerHyphen b = true) :
    emitField a = emitField b ↔ a = b := by
  constructor
  · intro h
    have nu : ∀ n : Name, LowerHyphen n = true → '_' ∉ n := fun n hn hc =>
      (lowerHyphenChar_facts (List.all_eq_true.mp hn _ hc)).2 rfl
    have inj (e : replHyphen a = replHyphen b) : a = b :=
      ((replHyphen_eq_iff a b).mp e).eq_of_no_underscore (nu a la) (nu b lb)
    rw [emitField_eq, emitField_eq, fieldA_lowerHyphen a la, fieldA_lowerHyphen b lb] at h
    -- a trailing `_` can only come from a trailing separator, which an identifier does not have
    have noSnoc : ∀ (n x : Name), AsnIdent n = true → LowerHyphen n = true →
        replHyphen n ≠ x ++ ['_'] := by
      intro n x hn ln he
      obtain ⟨c, hc, hsep⟩ := replHyphen_snoc n x he
      rcases hsep with rfl | rfl
      · exact asnIdent_last n hn _ hc rfl
      · exact nu n ln (List.mem_of_getLast? hc)
    split at h <;> split at h
    · exact inj (List.append_cancel_right h)
    · exact absurd h.symm (noSnoc b _ hb lb)
    · exact absurd h (noSnoc a _ ha la)
    · exact inj h
  · intro h; rw [h]

/-! ### concrete instances (non-vacuity, and collisions that are not separator-only) -/

example : WeakIdent "foo_bar-Baz1".toList = true ∧ AsnIdent "foo-bar1".toList = true ∧
    makeNameNice "My-Module".toList ≠ [] ∧ LowerHyphen "secret-message".toList = true ∧
    AsnIdent "secret-message".toList = true := by names_eval

example : AsnIdent "foo-bar".toList = true ∧ fieldA "foo-bar".toList ∉ uncoveredKeywords ∧
    emitVariant "foo-bar".toList ≠ "Self".toList ∧ makeNameNice "foo-bar".toList ≠ [] ∧
    isRustKeyword (emitModule "foo-bar".toList) = false := by names_eval
example : emitField "foo-bar".toList = "foo_bar".toList ∧ emitVariant "foo-bar".toList = "FooBar".toList ∧
    emitConst "foo-bar".toList = "FOO_BAR".toList ∧ emitModule "Foo-Bar".toList = "foo_bar".toList := by names_eval
example : emitField "use".toList = "use_".toList ∧ emitField "match".toList = "match_".toList := by names_eval
example : SepEq "foo-bar".toList "foo_bar".toList :=
  (replHyphen_eq_iff _ _).mp (by names_eval)
/-- case conversion collides names that are not `SepEq`: `foo-bar`/`fooBar` as fields,
    `ab-c`/`abC` as variants -/
example : emitField "foo-bar".toList = emitField "fooBar".toList ∧
    emitVariant "ab-c".toList = emitVariant "abC".toList ∧
    emitConst "a1".toList = emitConst "a-1".toList := by names_eval
/-- distinct fields `x1`, `x_1` whose helper types `AsnDefTFieldX1` coincide -/
example : emitField "x1".toList ≠ emitField "x-1".toList ∧
    emitHelper "x1".toList = emitHelper "x-1".toList := by names_eval
example : emitInline "T".toList "a".toList = emitType "TA".toList := by names_eval
example : uncoveredKeywords.length + keywordsB.length = rustKeywords.length := by
  simp only [uncoveredKeywords, rustKeywords, keywordsB, contains_map_toList, List.filter_map,
    List.length_map, Function.comp_def, String.ofList_toList]
  decide +kernel

end Asn1Verif.Props.C09
